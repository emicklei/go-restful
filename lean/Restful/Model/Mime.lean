/-
mime.go (`sortedMimes`, `insertMime`, `trimOWS`), response.go:84 `Response.EntityWriter`,
entity_accessors.go:70 `accessorAt` — the code as it is after the repairs 7e00ed6, 355f38b and 8b400b4.

Qualities.  `strconv.ParseFloat` is modelled on decimal literals `D+`, `D+.`, `D*.D{1,3}` only
(`parseQ`, thousandths as `Nat`: exact, and order-isomorphic to the float64 values as long as the
integer part stays below 2^53/1000).  Everything else is "unparsable" in the model.  ParseFloat
ALSO accepts a sign (`+1`, `-0.5`), exponents (`1e-1`), more than three fraction digits, hex floats,
`inf`/`nan`, digit-separating underscores (`1_0`): the generator stays away from those (boundary of
C05, DESIGN 4.4); `.5` and `1.` are accepted by ParseFloat and are modelled.

Registry.  `entityAccessRegistry.accessors` is a Go map; the model has its key list.  A writer is
identified with its registration key (the built-in accessors and the ones the harness registers
write their key as Content-Type).  `accessorAt` falls back to the reverse lookup: among the keys
that occur in the argument, the one whose first occurrence is earliest, the longer of two that
start at the same position (`Str.firstLongest`, Model/Entity.lean — the same function the entity READ
side uses; since 8b400b4 the iteration order of the map cannot show).  The answer stays a list:
`[]` = not found, otherwise one key (`Mime.accessorAt_function`: any two elements are equal).
-/
import Restful.Go.Str
import Restful.Model.Detect
import Restful.Model.Entity
namespace Restful
namespace Mime
open Str

/-- RFC 7230 optional whitespace: space and horizontal tab -/
def isOWS (c : Char) : Bool := c == ' ' || c == '\t'

/-- mime.go:58 `trimOWS` = `strings.Trim(s, " \t")` -/
def trimOWS (s : Str) : Str := ((s.dropWhile isOWS).reverse.dropWhile isOWS).reverse

/-- mime.go:8 `type mime struct { media string; quality float64 }`, quality in thousandths -/
structure Mime where
  media : Str
  quality : Nat
  deriving DecidableEq, Repr

/-- mime.go:14 `insertMime`: before the first element of strictly smaller quality, else at the end -/
def insertMime : List Mime → Mime → List Mime
  | [], e => [e]
  | each :: l, e => if each.quality < e.quality then e :: each :: l else each :: insertMime l e

def allDigits (s : Str) : Bool := s.all Char.isDigit

/-- value of a digit string -/
def natOf (s : Str) : Nat := s.foldl (fun n c => 10 * n + (c.toNat - 48)) 0

/-- `strconv.ParseFloat(s, 64)` on the decimal literals of the header comment, in thousandths;
    `none` = `err != nil` -/
def parseQ (s : Str) : Option Nat :=
  let ip := s.takeWhile (· != '.')
  match s.dropWhile (· != '.') with
  | [] => if !ip.isEmpty && allDigits ip then some (natOf ip * 1000) else none
  | _ :: fp =>
    if allDigits ip && allDigits fp && decide (fp.length ≤ 3) && !(ip.isEmpty && fp.isEmpty)
    then some (natOf ip * 1000 + natOf fp * 10 ^ (3 - fp.length)) else none

def qKey : Str := ['q']

/-- mime.go:35-51, the loop over `typeAndQuality[1:]`: the first parameter that splits into exactly
    two pieces at `=` and whose trimmed name is `q` decides (then `break`); `none` = `valid == false` -/
def qualityOf : List Str → Option Nat
  | [] => some 1000
  | param :: rest =>
    match split '=' param with
    | [k, v] => if trimOWS k = qKey then parseQ (trimOWS v) else qualityOf rest
    | _ => qualityOf rest

/-- one element of the comma-separated list: `none` when its quality does not parse -/
def rangeOf (each : Str) : Option Mime :=
  match split ';' each with
  | [] => none -- unreachable: strings.Split never returns an empty slice
  | m :: params => (qualityOf params).map (fun q => ⟨trimOWS m, q⟩)

def insertValid (sorted : List Mime) (each : Str) : List Mime :=
  match rangeOf each with
  | some m => insertMime sorted m
  | none => sorted

/-- mime.go:28 `sortedMimes` -/
def sortedMimes (accept : Str) : List Mime := (split ',' accept).foldl insertValid []

/-- entity_accessors.go:70 `accessorAt`: the writer (key) the call returns — the exact key, else
    the key that occurs first in the value, the longest of those that start there; `[]` = `ok == false` -/
def accessorAt (reg : List Str) (mime : Str) : List Str :=
  if reg.contains mime then [mime] else reg.filter (firstLongest reg mime)

/-- response.go:92-98, the inner loop over `routeProduces` for one accepted media type -/
def walkProduces (reg : List Str) (media : Str) : List Str → List Str
  | [] => []
  | p :: ps =>
    if p = media then
      (let w := accessorAt reg media
       if w.isEmpty then walkProduces reg media ps else w)
    else walkProduces reg media ps

/-- response.go:100-104 and 122-126: the first produced type that has a writer -/
def firstProduced (reg : List Str) : List Str → List Str
  | [] => []
  | p :: ps =>
    let w := accessorAt reg p
    if w.isEmpty then firstProduced reg ps else w

/-- response.go:91-106, the loop over the sorted ranges -/
def walk (reg produces : List Str) : List Mime → List Str
  | [] => []
  | m :: ms =>
    let w := walkProduces reg m.media produces
    if !w.isEmpty then w
    else if m.media = starStar then
      (let w2 := firstProduced reg produces
       if !w2.isEmpty then w2 else walk reg produces ms)
    else walk reg produces ms

def mimeJSON : Str := "application/json".toList
def mimeXML : Str := "application/xml".toList
def mimeZIP : Str := "application/zip".toList

/-- `DefaultResponseMimeType` is one of the three values `EntityWriter` looks at -/
def defaultSet (d : Str) : Bool := d == mimeJSON || d == mimeXML || d == mimeZIP

/-- which part of `EntityWriter` produced the answer (coverage tag of the driver) -/
inductive Branch where
  | walk | acceptKey | default | produces | none
  deriving DecidableEq, Repr

/-- response.go:84 `EntityWriter`: the writer and the branch; `[]` = `(nil, false)`, i.e.
    `WriteHeaderAndEntity` answers 406 -/
def entityWriterTagged (accept : Str) (produces reg : List Str) (dflt : Str) : List Str × Branch :=
  -- a missing Accept header is read as `*/*`, as the router does (repair of F07); the raw-header
  -- lookup below still sees the header as it was sent
  let w := walk reg produces (sortedMimes (if accept.isEmpty then starStar else accept))
  if !w.isEmpty then (w, .walk) else
  let w := accessorAt reg accept
  if !w.isEmpty then (w, .acceptKey) else
  if dflt = mimeJSON then (accessorAt reg mimeJSON, .default)
  else if dflt = mimeXML then (accessorAt reg mimeXML, .default)
  else if dflt = mimeZIP then (accessorAt reg mimeZIP, .default)
  else
    let w := firstProduced reg produces
    if !w.isEmpty then (w, .produces) else ([], .none)

def entityWriter (accept : Str) (produces reg : List Str) (dflt : Str) : List Str :=
  (entityWriterTagged accept produces reg dflt).1

/-- jsr311.go:134-145 + route.go:86: the router's own Accept test for one route (an empty Accept
    header is replaced by `*/*` by the router, and by the router only) -/
def routerAdmits (accept : Str) (produces : List Str) : Bool :=
  acceptLoop produces (split ',' (if accept.isEmpty then starStar else accept))

/-- the registry the correspondence stream sets up (harness/internal/mime/real.go): the built-in JSON and
    XML accessors plus four custom registrations; the witnesses of the known findings use it -/
def harnessReg : List Str :=
  [mimeJSON, mimeXML, "application/vnd.x+json".toList, "application/vnd.y+xml".toList, "text/csv".toList,
   "application/x".toList]

/-! ### optional whitespace normal form (used by C05_ows) -/

/-- a parameter with the whitespace next to its `=` signs removed -/
def normParam (p : Str) : Str := join ['='] ((split '=' p).map trimOWS)

/-- one list element with the whitespace at its ends and next to `;` and the parameters' `=` removed -/
def normElem (e : Str) : Str :=
  match split ';' e with
  | [] => []
  | m :: ps => join [';'] (trimOWS m :: ps.map normParam)

/-- the Accept header with every space/tab next to `,`, `;`, a parameter's `=`, or at either end of
    the header removed.  (An `=` before the first `;` of an element is not a separator.) -/
def dropOWS (a : Str) : Str := join [','] ((split ',' a).map normElem)

end Mime
end Restful
