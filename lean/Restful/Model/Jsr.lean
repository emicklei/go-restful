/-
path_expression.go, jsr311.go — RouterJSR311.

The compiled template expression `^/lit/([^/]+?)/(re)/(.*)(/.*)?$` is not interpreted as a
regular expression: on templates whose regex variables are *segment-local* (cannot match a
`/`, contain no capture groups) leftmost-first matching of such an expression has the closed
form implemented by `matchExpr` below (DESIGN 4.2).  The correspondence check validates it.
-/
import Restful.Go.Sort
import Restful.Model.Detect
namespace Restful
open Str

namespace Jsr
variable (E : ReEnv)

/-- one non-empty template token as `templateToRegularExpression` reads it -/
inductive JTok where
  | lit (s : Str)             -- `regexp.QuoteMeta(each)`
  | var (name : Str)          -- `([^/]+?)`
  | re (name expr : Str)      -- `(expr)`
  | wild (name : Str)         -- `(.*)`
  deriving DecidableEq, Repr

/-- `strings.TrimSpace` restricted to the space character (generated names contain no other blank) -/
def trimSpace (s : Str) : Str := trim ' ' s

/-- path_expression.go:45-66 for one token; `none` = slice-bounds panic while building -/
def parseTok (each : Str) : Option JTok :=
  if hasPrefix ['{'] each then
    match index ':' each with
    | some colon =>
      match slice? each 1 colon, slice? each (colon + 1 : Nat) ((each.length : Int) - 1) with
      | some n, some e =>
        let e := trimSpace e
        if e = ['*'] then some (.wild (trimSpace n)) else some (.re (trimSpace n) e)
      | _, _ => none
    | none =>
      match slice? each 1 ((each.length : Int) - 1) with
      | some n => some (.var (trimSpace n))
      | none => none
  else some (.lit each)

/-- what `newPathExpression` keeps -/
structure Expr where
  toks : List JTok
  literalCount : Nat
  varNames : List Str
  varCount : Nat
  deriving DecidableEq, Repr

def parseToks : List Str → Option (List JTok)
  | [] => some []
  | t :: ts =>
    if t.isEmpty then parseToks ts
    else match parseTok t, parseToks ts with
      | some j, some js => some (j :: js)
      | _, _ => none

def varNameOf : JTok → Option Str
  | .lit _ => none
  | .var n => some n
  | .re n _ => some n
  | .wild n => some n

def litLen : JTok → Nat
  | .lit s => s.length
  | _ => 0

/-- path_expression.go:35 `templateToRegularExpression` -/
def compile (template : Str) : Option Expr :=
  (parseToks (tokenize template)).map fun ts =>
    { toks := ts, literalCount := (ts.map litLen).sum, varNames := ts.filterMap varNameOf,
      varCount := (ts.filterMap varNameOf).length }

/-- closed form of `Matcher.FindStringSubmatch(s)`: the variable captures in order and the
    final group `(/.*)?`; `none` = no match -/
def matchExpr : List JTok → Str → Option (List Str × Str)
  | [], rest =>
    if (rest.isEmpty || rest.head? == some '/') && !List.contains rest '\n' then some ([], rest) else none
  | t :: ts, rest =>
    match rest with
    | '/' :: r =>
      match t with
      | .lit l =>
        if l.isPrefixOf r then matchExpr ts (r.drop l.length) else none
      | .var _ =>
        let seg := r.takeWhile (· != '/')
        if seg.isEmpty then none
        else (matchExpr ts (r.dropWhile (· != '/'))).map (fun cf => (seg :: cf.1, cf.2))
      | .re _ e =>
        let seg := r.takeWhile (· != '/')
        if E.full e seg then (matchExpr ts (r.dropWhile (· != '/'))).map (fun cf => (seg :: cf.1, cf.2))
        else none
      | .wild _ =>
        -- greedy `(.*)` then `(/.*)?$`: takes everything, cannot cross a newline
        match ts with
        | [] => if List.contains r '\n' then none else some ([r], [])
        | _ :: _ => none      -- a wildcard that is not last: outside the closed form (never generated)
    | _ => none

structure RouteCand where
  route : Route
  matchesCount : Nat
  literalCount : Nat
  nonDefaultCount : Nat
  deriving DecidableEq, Repr

/-- jsr311.go:260 `sortableRouteCandidates.Less` composed with `sort.Reverse`:
    `Less(i, j) = orig.Less(j, i)`, as a relation between the elements at `i` (= x) and `j` (= y) -/
def routeCandLess (x y : RouteCand) : Bool :=
  -- orig.Less(j, i): ci := y, cj := x
  if y.literalCount < x.literalCount then true
  else if y.literalCount > x.literalCount then false
  else if y.matchesCount < x.matchesCount then true
  else if y.matchesCount > x.matchesCount then false
  else if y.nonDefaultCount < x.nonDefaultCount then true
  else if y.nonDefaultCount > x.nonDefaultCount then false
  else lt y.route.path x.route.path

/-- the candidate loop of jsr311.go:181 `selectRoutes`; `none` = the template does not compile -/
def routeCandidates : List Route → Str → Option (List RouteCand)
  | [], _ => some []
  | r :: rs, remainder =>
    match compile r.relPath with
    | none => none
    | some ex =>
      match matchExpr E ex.toks remainder with
      | some (caps, final) =>
        if final.isEmpty || final = ['/'] then
          (routeCandidates rs remainder).map (fun cs => ⟨r, caps.length + 1, ex.literalCount, ex.varCount⟩ :: cs)
        else routeCandidates rs remainder
      | none => routeCandidates rs remainder

def selectRoutes (routes : List Route) (remainder : Str) : Option (List Route) :=
  (routeCandidates E routes remainder).map (fun cs => (Sort.insertionSort routeCandLess cs).map (·.route))

structure DispCand where
  svc : Service
  finalMatch : Str
  matchesCount : Nat
  literalCount : Nat
  nonDefaultCount : Nat
  deriving DecidableEq, Repr

/-- jsr311.go:305 with `sort.Reverse` -/
def dispCandLess (x y : DispCand) : Bool :=
  if y.matchesCount < x.matchesCount then true
  else if y.matchesCount > x.matchesCount then false
  else if y.literalCount < x.literalCount then true
  else if y.literalCount > x.literalCount then false
  else decide (y.nonDefaultCount < x.nonDefaultCount)

def dispCandidates : List Service → Str → Option (List DispCand)
  | [], _ => some []
  | s :: ss, path =>
    match compile s.rootPath with
    | none => none
    | some ex =>
      match matchExpr E ex.toks path with
      | some (caps, final) =>
        (dispCandidates ss path).map (fun cs => ⟨s, final, caps.length + 2, ex.literalCount, ex.varCount⟩ :: cs)
      | none => dispCandidates ss path

/-- jsr311.go:213 `detectDispatcher`; outer `none` = compile failure, inner `none` = "not found" -/
def detectDispatcher (svcs : List Service) (path : Str) : Option (Option (Service × Str)) :=
  (dispCandidates E svcs path).map fun cs =>
    match Sort.insertionSort dispCandLess cs with
    | [] => none
    | c :: _ => some (c.svc, c.finalMatch)

/-- jsr311.go:58 `extractParams`: `VarNames[i-1] ↦ matches[i]` while both exist -/
def bindParams : List Str → List Str → Params → Params
  | n :: ns, m :: ms, ps => bindParams ns ms (setParam ps n m)
  | _, _, ps => ps

/-- jsr311.go:45 `ExtractParameters`; `none` = nil-slice index panic -/
def extract (s : Service) (r : Route) (urlPath : Str) : Option Params :=
  match compile s.rootPath, compile r.relPath with
  | some wex, some rex =>
    match matchExpr E wex.toks urlPath with
    | none => none                                   -- webServiceMatches[len-1] on a nil slice
    | some (wcaps, final) =>
      let ps := bindParams wex.varNames wcaps []
      match matchExpr E rex.toks final with
      | none => some ps
      | some (rcaps, _) => some (bindParams rex.varNames rcaps ps)
  | _, _ => none

end Jsr
end Restful
