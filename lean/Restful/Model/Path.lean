/-
route.go `tokenizePath`; route_builder.go `concatPath`; custom_verb.go.
(TrimRightSlashEnabled = true, the default; the other strategy is not modelled.)
-/
import Restful.Go.Str
namespace Restful
open Str

/-- route.go:164 `tokenizePath` (default strategy: `strings.Split(strings.Trim(path, "/"), "/")`) -/
def tokenize (p : Str) : List Str :=
  if p = ['/'] then [] else split '/' (trim '/' p)

/-- route_builder.go:362 `concatPath` (default strategy) -/
def concatPath (root rel : Str) : Str := trimRight '/' root ++ '/' :: trimLeft '/' rel

/-- path_processor.go:66 `untokenizePath(offset, parts)` given `parts[offset:]` -/
def untokenize (parts : List Str) : Str := join ['/'] parts

def isLetter (c : Char) : Bool := ('A' ≤ c && c ≤ 'Z') || ('a' ≤ c && c ≤ 'z')

/-- split at the last `:` → (before, after) -/
def splitLastColon (s : Str) : Option (Str × Str) :=
  let r := s.reverse
  match r.dropWhile (· != ':') with
  | [] => none
  | _ :: preRev => some (preRev.reverse, (r.takeWhile (· != ':')).reverse)

/-- the match of `customVerbReg = ":([A-Za-z]+)$"`: (text before the match, the verb) -/
def customVerbOf (s : Str) : Option (Str × Str) :=
  match splitLastColon s with
  | some (pre, verb) => if !verb.isEmpty && verb.all isLetter then some (pre, verb) else none
  | none => none

/-- custom_verb.go:12 -/
def hasCustomVerb (s : Str) : Bool := (customVerbOf s).isSome

/-- custom_verb.go:16: the path token ends in `:verb` of the route token -/
def isMatchCustomVerb (routeToken pathToken : Str) : Bool :=
  match customVerbOf routeToken with
  | some (_, verb) => hasSuffix (':' :: verb) pathToken
  | none => false

/-- custom_verb.go:27 -/
def removeCustomVerb (s : Str) : Str :=
  match customVerbOf s with
  | some (pre, _) => pre
  | none => s

end Restful
