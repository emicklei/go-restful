/-
`RouteSelector.SelectRoute` followed by `PathProcessor.ExtractParameters`, for the configured
router: curly.go:19, jsr311.go:23, container.go:279-283.
-/
import Restful.Model.Curly
import Restful.Model.Jsr
import Restful.Model.Params
namespace Restful

variable (E : ReEnv)

def ofDetect (r : Except (Nat × Option (List Str)) Route) : Except Outcome Route :=
  match r with
  | .ok r => .ok r
  | .error (c, a) => .error (.error c a)

def stageTag (routes : List Route) (req : Req) : String :=
  match detectRoute routes req with
  | .ok _ => "sel"
  | .error (404, _) => "404-conds"
  | .error (405, _) => "405"
  | .error (415, _) =>
    if ((routes.filter (passesConds · req)).filter (fun r => req.method = r.method)).filter
        (matchesContentType · req.contentType) |>.isEmpty then
      (if req.contentLength ≠ 0 then "415-ct" else "415-ct-nobody") else "415-accept-nobody"
  | .error (406, _) => "406"
  | .error _ => "?"

/-- curly.go:19 `SelectRoute` + path_processor.go -/
def routeCurly (cfg : Config) (req : Req) : Outcome × String :=
  let qs := tokenize req.path
  match Curly.detectWebService E qs cfg.services none with
  | none => (.panic "curly.score", "panic")
  | some none => (.error 404 none, "404-nosvc")
  | some (some (svc, _)) =>
    match Curly.selectRoutes E svc.built qs with
    | none => (.panic "curly.match", "panic")
    | some [] => (.error 404 none, "404-noroute")
    | some cands =>
      match detectRoute cands req with
      | .error (c, a) => (.error c a, stageTag cands req)
      | .ok r =>
        match Params.extract r req.path with
        | none => (.panic "params", "panic")
        | some ps => (.selected r.svc r.id ps, "sel")

/-- jsr311.go:23 `SelectRoute` + jsr311.go:45 `ExtractParameters` -/
def routeJsr (cfg : Config) (req : Req) : Outcome × String :=
  match Jsr.detectDispatcher E cfg.services req.path with
  | none => (.panic "jsr.compile", "panic")
  | some none => (.error 404 none, "404-nosvc")
  | some (some (svc, final)) =>
    match Jsr.selectRoutes E svc.built final with
    | none => (.panic "jsr.compile", "panic")
    | some [] => (.error 404 none, "404-noroute")
    | some cands =>
      match detectRoute cands req with
      | .error (c, a) => (.error c a, stageTag cands req)
      | .ok r =>
        match Jsr.extract E svc r req.path with
        | none => (.panic "params", "panic")
        | some ps => (.selected r.svc r.id ps, "sel")

def routeTagged (cfg : Config) (req : Req) : Outcome × String :=
  match cfg.router with
  | .curly => routeCurly E cfg req
  | .jsr => routeJsr E cfg req

def route (cfg : Config) (req : Req) : Outcome := (routeTagged E cfg req).1

end Restful
