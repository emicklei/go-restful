/-
The bookkeeping of `restful.Response` (response.go, entity_accessors.go) over an arbitrary
underlying `http.ResponseWriter`.

What is modelled: the fields `statusCode`, `contentLength`, `err`, `prettyPrint`, `requestAccept`
(reduced to which entity accessor `EntityWriter()` finds) and, for every non-deprecated writing
call, the exact sequence of `Response.WriteHeader` / `Response.Write` calls the Go code performs.

What is data (supplied by the harness, universally quantified in the theorems):
* the underlying writer: `Env`, the result `(accepted, err)` of its i-th `Write` call; `err` is the
  error VALUE it returned (a tag: 0 = nil, anything else identifies the value).  Nothing is assumed
  about it (not even `accepted ≤ offered`, nor that different calls return different errors);
* marshalling (`encoding/json`, `encoding/xml`): a value is described by what the standard
  marshallers do with it (`Marshalled`): the size of the `MarshalIndent` output or its failure, the
  sizes of the `Write` calls a `json.Encoder` / `xml.Encoder` issues when no write fails,
  whether the encoder reports a marshalling error of its own after those writes, and — for a value
  that does — after which of those writes, when it is the one that fails, `xml.Encoder.Encode` still
  runs into its own error and returns THAT instead of the writer's (`encXmlMasked`).
-/
namespace Restful
namespace Resp

/-- what the underlying writer returned for one `Write` call: `(n, err)`; `err = 0` is `nil`, any
    other number is the identity of the error value -/
structure WRes where
  accepted : Nat
  err : Nat
  deriving DecidableEq, Repr, Inhabited

/-- `err != nil` -/
def WRes.failed (r : WRes) : Bool := r.err != 0

/-- the underlying writer during one run: the result of its i-th `Write` call (0-based) -/
abbrev Env := Nat → WRes

/-- an environment given by a list of results; `dflt` for every later call -/
def Env.ofList (l : List WRes) (dflt : WRes := ⟨0, 0⟩) : Env := fun i => l.getD i dflt

/-- a call received by the underlying writer -/
inductive UEvent where
  | header (status : Nat)
  | write (offered accepted : Nat) (err : Nat)      -- `err`: the tag of the error returned, 0 = nil
  deriving DecidableEq, Repr

/-- the `error` a call on the Response returns -/
inductive Ret where
  | nil
  /-- the very value the underlying writer's `Write` returned (its tag, never 0) -/
  | writer (tag : Nat)
  /-- an error made elsewhere: a marshaller's own -/
  | other
  deriving DecidableEq, Repr

/-- `err != nil` -/
def Ret.isErr : Ret → Bool
  | .nil => false
  | _ => true

/-- which accessor `Response.EntityWriter()` (response.go:84) finds for the current
    `requestAccept` / `routeProduces`; choosing it is C05's subject, here it is a setting -/
inductive Accessor where
  | none | json | xml
  deriving DecidableEq, Repr

inductive Fmt where
  | json | xml
  deriving DecidableEq, Repr

/-- what the standard marshallers do with one value -/
structure Marshalled where
  /-- `v == nil` (the untyped nil interface) -/
  isNil : Bool := false
  /-- `len(json.MarshalIndent(v, "", " "))`, `none` when it returns an error -/
  prettyJson : Option Nat := none
  /-- `len(xml.MarshalIndent(v, " ", " "))`, `none` when it returns an error -/
  prettyXml : Option Nat := none
  /-- sizes of the `Write` calls of `json.NewEncoder(w).Encode(v)` on a writer that never fails -/
  encJson : List Nat := []
  /-- that `Encode` returns an error of its own (after those writes) -/
  encJsonFails : Bool := false
  encXml : List Nat := []
  encXmlFails : Bool := false
  /-- only meaningful with `encXmlFails`: entry i says that when the i-th of those writes fails,
      `Encode` goes on to its own marshalling error and returns it instead of the writer's (the write
      was a flush of the 4096-byte `bufio.Writer` triggered between two of the encoder's checks of the
      sticky write error).  `[]` = never. -/
  encXmlMasked : List Bool := []
  deriving DecidableEq, Repr

/-- `len(xml.Header)` (encoding/xml: `<?xml version="1.0" encoding="UTF-8"?>` + newline) -/
def xmlHeaderLen : Nat := 39

/-- the non-deprecated calls that write, plus the two setters that decide how they write -/
inductive Call where
  /-- response.go:66 `PrettyPrint(b)` -/
  | prettyPrint (b : Bool)
  /-- response.go:77 `SetRequestAccepts(mime)`, reduced to the accessor it leads to -/
  | setAccept (a : Accessor)
  /-- response.go:71 `AddHeader(name, value)` / `Header().Set|Add|Del(name, …)`: a change of the header map
      the Response shares with the underlying writer (any name, `Content-Length` included, any value).
      Neither the status nor the length bookkeeping reads that map, so the call carries no data. -/
  | setHeader
  /-- response.go:227 -/
  | writeHeader (status : Nat)
  /-- response.go:243 `Write(bytes)`, `n = len(bytes)` -/
  | write (n : Nat)
  /-- response.go:204 `WriteErrorString(status, reason)`, `n = len(reason)` -/
  | writeErrorString (status n : Nat)
  /-- response.go:187 `WriteError(status, err)`, `n = len(err.Error())` (0 when `err == nil`) -/
  | writeError (status : Nat) (errIsNil : Bool) (n : Nat)
  /-- response.go:198 -/
  | writeServiceError (status : Nat) (v : Marshalled)
  /-- response.go:146 -/
  | writeHeaderAndEntity (status : Nat) (v : Marshalled)
  /-- response.go:135 -/
  | writeEntity (v : Marshalled)
  /-- response.go:169 -/
  | writeAsJson (v : Marshalled)
  /-- response.go:157 -/
  | writeAsXml (v : Marshalled)
  /-- response.go:175 (the content type only goes into a header) -/
  | writeJson (v : Marshalled)
  /-- response.go:181 -/
  | writeHeaderAndJson (status : Nat) (v : Marshalled)
  /-- response.go:163 -/
  | writeHeaderAndXml (status : Nat) (v : Marshalled)
  deriving DecidableEq, Repr

/-- the two methods of `Response` that reach the underlying writer -/
inductive Prim where
  | hdr (status : Nat)
  | wr (n : Nat)
  deriving DecidableEq, Repr

/-- the part of the state that decides *which* calls are made; independent of the writer -/
structure Settings where
  prettyPrint : Bool := true
  accept : Accessor := .none
  deriving DecidableEq, Repr

/-- response.go:22 -/
structure State where
  statusCode : Nat
  contentLength : Nat
  err : Bool
  set : Settings
  /-- number of `Write` calls the underlying writer has received -/
  writes : Nat
  deriving DecidableEq, Repr

/-- response.go:34 `NewResponse`: `statusCode: http.StatusOK`, `prettyPrint: PrettyPrintResponses` -/
def State.init (s : Settings := {}) : State :=
  { statusCode := 200, contentLength := 0, err := false, set := s, writes := 0 }

/-- response.go:233 `StatusCode()` -/
def State.StatusCode (st : State) : Nat := if st.statusCode = 0 then 200 else st.statusCode

/-- response.go:252 `ContentLength()` -/
def State.ContentLength (st : State) : Nat := st.contentLength

/-- One call of `Response.WriteHeader` (response.go:227) or `Response.Write` (response.go:243):
    new state, what the underlying writer saw, the error that came back (response.go:246 hands the
    writer's `err` on unchanged; 0 = nil). -/
def stepPrim (env : Env) (st : State) : Prim → State × UEvent × Nat
  | .hdr s => ({ st with statusCode := s }, .header s, 0)
  | .wr n =>
    let r := env st.writes
    ({ st with contentLength := st.contentLength + r.accepted, writes := st.writes + 1 },
      .write n r.accepted r.err, r.err)

/-- A straight-line sequence of `WriteHeader`/`Write` calls that returns at the first `Write`
    error — the shape of every writing function of response.go and entity_accessors.go (and of the
    encoders: `json.Encoder` writes once, `xml.Encoder` writes through a `bufio.Writer` whose error
    is sticky).  Returns the error of the failing `Write` (0 = none failed). -/
def runPrims (env : Env) : State → List Prim → State × List UEvent × Nat
  | st, [] => (st, [], 0)
  | st, p :: ps =>
    match stepPrim env st p with
    | (st1, e, t + 1) => (st1, [e], t + 1)
    | (st1, e, 0) =>
      match runPrims env st1 ps with
      | (st2, es, f) => (st2, e :: es, f)

/-- the calls one high-level call makes when no `Write` fails, and whether it returns an error
    of its own (a marshalling error) -/
structure Plan where
  prims : List Prim
  ownErr : Bool
  /-- with `ownErr`: aligned with the `Write`s among `prims`; entry i = when that write fails the
      call returns its own error, not the writer's (see `Marshalled.encXmlMasked`) -/
  masked : List Bool := []
  deriving DecidableEq, Repr

/-- the error a call returns, given how many `Write`s it made and the error of the last one
    (0 = none failed).  entity_accessors.go:126-131, 173 and response.go:211 `return err`;
    `json.Encoder.Encode` returns the `Write` error as it is, `xml.Encoder.Encode` the sticky error of
    its `bufio.Writer` — unless it ran into an error of its own after the failing flush. -/
def Plan.ret (p : Plan) (made werr : Nat) : Ret :=
  if werr = 0 then (if p.ownErr then .other else .nil)
  else if p.ownErr && p.masked.getD (made - 1) false then .other
  else .writer werr

/-- entity_accessors.go:158 `writeJSON`, :112 `writeXML` -/
def entityPlan (pretty : Bool) (f : Fmt) (status : Nat) (v : Marshalled) : Plan :=
  if v.isNil then ⟨[.hdr status], false, []⟩               -- :159/:113 `if v == nil { WriteHeader; return nil }`
  else match f, pretty with
    | .json, true =>
      match v.prettyJson with
      | none => ⟨[], true, []⟩                               -- :167 error before anything is written
      | some n => ⟨[.hdr status, .wr n], false, []⟩          -- :171-173
    | .xml, true =>
      match v.prettyXml with
      | none => ⟨[], true, []⟩                               -- :121
      | some n => ⟨[.hdr status, .wr xmlHeaderLen, .wr n], false, []⟩   -- :125-131
    | .json, false => ⟨.hdr status :: v.encJson.map .wr, v.encJsonFails, []⟩   -- :177-178
    | .xml, false => ⟨.hdr status :: v.encXml.map .wr, v.encXmlFails, v.encXmlMasked⟩      -- :135-136

/-- response.go:146 `WriteHeaderAndEntity` -/
def headerAndEntityPlan (s : Settings) (status : Nat) (v : Marshalled) : Plan :=
  match s.accept with
  | .none => ⟨[.hdr 406], false, []⟩                         -- :148-151 no writer: 406, returns nil
  | .json => entityPlan s.prettyPrint .json status v     -- entityJSONAccess.Write
  | .xml => entityPlan s.prettyPrint .xml status v       -- entityXMLAccess.Write

def Call.plan (s : Settings) : Call → Plan
  | .prettyPrint _ => ⟨[], false, []⟩
  | .setAccept _ => ⟨[], false, []⟩
  | .setHeader => ⟨[], false, []⟩
  | .writeHeader st => ⟨[.hdr st], false, []⟩
  | .write n => ⟨[.wr n], false, []⟩
  | .writeErrorString st n => ⟨[.hdr st, .wr n], false, []⟩  -- response.go:209-210
  | .writeError st _ n => ⟨[.hdr st, .wr n], false, []⟩      -- :190/:192 → WriteErrorString
  | .writeServiceError st v => headerAndEntityPlan s st v
  | .writeHeaderAndEntity st v => headerAndEntityPlan s st v
  | .writeEntity v => headerAndEntityPlan s 200 v
  | .writeAsJson v => entityPlan s.prettyPrint .json 200 v
  | .writeAsXml v => entityPlan s.prettyPrint .xml 200 v
  | .writeJson v => entityPlan s.prettyPrint .json 200 v
  | .writeHeaderAndJson st v => entityPlan s.prettyPrint .json st v
  | .writeHeaderAndXml st v => entityPlan s.prettyPrint .xml st v

def Call.next (s : Settings) : Call → Settings
  | .prettyPrint b => { s with prettyPrint := b }
  | .setAccept a => { s with accept := a }
  | _ => s

/-- the `err` field after the call (`Error() != nil`) -/
def Call.errAfter (err : Bool) : Call → Bool
  | .writeErrorString _ _ => true                        -- :205-208 set if nil: non-nil afterwards
  | .writeError _ errIsNil _ =>                          -- :188 `r.err = err`, then WriteErrorString
    let e := !errIsNil
    if e then e else true
  | .writeServiceError _ _ => true                       -- :199 a ServiceError value is never nil
  | _ => err

/-- one high-level call: new state, what the underlying writer saw, the error it returned -/
def exec (env : Env) (st : State) (c : Call) : State × List UEvent × Ret :=
  let p := c.plan st.set
  let r := runPrims env { st with err := c.errAfter st.err, set := c.next st.set } p.prims
  (r.1, r.2.1, p.ret (r.1.writes - st.writes) r.2.2)

/-- what is observable after one call -/
structure CallResult where
  events : List UEvent
  /-- `StatusCode()` -/
  status : Nat
  /-- `ContentLength()` -/
  length : Nat
  /-- the error the call returned -/
  ret : Ret
  /-- `Error() != nil` -/
  errSet : Bool
  /-- number of underlying `Write` calls before this call -/
  firstWrite : Nat
  /-- the value handed to the call does not marshal: the marshaller reports an error of its own
      (a fact about the call, not about the writer) -/
  ownErr : Bool
  deriving DecidableEq, Repr

/-- the call returned a non-nil error -/
def CallResult.retErr (r : CallResult) : Bool := r.ret.isErr

def run (env : Env) : State → List Call → List CallResult
  | _, [] => []
  | st, c :: cs =>
    match exec env st c with
    | (st1, evs, e) => ⟨evs, st1.StatusCode, st1.ContentLength, e, st1.err, st.writes, (c.plan st.set).ownErr⟩ :: run env st1 cs

def finalState (env : Env) : State → List Call → State
  | st, [] => st
  | st, c :: cs => finalState env (exec env st c).1 cs

/-- everything the underlying writer received during the sequence -/
def eventsOf (env : Env) : State → List Call → List UEvent
  | _, [] => []
  | st, c :: cs =>
    match exec env st c with
    | (st1, evs, _) => evs ++ eventsOf env st1 cs

/-- the `WriteHeader`/`Write` calls a sequence makes when no `Write` fails -/
def plannedPrims : Settings → List Call → List Prim
  | _, [] => []
  | s, c :: cs => (c.plan s).prims ++ plannedPrims (c.next s) cs

/-- coverage tag of one call: which branch of the Go code it took -/
def Call.tag (s : Settings) : Call → String
  | .prettyPrint _ => "pp"
  | .setAccept _ => "acc"
  | .setHeader => "hd"
  | .writeHeader _ => "wh"
  | .write _ => "w"
  | .writeErrorString _ _ => "wes"
  | .writeError _ _ _ => "we"
  | c =>
    let p := c.plan s
    match p.prims, p.ownErr with
    | [], _ => "ent-marshal-fail"
    | [.hdr 406], false => if s.accept = .none then "ent-406" else "ent-nil"
    | [_], false => "ent-nil"
    | ps, true => if ps.length > 1 then "ent-enc-partial-fail" else "ent-enc-fail"
    | ps, false => if s.prettyPrint then (if ps.length = 3 then "ent-pretty-xml" else "ent-pretty-json")
                   else s!"ent-enc-{ps.length - 1}"

end Resp
end Restful
