/-
C16 — the model of `Request.ReadEntity` (request.go:77-119) and of what it calls:
`entityReaderWriters.accessorAt` (entity_accessors.go:69-84), the two built-in readers
(entity_accessors.go:102-104, 146-150), the two compressor providers as far as gzip READERS are
concerned (compressor_pools.go:44-50, 70-83; compressor_cache.go:25-42, 66-87).

What the model carries is the glue:
  * which decoder is installed for which `Content-Encoding` VALUE (exact string comparison),
  * which reader is selected for which `Content-Type` SPELLING (exact key; else, among the
    registered keys that occur in the value, the one whose first occurrence is earliest, the longer
    of two that start at the same position — `Str.firstLongest`, repair 8b400b4 of the former
    finding F62: a function of the value, whatever the iteration order of the Go map), the default
    fallback, the 400 when there is none,
  * `UseNumber` as a flag of the JSON reader,
  * the pooled `*gzip.Reader` as an OBJECT WITH STATE (`residue`) taken from / returned to a pool,
    `Reset` onto the new body with its error dropped, the deferred release on every path,
  * the drain (request.go:111-117, repair 75d0593 of the former finding F61): after a SUCCESSFUL
    entity read of a gzip- or deflate-declared body the rest of the decompressing stream is read to
    its end and the error it ends with is returned; an undeclared (identity) body is not drained;
    when the entity reader fails its error is returned and nothing is drained; the pooled reader is
    released after the drain, in the state the drain left it in.

What the model does NOT carry is the codecs: `encoding/json`, `encoding/xml`, `compress/gzip`,
`compress/zlib` are the operations of an abstract `Codec`; what the theorems need to know about
them is the structure of hypotheses `CodecLaws` (no axiom: theorems take it as an argument; a toy
instance in Lemmas/EntityToy.lean shows it is satisfiable; the harness validates every law on every
value and body it uses).

A reader (decompressor or plain body) is seen by the entity decoder as a `Stream`: the bytes it
delivers before its terminal condition, and whether that condition is a clean EOF or an error.
This is needed to model the code as it is: `json.Decoder.Decode` / `xml.Decoder.Decode` stop at
the end of the first complete document and never look at what the stream does afterwards; it is
`ReadEntity` itself that reads a compressed stream on to its terminal condition (`Stream.clean`),
which both decompressors keep and return again on every later `Read`.
-/
import Restful.Go.Str
namespace Restful

namespace Str

/-- entity_accessors.go:73-91, the reverse lookup of `accessorAt` (shared by the entity READ side,
    `Entity.accessorAt`, and the WRITE side, `Mime.accessorAt`): `k` is the key the loop over the
    registered `keys` ends with on the value `v` —
      * `k` occurs in `v`, its first occurrence being at `i = strings.Index(v, k)`, and
      * no key occurs earlier (`strings.Index(v, k') < i`), and
      * no key whose first occurrence is at `i` as well is longer than `k`.
    Two distinct keys never tie (equal position and equal length = equal strings,
    `Entity.firstLongest_unique`), so on a Go map — distinct keys — at most one key qualifies, in
    whatever order the map is iterated; one does as soon as any key occurs
    (`Entity.firstLongest_exists`). -/
def firstLongest (keys : List Str) (v k : Str) : Bool :=
  match indexSub k v with
  | none => false
  | some i => keys.all fun k' =>
    match indexSub k' v with
    | none => true
    | some j => decide (i < j) || (i == j && decide (k'.length ≤ k.length))

end Str

namespace Entity
open Str

abbrev Bytes := Str

/-- what a reader delivers: `data`, then a clean EOF (`clean = true`) or an error -/
structure Stream where
  data : Bytes
  clean : Bool
  deriving DecidableEq, Repr

/-- a `*gzip.Reader` object: its identity, the source installed by the last `Reset`/`NewReader`,
    and whatever its previous use left behind (decompressor window, err, digest, multistream …) -/
structure GzReader where
  id : Nat
  src : Bytes
  residue : Bytes
  deriving DecidableEq, Repr

/-- the standard-library operations, abstract -/
structure Codec (Value : Type) where
  /-- `writeJSON` with `prettyPrint` on/off: `json.MarshalIndent(v, "", " ")` / `NewEncoder(resp).Encode(v)` -/
  encJson : Bool → Value → Bytes
  /-- `writeXML`: `xml.Header ++ xml.MarshalIndent(v, " ", " ")` / `xml.NewEncoder(resp).Encode(v)` -/
  encXml : Bool → Value → Bytes
  /-- `d := json.NewDecoder(stream); if useNumber { d.UseNumber() }; d.Decode(target)`; `none` = error -/
  decJson : Bool → Stream → Option Value
  /-- `xml.NewDecoder(stream).Decode(target)`; `none` = error -/
  decXml : Stream → Option Value
  /-- a client's `gzip.Writer` / `zlib.Writer` over the bytes, closed -/
  gz : Bytes → Bytes
  zl : Bytes → Bytes
  /-- a FRESH `gzip.Reader` on these bytes; a header error is the stream `⟨[], false⟩` -/
  ungz : Bytes → Stream
  /-- `zlib.NewReader(bytes)`; `none` = it returns an error (request.go:90-93) -/
  unzl : Bytes → Option Stream
  /-- what reading a reader OBJECT delivers, as a function of its whole state -/
  gzRead : GzReader → Stream
  /-- the state a reader object is left in after having been read by an entity decoder (which
      stops after the first complete document, or at the error it runs into) -/
  gzLeft : GzReader → Bytes
  /-- the state a reader object — as the entity decoder left it — is in after
      `io.Copy(ioutil.Discard, ·)` has read it on to the end of its stream (request.go:114): the
      terminal condition (EOF, checksum / trailer / next-member error) reached and kept -/
  gzEnd : GzReader → Bytes

/-- "none = error" views of the two decompressors (whole body, clean end) -/
def Codec.ungzAll {Value : Type} (C : Codec Value) (b : Bytes) : Option Bytes :=
  if (C.ungz b).clean then some (C.ungz b).data else none
def Codec.unzlAll {Value : Type} (C : Codec Value) (b : Bytes) : Option Bytes :=
  match C.unzl b with
  | some s => if s.clean then some s.data else none
  | none => none

/-- the hypotheses about the standard library under which C16 is proved -/
structure CodecLaws (Value : Type) extends Codec Value where
  /-- encoding/json with UseNumber: what either writer mode produced decodes to the value -/
  json_round : ∀ (p : Bool) (v : Value), decJson true ⟨encJson p v, true⟩ = some v
  /-- encoding/xml likewise -/
  xml_round : ∀ (p : Bool) (v : Value), decXml ⟨encXml p v, true⟩ = some v
  /-- compress/gzip: a closed gzip stream decodes to its payload and ends cleanly -/
  gz_round : ∀ b : Bytes, ungz (gz b) = ⟨b, true⟩
  /-- compress/zlib likewise -/
  zl_round : ∀ b : Bytes, unzl (zl b) = some ⟨b, true⟩
  /-- `(*gzip.Reader).Reset(src)`: afterwards the reader behaves like a fresh reader on `src`,
      whatever it was used for before (also when `Reset` itself reports an error) -/
  reset_law : ∀ (r : GzReader) (body : Bytes), gzRead { r with src := body } = ungz body
  /- (Until 75d0593 two more laws were needed — `json_dirty`, `xml_dirty`: a decoder that finds no
     document before a clean EOF finds none in the same bytes before an error.  Since `ReadEntity`
     reads a compressed stream to its end itself, no theorem depends on what a decoder does with
     a stream that ends in an error.) -/

/-! ### configuration -/

/-- the two built-in `EntityReaderWriter`s -/
inductive Kind where
  | json | xml
  deriving DecidableEq, Repr

structure Cfg where
  /-- `entityAccessRegistry.accessors` (a Go map: keys distinct, order meaningless) -/
  registry : List (Str × Kind)
  /-- `defaultRequestContentType` (request.go:14, 38-40); empty = unset -/
  dflt : Str := []
  /-- whether `entityJSONAccess.Read` calls `decoder.UseNumber()` (entity_accessors.go:148: it does) -/
  useNumber : Bool := true
  deriving DecidableEq, Repr

def MIME_JSON : Str := "application/json".toList
def MIME_XML : Str := "application/xml".toList
def ENCODING_GZIP : Str := "gzip".toList
def ENCODING_DEFLATE : Str := "deflate".toList

/-- entity_accessors.go:44-47 `init` -/
def builtinRegistry : List (Str × Kind) := [(MIME_JSON, .json), (MIME_XML, .xml)]

/-- the package as it is after `init` -/
def Cfg.asIs (dflt : Str := []) : Cfg := { registry := builtinRegistry, dflt := dflt, useNumber := true }

/-- a registry is a map from bare media types: distinct, non-empty keys without `;` or blank -/
def Cfg.wf (cfg : Cfg) : Bool :=
  decide (cfg.registry.map (·.1)).Nodup &&
    cfg.registry.all (fun e => !e.1.isEmpty && e.1.all (fun c => c != ';' && c != ' '))

/-! ### accessor selection -/

/-- keep one copy of every reader kind (first occurrences) -/
def dedup : List Kind → List Kind
  | [] => []
  | k :: ks => k :: (dedup ks).filter (· != k)

/-- entity_accessors.go:69-93 `accessorAt`: exact key; else the reader of the registered key that
    occurs first in the value, the longest of those that start there (`Str.firstLongest`).  The
    answer stays a list: `[]` is `ok == false`, and on a registry that is a map (distinct keys) it
    never has more than one element (`Entity.accessorAt_length_le_one`). -/
def accessorAt (reg : List (Str × Kind)) (mime : Str) : List Kind :=
  match reg.find? (fun e => e.1 == mime) with
  | some e => [e.2]
  | none => dedup ((reg.filter (fun e => firstLongest (reg.map (·.1)) mime e.1)).map (·.2))

/-- the lookup as it was BEFORE 8b400b4 (`for k, v := range accessors { if strings.Contains(mime,
    k) { return v } }`): every reader the iteration order of the map could produce.  Only the
    former class `f62` below is defined with it. -/
def accessorAtAnyOrder (reg : List (Str × Kind)) (mime : Str) : List Kind :=
  match reg.find? (fun e => e.1 == mime) with
  | some e => [e.2]
  | none => dedup ((reg.filter (fun e => containsSub e.1 mime)).map (·.2))

/-- request.go:99-107: the lookup with the default fallback; `[]` is the 400 -/
def accessorsFor (cfg : Cfg) (ct : Str) : List Kind :=
  match accessorAt cfg.registry ct with
  | [] => if cfg.dflt.isEmpty then [] else accessorAt cfg.registry cfg.dflt
  | ks => ks

/-- FORMER class F62 "ambiguous Content-Type" (repaired by 8b400b4; a coverage class, no theorem
    assumes anything about it any more): two registered keys with different readers are substrings
    of the Content-Type value (of the default, when the lookup falls back to it) and none is equal
    to it — before the repair the iteration order of the Go map chose between them. -/
def f62 (cfg : Cfg) (ct : Str) : Bool :=
  decide ((match accessorAtAnyOrder cfg.registry ct with
           | [] => if cfg.dflt.isEmpty then [] else accessorAtAnyOrder cfg.registry cfg.dflt
           | ks => ks).length > 1)

/-- which branch of the lookup answered (coverage tag of the driver) -/
def lookupTag (cfg : Cfg) (ct : Str) : String :=
  let viaDefault := (accessorAt cfg.registry ct).isEmpty
  let key := if viaDefault then cfg.dflt else ct
  if (accessorsFor cfg ct).isEmpty then "none"
  else
    (if viaDefault then "default-" else "") ++
    (if (cfg.registry.find? (fun e => e.1 == key)).isSome then "exact"
     else if f62 cfg ct then "first-of-several" else "substring")

/-! ### results -/

inductive ErrKind where
  | badEncoding    -- `zlib.NewReader` failed, or the entity decoder — or the drain after it — hit the error a decompressor ended with
  | badSyntax      -- the entity decoder rejected bytes that ended with a clean EOF
  | noReader400    -- request.go:105 `NewError(400, "Unable to unmarshal content of type:…")`
  deriving DecidableEq, Repr

/-- what `ReadEntity` returns.  There is no panic constructor: see `C16_error_no_panic`. -/
inductive Result (Value : Type) where
  | ok (v : Value)
  | err (k : ErrKind)
  deriving DecidableEq, Repr

def Result.isErr {Value : Type} : Result Value → Bool
  | .ok _ => false
  | .err _ => true

/-- `entityReader.Read(r, entityPointer)` for one reader kind on the installed stream -/
def entityRead {Value : Type} (C : Codec Value) (cfg : Cfg) (k : Kind) (s : Stream) : Result Value :=
  match (match k with
         | .json => C.decJson cfg.useNumber s     -- entity_accessors.go:146-150
         | .xml => C.decXml s) with               -- entity_accessors.go:102-104
  | some v => .ok v
  | none => .err (if s.clean then .badSyntax else .badEncoding)

/-- request.go:99-110: the result of the lookup and the read (a list that follows `accessorsFor`:
    one element on every registry with distinct keys) -/
def lookupAndRead {Value : Type} (C : Codec Value) (cfg : Cfg) (ct : Str) (s : Stream) : List (Result Value) :=
  match accessorsFor cfg ct with
  | [] => [.err .noReader400]
  | ks => ks.map (fun k => entityRead C cfg k s)

/-! ### compressor providers (gzip readers only) -/

inductive Provider where
  | syncPool                 -- `NewSyncPoolCompessors()`
  | bounded (cap : Nat)      -- `NewBoundedCachedCompressors(_, cap)`
  deriving DecidableEq, Repr

structure Pool where
  provider : Provider
  /-- bounded: the content of the channel, head = next to be received; sync.Pool: the objects put back -/
  idle : List GzReader
  /-- identity of the next object `newGzipReader` creates -/
  nextId : Nat
  deriving DecidableEq, Repr

/-- compressor_pools.go:70-83 `newGzipReader`: a reader on an empty gzip stream -/
def newGzipReader {Value : Type} (C : Codec Value) (id : Nat) : GzReader := { id := id, src := C.gz [], residue := [] }

def freshReaders {Value : Type} (C : Codec Value) : Nat → Nat → List GzReader
  | 0, _ => []
  | n + 1, id => newGzipReader C id :: freshReaders C n (id + 1)

/-- a provider right after its constructor -/
def Pool.fresh {Value : Type} (C : Codec Value) : Provider → Pool
  | .syncPool => { provider := .syncPool, idle := [], nextId := 0 }
  | .bounded cap => { provider := .bounded cap, idle := freshReaders C cap 0, nextId := cap }   -- compressor_cache.go:37-39

/-- `AcquireGzipReader`: compressor_cache.go:68-77 (`select { case r = <-ch: default: new }`),
    compressor_pools.go:44-46 (`Pool.Get`, `New` when empty; modelled without GC drops, see
    `C16_pool_irrelevant` for why that does not matter) -/
def Pool.acquire {Value : Type} (C : Codec Value) (p : Pool) : GzReader × Pool :=
  match p.idle with
  | r :: rest => (r, { p with idle := rest })
  | [] => (newGzipReader C p.nextId, { p with nextId := p.nextId + 1 })

/-- `ReleaseGzipReader`: compressor_cache.go:81-87 (`select { case ch <- r: default: drop }`),
    compressor_pools.go:48-50 (`Pool.Put`) -/
def Pool.release (p : Pool) (r : GzReader) : Pool :=
  match p.provider with
  | .syncPool => { p with idle := r :: p.idle }
  | .bounded cap => if p.idle.length < cap then { p with idle := p.idle ++ [r] } else p

/-! ### ReadEntity -/

structure RequestIn where
  contentType : Str        -- `Header.Get("Content-Type")`
  contentEncoding : Str    -- `Header.Get("Content-Encoding")`
  body : Bytes
  deriving DecidableEq, Repr

/-- what the ledger provider and the instrumented body of the harness can see -/
inductive Ev where
  | acquire | use | release
  deriving DecidableEq, Repr

inductive Decoder where
  | gzip | deflate | identity
  deriving DecidableEq, Repr

structure Outcome (Value : Type) where
  /-- the result (one per reader kind `accessorsFor` lists: a singleton on every registry with
      distinct keys, `Entity.readEntity_results_length`) -/
  results : List (Result Value)
  pool : Pool
  /-- acquire / use of the request body / release of a pooled reader, in program order -/
  events : List Ev
  /-- identity of the pooled reader object used -/
  reader : Option Nat
  decoder : Decoder

/-- request.go:108-118, the tail of `ReadEntity` on a body whose coding was declared (`compressed`):
    an error of the entity reader is returned as it is (:108-110, nothing is drained); after a
    successful read the stream `s` is read on to its end and what it ends with decides (:111-117):
    clean EOF ⇒ the value, an error ⇒ that error (`.badEncoding`, the constructor of every error a
    decompressor produces).  Both decompressors keep their terminal condition and return it again
    on every later `Read`, so it is `s.clean` whether or not the decoder already ran into it. -/
def drain {Value : Type} (s : Stream) : Result Value → Result Value
  | .ok v => if s.clean then .ok v else .err .badEncoding
  | .err k => .err k

/-- the pooled reader object as the deferred release hands it back (request.go:85), as a function
    of what happened between `Reset` and the return.  `read` is the entity reader's result (the
    head of the list; the list has one element on every registry with distinct keys). -/
def readerAfter {Value : Type} (C : Codec Value) (r1 : GzReader) (read : List (Result Value)) : GzReader :=
  match read with
  | .err .noReader400 :: _ => r1                                           -- :105 returned before anything was read from it
  | .ok _ :: _ =>                                                          -- :108 decoded, then :114 read to the end
    let r2 : GzReader := { r1 with residue := C.gzLeft r1 }
    { r2 with residue := C.gzEnd r2 }
  | _ => { r1 with residue := C.gzLeft r1 }                                -- :109 the entity reader failed: not drained

/-- request.go:77-119 -/
def readEntity {Value : Type} (C : Codec Value) (cfg : Cfg) (pool : Pool) (req : RequestIn) : Outcome Value :=
  if req.contentEncoding = ENCODING_GZIP then                              -- :83
    let a := pool.acquire C                                                 -- :84 AcquireGzipReader
    let r1 : GzReader := { a.1 with src := req.body }                       -- :86 Reset(body), error dropped
    let s := C.gzRead r1                                                    -- :87 what the body now delivers
    let read := lookupAndRead C cfg req.contentType s                       -- :99-110 lookup, entityReader.Read
    { results := read.map (drain s),                                        -- :111-118 compressed: drained
      pool := a.2.release (readerAfter C r1 read),                          -- :85 deferred: runs on every path, after the drain
      events := [.acquire, .use, .release], reader := some a.1.id, decoder := .gzip }
  else if req.contentEncoding = ENCODING_DEFLATE then                      -- :89
    match C.unzl req.body with
    | none => { results := [.err .badEncoding], pool := pool, events := [], reader := none, decoder := .deflate }   -- :91-93
    | some s => { results := (lookupAndRead C cfg req.contentType s).map (drain s),                                  -- :94-95, :99-118 compressed: drained
                  pool := pool, events := [], reader := none, decoder := .deflate }
  else                                                                     -- no coding declared: `compressed` stays false, never drained
    { results := lookupAndRead C cfg req.contentType ⟨req.body, true⟩, pool := pool, events := [], reader := none, decoder := .identity }

/-- a sequence of reads on one provider -/
def readSeq {Value : Type} (C : Codec Value) (cfg : Cfg) : Pool → List RequestIn → List (Outcome Value)
  | _, [] => []
  | pool, r :: rs => readEntity C cfg pool r :: readSeq C cfg (readEntity C cfg pool r).pool rs

/-- the same request alone on a provider fresh from its constructor -/
def readOne {Value : Type} (C : Codec Value) (cfg : Cfg) (prov : Provider) (req : RequestIn) : List (Result Value) :=
  (readEntity C cfg (Pool.fresh C prov) req).results

/-! ### the write side: just the bytes and the headers a client would send back -/

inductive Coding where
  | identity | gzip | deflate
  deriving DecidableEq, Repr

/-- the `Content-Encoding` value that declares the coding -/
def Coding.header : Coding → Str
  | .identity => []
  | .gzip => ENCODING_GZIP
  | .deflate => ENCODING_DEFLATE

def encodeBody {Value : Type} (C : Codec Value) : Coding → Bytes → Bytes
  | .identity, b => b
  | .gzip, b => C.gz b
  | .deflate, b => C.zl b

/-- `writeJSON` / `writeXML` (entity_accessors.go:112-137, 158-179) -/
def writeEntity {Value : Type} (C : Codec Value) (k : Kind) (pretty : Bool) (v : Value) : Bytes :=
  match k with
  | .json => C.encJson pretty v
  | .xml => C.encXml pretty v

/-- the written entity sent back as a request body under Content-Type spelling `ct`, coded and declared so -/
def requestOf {Value : Type} (C : Codec Value) (k : Kind) (pretty : Bool) (v : Value) (ct : Str) (c : Coding) : RequestIn :=
  { contentType := ct, contentEncoding := c.header, body := encodeBody C c (writeEntity C k pretty v) }

/-! ### the classes of the two deviations found, both repaired (F62 by 8b400b4 — `f62`, defined with
    the lookup above; F61 by 75d0593): no theorem assumes either any more — they remain as
    coverage classes that the driver reports, so that the check can measure that its stream keeps
    visiting them -/

/-- the stream the DECLARED coding yields on this body, read by a fresh decompressor
    (`none`: `zlib.NewReader` refuses the header) -/
def declaredStream {Value : Type} (C : Codec Value) (req : RequestIn) : Option Stream :=
  if req.contentEncoding = ENCODING_GZIP then some (C.ungz req.body)
  else if req.contentEncoding = ENCODING_DEFLATE then C.unzl req.body
  else some ⟨req.body, true⟩

/-- `k`'s decoder finds a complete document in the delivered bytes alone -/
def docFor {Value : Type} (C : Codec Value) (cfg : Cfg) (k : Kind) (data : Bytes) : Bool :=
  match k with
  | .json => (C.decJson cfg.useNumber ⟨data, true⟩).isSome
  | .xml => (C.decXml ⟨data, true⟩).isSome

/-- former class F61 "complete document before the stream breaks": the declared coding's stream
    ends in an error, but what it delivered before is already a complete document for a selectable
    reader (before 75d0593 such a request was read without error; see `C16_former_F61_class`) -/
def f61 {Value : Type} (C : Codec Value) (cfg : Cfg) (req : RequestIn) : Bool :=
  match declaredStream C req with
  | some s => !s.clean && (accessorsFor cfg req.contentType).any (fun k => docFor C cfg k s.data)
  | none => false

end Entity
end Restful
