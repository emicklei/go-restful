/-
`net/http.ServeMux` as go-restful uses it (DESIGN 4.7): the Go 1.21 mux (`GODEBUG httpmuxgo121=1`,
in effect because /repo's go.mod says `go 1.13`), `$GOROOT/src/net/http/servemux121.go`, restricted
to the patterns go-restful registers: no host (every pattern starts with `/`), no method.

State = the registered (pattern, target) pairs in registration order.  `mux.m` (a map) and `mux.es`
(the patterns ending in `/`, longest first) are both functions of that list.
-/
import Restful.Go.Str
namespace Restful
open Str

namespace Mux

/-- who a pattern was registered for -/
inductive Target where
  | dispatch                  -- `c.dispatch` (container.go:121/134/137)
  | plain (id : Nat)          -- a handler given to `Container.Handle` / `HandleWithFilter`
  deriving DecidableEq, Repr

abbrev Entry := Str × Target
abbrev Table := List Entry

/-- what `ServeMux.Handle` can panic with (servemux121.go:56-64) -/
inductive RegError where
  | invalidPattern                    -- "http: invalid pattern"
  | multiple (pattern : Str)          -- "http: multiple registrations for " + pattern
  deriving DecidableEq, Repr

/-- `_, exist := mux.m[p]` -/
def has (t : Table) (p : Str) : Bool := t.any (·.1 == p)

/-- servemux121.go:53 `handle` -/
def register (t : Table) (p : Str) (h : Target) : Except RegError Table :=
  if p.isEmpty then .error .invalidPattern
  else if has t p then .error (.multiple p)
  else .ok (t ++ [(p, h)])

/-! ### `path.Clean` on a rooted path, `cleanPath` (server.go:2524) -/

/-- the element loop of `path.Clean` for a rooted path: `acc` is the stack of kept elements, last
    kept first.  Empty elements and `.` are skipped, `..` drops the last kept element (nothing to
    drop at the root). -/
def cleanSegs : List Str → List Str → List Str
  | [], acc => acc.reverse
  | s :: rest, acc =>
    if s = [] ∨ s = ['.'] then cleanSegs rest acc
    else if s = ['.', '.'] then cleanSegs rest acc.tail
    else cleanSegs rest (s :: acc)

/-- `path.Clean(p)` for `p` starting with `/` -/
def pathCleanRooted (p : Str) : Str := '/' :: join ['/'] (cleanSegs (split '/' p) [])

/-- server.go:2524 `cleanPath` -/
def cleanPath (p : Str) : Str :=
  if p.isEmpty then ['/'] else
  let p := if p.head? = some '/' then p else '/' :: p
  let np := pathCleanRooted p
  if p.getLast? = some '/' && np != ['/'] then np ++ ['/'] else np

/-! ### lookup -/

/-- the exact-match half of servemux121.go:159 `match` -/
def exact (t : Table) (path : Str) : Option Entry := t.find? (·.1 == path)

/-- a pattern of `mux.es` (ends in `/`) that is a prefix of the path -/
def eligible (path : Str) (e : Entry) : Bool := e.1.getLast? = some '/' && e.1.isPrefixOf path

/-- first entry of maximal pattern length (`mux.es` is sorted longest first, insertion is stable) -/
def pickMax : List Entry → Option Entry
  | [] => none
  | e :: rest =>
    match pickMax rest with
    | none => some e
    | some b => if e.1.length < b.1.length then some b else some e

/-- the prefix half of `match` -/
def longest (t : Table) (path : Str) : Option Entry := pickMax (t.filter (eligible path))

/-- servemux121.go:140 `handler` without hosts: `none` = `NotFoundHandler()` -/
def handler (t : Table) (path : Str) : Option Target :=
  match exact t path with
  | some e => some e.2
  | none => (longest t path).map (·.2)

/-- servemux121.go:195 `shouldRedirectRLocked` (no host-specific patterns) -/
def shouldRedirect (t : Table) (path : Str) : Bool :=
  if has t path then false
  else if path.isEmpty then false
  else if has t (path ++ ['/']) then path.getLast? != some '/'
  else false

inductive Result where
  | redirect (location : Str)         -- 301, `Location: location`
  | target (h : Target)
  | notFound                          -- the mux's own 404
  deriving DecidableEq, Repr

def ofHandler : Option Target → Result
  | some h => .target h
  | none => .notFound

/-- servemux121.go:104 `findHandler` -/
def lookup (t : Table) (method path : Str) : Result :=
  if method = ['C', 'O', 'N', 'N', 'E', 'C', 'T'] then
    if shouldRedirect t path then .redirect (path ++ ['/']) else ofHandler (handler t path)
  else
    let cp := cleanPath path
    if shouldRedirect t cp then .redirect (cp ++ ['/'])
    else if cp != path then .redirect cp
    else ofHandler (handler t path)

end Mux
end Restful
