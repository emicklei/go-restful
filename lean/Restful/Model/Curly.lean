/-
curly.go, curly_route.go — CurlyRouter.
-/
import Restful.Go.Sort
import Restful.Model.Detect
namespace Restful
open Str

namespace Curly
variable (E : ReEnv)

/-- `routeToken[colon+1 : len(routeToken)-1]`; `none` = slice bounds panic -/
def regPart (rt : Str) (colon : Nat) : Option Str :=
  slice? rt (colon + 1 : Nat) ((rt.length : Int) - 1)

/-- result of one step of the matching loop -/
inductive Step where
  | fail                -- `return false, 0, 0`
  | next                -- go on with the next token
  | stop                -- `break` (tail wildcard)
  | panic
  deriving DecidableEq, Repr

/-- curly.go:118 `regularMatchesPathToken` -/
def regularMatches (rt : Str) (colon : Nat) (q : Str) : Step :=
  match regPart rt colon with
  | none => .panic
  | some rp => if rp = ['*'] then .stop else if E.search rp q then .next else .fail

inductive MatchResult where
  | no
  | yes (paramCount staticCount : Nat)
  | panic
  deriving DecidableEq, Repr

/-- the `for i, routeToken := range routeTokens` loop of curly.go:70 -/
def walk (hasVerb : Bool) : List Str → List Str → Nat → Nat → MatchResult
  | [], _, p, s => .yes p s
  | _ :: _, [], _, _ => .no                                   -- i == len(requestTokens)
  | rt :: rts, q :: qs, p, s =>
    let verb := hasVerb && hasCustomVerb rt
    if verb && !isMatchCustomVerb rt q then .no else
    let s := if verb then s + 1 else s
    let q' := if verb then removeCustomVerb q else q
    let rt' := if verb then removeCustomVerb rt else rt
    if hasPrefix ['{'] rt' then
      match index ':' rt' with
      | some colon =>
        match regularMatches E rt' colon q' with
        | .fail => .no
        | .panic => .panic
        | .stop => .yes (p + 1) s
        | .next => walk hasVerb rts qs (p + 1) s
      | none =>
        -- `{var}suffix`: the literal text after `}` must end the request token
        match index '}' rt' with
        | some e => if !hasSuffix (rt'.drop (e + 1)) q' then .no else walk hasVerb rts qs (p + 1) s
        | none => walk hasVerb rts qs (p + 1) s
    else if q' != rt' then .no
    else walk hasVerb rts qs p (s + 1)

/-- curly.go `isTailWildcard`: the token has the form `{name:*}` -/
def isTailWildcard (rt : Str) : Bool :=
  match index ':' rt with
  | some colon => hasPrefix ['{'] rt && rt.drop (colon + 1) == ['*', '}']
  | none => false

def lastIsStar (rts : List Str) : Bool :=
  match rts.getLast? with
  | some l => isTailWildcard l
  | none => false

/-- curly.go:60 `matchesRouteByPathTokens` -/
def matchTokens (rts qs : List Str) (hasVerb : Bool) : MatchResult :=
  if decide (rts.length < qs.length) && !lastIsStar rts then .no else walk E hasVerb rts qs 0 0

structure Cand where
  route : Route
  paramCount : Nat
  staticCount : Nat
  deriving DecidableEq, Repr

/-- curly_route.go:36 `Less(i, j)` as a relation between the elements at `i` and `j` -/
def candLess (x y : Cand) : Bool :=
  -- a := s[j] = y ; b := s[i] = x
  if y.staticCount < x.staticCount then true
  else if y.staticCount > x.staticCount then false
  else if y.paramCount < x.paramCount then true
  else if y.paramCount > x.paramCount then false
  else lt y.route.path x.route.path

/-- the candidate loop of curly.go:47 `selectRoutes`; `none` = a panic while matching -/
def candidates : List Route → List Str → Option (List Cand)
  | [], _ => some []
  | r :: rs, qs =>
    match matchTokens E r.pathParts qs r.hasCustomVerb with
    | .panic => none
    | .no => candidates rs qs
    | .yes p s => (candidates rs qs).map (fun cs => ⟨r, p, s⟩ :: cs)

def selectRoutes (routes : List Route) (qs : List Str) : Option (List Route) :=
  (candidates E routes qs).map (fun cs => (Sort.insertionSort candLess cs).map (·.route))

/-- the arithmetic of curly.go:156 `computeWebserviceScore` without the regular expressions of root
    parameters (what the loop computed before fix 19aa57d; the specifications of C03 and C18 speak
    about these numbers); `none` = `false, _` -/
def scoreWalk : List Str → List Str → Nat → Option Nat
  | [], _, acc => some acc
  | _ :: _, [], _ => none
  | other :: ts, each :: qs, acc =>
    if each.isEmpty && other.isEmpty then scoreWalk ts qs (acc + 1)
    else if !other.isEmpty && hasPrefix ['{'] other then
      if each.isEmpty then none else scoreWalk ts qs (acc + 1)
    else if each != other then none
    else scoreWalk ts qs (acc + (ts.length + 1) * 10)

def wsScore (qs toks : List Str) : Option Nat :=
  if toks.length > qs.length then none else scoreWalk toks qs 0

/-- result of `computeWebserviceScore` -/
inductive Score where
  | no                  -- `false, _`
  | yes (score : Nat)   -- `true, score`
  | panic               -- slice bounds in `regularMatchesPathToken`
  deriving DecidableEq, Repr

/-- the loop of curly.go:156 `computeWebserviceScore`: a `{name:regex}` token of the root path is
    matched with `regularMatchesPathToken` (only `matchesToken` is looked at) -/
def scoreWalkE : List Str → List Str → Nat → Score
  | [], _, acc => .yes acc
  | _ :: _, [], _ => .no
  | other :: ts, each :: qs, acc =>
    if each.isEmpty && other.isEmpty then scoreWalkE ts qs (acc + 1)
    else if !other.isEmpty && hasPrefix ['{'] other then
      if each.isEmpty then .no else
      match index ':' other with
      | some colon =>
        match regularMatches E other colon each with
        | .fail => .no
        | .panic => .panic
        | _ => scoreWalkE ts qs (acc + 1)
      | none => scoreWalkE ts qs (acc + 1)
    else if each != other then .no
    else scoreWalkE ts qs (acc + (ts.length + 1) * 10)

def wsScoreE (qs toks : List Str) : Score :=
  if toks.length > qs.length then .no else scoreWalkE E toks qs 0

/-- curly.go:140 `detectWebService`: first service with the strictly greatest score; the outer
    `none` = a panic while scoring -/
def detectWebService (qs : List Str) : List Service → Option (Service × Nat) → Option (Option (Service × Nat))
  | [], best => some best
  | s :: ss, best =>
    match wsScoreE E qs (tokenize s.rootPath), best with
    | .panic, _ => none
    | .yes sc, none => detectWebService qs ss (some (s, sc))
    | .yes sc, some (b, bs) => if sc > bs then detectWebService qs ss (some (s, sc)) else detectWebService qs ss (some (b, bs))
    | .no, best => detectWebService qs ss best

end Curly
end Restful
