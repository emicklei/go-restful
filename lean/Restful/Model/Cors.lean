/-
cors_filter.go — `CrossOriginResourceSharing.Filter` as a pure function, and
container.go:435 `computeAllowedMethods`.

What the filter does to a request is: which headers it adds to the response with
`resp.AddHeader` (in order), and whether it calls `chain.ProcessFilter` (passes the request on to
the later filters and the route function).  Nothing else: it never writes a status or a body.

* `lower : Str → Str` stands for `strings.ToLower` (DESIGN 4.1): a parameter of every definition,
  the theorems quantify over it, the driver instantiates `Str.toLowerAscii`.
* The user's `AllowedDomainFunc` is data: `pred : Option (Str → Bool)` (`none` = nil), a pure
  function of the string it is given.
* `Container` is the route table (`Config`); `Container == nil` means `DefaultContainer`, i.e. the
  same function over that container's table.
* The compiled path expressions (`ws.pathExpr`, `rt.pathExpr`) are `Jsr.compile`, and
  `Matcher.FindStringSubmatch` is its closed form `Jsr.matchExpr` (Model/Jsr.lean).  A template that
  does not compile (`none`) makes `WebService.Path` / `RouteBuilder.Build` panic, so no container
  with such a table exists: `computeAllowedMethods` answers `none` there and so does `corsOut`
  (explicitly, never a default).
-/
import Restful.Model.Jsr
namespace Restful
open Str

namespace Cors

/-- the fields of `CrossOriginResourceSharing` (cors_filter.go:20-43) the filter reads -/
structure CorsCfg where
  exposeHeaders : List Str := []
  allowedHeaders : List Str := []
  allowedDomains : List Str := []
  pred : Option (Str → Bool) := none     -- AllowedDomainFunc
  allowedMethods : List Str := []
  maxAge : Int := 0
  cookies : Bool := false                -- CookiesAllowed

/-- what the filter reads of a request -/
structure CorsReq where
  method : Str                           -- req.Request.Method
  path : Str                             -- req.Request.URL.Path
  origin : Str := []                     -- Header.Get("Origin") ("" when absent)
  acrm : Str := []                       -- Header.Get("Access-Control-Request-Method")
  acrh : Str := []                       -- Header.Get("Access-Control-Request-Headers")
  deriving DecidableEq, Repr

/-- what the filter did: headers added with `resp.AddHeader` in order, and whether it called
    `chain.ProcessFilter` -/
structure Out where
  added : List (Str × Str)
  passOn : Bool
  deriving DecidableEq, Repr

/- constants.go:15-28 -/
def hExposeHeaders : Str := "Access-Control-Expose-Headers".toList
def hAllowMethods : Str := "Access-Control-Allow-Methods".toList
def hAllowOrigin : Str := "Access-Control-Allow-Origin".toList
def hAllowCredentials : Str := "Access-Control-Allow-Credentials".toList
def hAllowHeaders : Str := "Access-Control-Allow-Headers".toList
def hMaxAge : Str := "Access-Control-Max-Age".toList

def sOPTIONS : Str := "OPTIONS".toList
def sTrue : Str := "true".toList
def sDotStar : Str := ".*".toList
def sStar : Str := "*".toList
def sComma : Str := ",".toList

/-- `strconv.Itoa(n)` for `n > 0` -/
def itoa (n : Int) : Str := Nat.toDigits 10 n.toNat

variable (lower : Str → Str)

/-- the `for _, domain := range c.AllowedDomains` loop of cors_filter.go:143 -/
def domainLoop (lowerOrigin : Str) : List Str → Bool
  | [] => false
  | domain :: rest =>
    if domain = sDotStar || lower domain = lowerOrigin then true else domainLoop lowerOrigin rest

/-- cors_filter.go:131 `isOriginAllowed`.  Note the two different arguments of the predicate:
    the LOWERED origin when the list is empty, the ORIGINAL origin after the list did not match. -/
def isOriginAllowed (cc : CorsCfg) (origin : Str) : Bool :=
  if origin.length = 0 then false
  else
    let lowerOrigin := lower origin
    if cc.allowedDomains.length = 0 then
      match cc.pred with
      | some f => f lowerOrigin
      | none => true
    else if domainLoop lower lowerOrigin cc.allowedDomains then true
    else
      match cc.pred with
      | some f => f origin
      | none => false

/-- cors_filter.go:161 `checkAndSetExposeHeaders` -/
def checkAndSetExposeHeaders (cc : CorsCfg) : List (Str × Str) :=
  if cc.exposeHeaders.length > 0 then [(hExposeHeaders, join sComma cc.exposeHeaders)] else []

/-- cors_filter.go:154 `setAllowOriginHeader` (re-checks the origin) -/
def setAllowOriginHeader (cc : CorsCfg) (rq : CorsReq) : List (Str × Str) :=
  if isOriginAllowed lower cc rq.origin then [(hAllowOrigin, rq.origin)] else []

/-- cors_filter.go:167 `checkAndSetAllowCredentials` -/
def checkAndSetAllowCredentials (cc : CorsCfg) : List (Str × Str) :=
  if cc.cookies then [(hAllowCredentials, sTrue)] else []

/-- cors_filter.go:122 `setOptionsHeaders` -/
def setOptionsHeaders (cc : CorsCfg) (rq : CorsReq) : List (Str × Str) :=
  checkAndSetExposeHeaders cc ++ setAllowOriginHeader lower cc rq ++ checkAndSetAllowCredentials cc ++
    (if cc.maxAge > 0 then [(hMaxAge, itoa cc.maxAge)] else [])

/-- cors_filter.go:77 `doActualRequest` -/
def doActualRequest (cc : CorsCfg) (rq : CorsReq) : List (Str × Str) := setOptionsHeaders lower cc rq

/-- cors_filter.go:173 `isValidAccessControlRequestMethod` -/
def isValidAccessControlRequestMethod (method : Str) : List Str → Bool
  | [] => false
  | each :: rest => if each = method then true else isValidAccessControlRequestMethod method rest

/-- cors_filter.go:182 `isValidAccessControlRequestHeader` -/
def isValidAccessControlRequestHeader (header : Str) : List Str → Bool
  | [] => false
  | each :: rest =>
    if lower each = lower header then true
    else if each = sStar then true
    else isValidAccessControlRequestHeader header rest

/-- the `for _, each := range strings.Split(acrhs, ",")` loop of cors_filter.go:104:
    `false` = the `return` inside the loop was taken -/
def requestHeadersLoop (allowedHeaders : List Str) : List Str → Bool
  | [] => true
  | each :: rest =>
    if !isValidAccessControlRequestHeader lower (trim ' ' each) allowedHeaders then false
    else requestHeadersLoop allowedHeaders rest

variable (E : ReEnv)

/-- the inner loop of container.go:443 over `ws.Routes()`; `final` is the last group of the
    service's match.  `none` = a route template that does not compile. -/
def routeMethods : List RouteDecl → Str → Option (List Str)
  | [], _ => some []
  | rt :: rest, finalMatch =>
    match Jsr.compile rt.relPath with
    | none => none
    | some ex =>
      match Jsr.matchExpr E ex.toks finalMatch with
      | some (_, lastMatch) =>
        if lastMatch = [] || lastMatch = ['/'] then (routeMethods rest finalMatch).map (rt.method :: ·)
        else routeMethods rest finalMatch
      | none => routeMethods rest finalMatch

/-- container.go:435 `computeAllowedMethods`: over ALL registered services, every route whose
    expression matches the rest of the URL up to an optional final slash contributes its method
    (duplicates kept, registration order).  `none` = a template that does not compile. -/
def computeAllowedMethods : List Service → Str → Option (List Str)
  | [], _ => some []
  | ws :: rest, requestPath =>
    match Jsr.compile ws.rootPath with
    | none => none
    | some ex =>
      match Jsr.matchExpr E ex.toks requestPath with
      | some (_, finalMatch) =>
        match routeMethods E ws.routes finalMatch, computeAllowedMethods rest requestPath with
        | some a, some b => some (a ++ b)
        | _, _ => none
      | none => computeAllowedMethods rest requestPath

/-- cors_filter.go:82 `doPreflightRequest`.  It has a POINTER receiver: the first component is the
    receiver after the call (`c.AllowedMethods` overwritten with the computed list when it was
    empty), the second what was added to the response.  `none` = the table does not compile. -/
def doPreflightRequest (cc : CorsCfg) (tbl : Config) (rq : CorsReq) : Option (CorsCfg × List (Str × Str)) :=
  let cc'? : Option CorsCfg :=
    if cc.allowedMethods.length = 0 then
      (computeAllowedMethods E tbl.services rq.path).map (fun ms => { cc with allowedMethods := ms })
    else some cc
  match cc'? with
  | none => none
  | some cc' =>
    if !isValidAccessControlRequestMethod rq.acrm cc'.allowedMethods then some (cc', [])
    else if rq.acrh.length > 0 && !requestHeadersLoop lower cc'.allowedHeaders (split ',' rq.acrh) then some (cc', [])
    else
      some (cc', (hAllowMethods, join sComma cc'.allowedMethods) :: (hAllowHeaders, rq.acrh) :: setOptionsHeaders lower cc' rq)

/-- cors_filter.go:47 `Filter`.  It has a VALUE receiver: `c` is a copy of the filter value the
    method value was taken from, so the receiver `doPreflightRequest` writes to is that copy and is
    dropped on return.  `none` = the table does not compile (no such container). -/
def corsOut (cc : CorsCfg) (tbl : Config) (rq : CorsReq) : Option Out :=
  if rq.origin.length = 0 then some ⟨[], true⟩
  else if !isOriginAllowed lower cc rq.origin then some ⟨[], true⟩
  else if rq.method ≠ sOPTIONS then some ⟨doActualRequest lower cc rq, true⟩
  else if rq.acrm ≠ [] then
    (doPreflightRequest lower E cc tbl rq).map (fun r => ⟨r.2, false⟩)
  else some ⟨doActualRequest lower cc rq, true⟩

/-- one call of the filter function installed with `c.Filter(cors.Filter)`: the filter value the
    NEXT call starts from, and the outcome.  Value receiver ⇒ the value is unchanged. -/
def filterCall (cc : CorsCfg) (tbl : Config) (rq : CorsReq) : CorsCfg × Option Out :=
  (cc, corsOut lower E cc tbl rq)

/-- a sequence of requests through ONE installed filter value -/
def corsSeq (tbl : Config) : CorsCfg → List CorsReq → List (Option Out)
  | _, [] => []
  | cc, rq :: rest =>
    let r := filterCall lower E cc tbl rq
    r.2 :: corsSeq tbl r.1 rest

/-- a sequence of requests through ONE installed filter value on a container whose route table
    CHANGES between requests (`ws.Route` on a WebService that is already registered, `ws.RemoveRoute`
    with dynamic routes — neither passes through the Container): every request comes with the table
    in force when it arrives.  `computeAllowedMethods` (container.go:434) walks
    `RegisteredWebServices()` and `ws.Routes()` anew on every call, so the table it reads is that one. -/
def corsSeqT : CorsCfg → List (Config × CorsReq) → List (Option Out)
  | _, [] => []
  | cc, (tbl, rq) :: rest =>
    let r := filterCall lower E cc tbl rq
    r.2 :: corsSeqT r.1 rest

/-- what one call WOULD be if `Filter` had a pointer receiver (the writes of `doPreflightRequest`
    persist).  Not the code: used only to show what `C09_no_memory` excludes. -/
def filterCallPtr (cc : CorsCfg) (tbl : Config) (rq : CorsReq) : CorsCfg × Option Out :=
  if rq.origin.length = 0 then (cc, some ⟨[], true⟩)
  else if !isOriginAllowed lower cc rq.origin then (cc, some ⟨[], true⟩)
  else if rq.method ≠ sOPTIONS then (cc, some ⟨doActualRequest lower cc rq, true⟩)
  else if rq.acrm ≠ [] then
    match doPreflightRequest lower E cc tbl rq with
    | some (cc', added) => (cc', some ⟨added, false⟩)
    | none => (cc, none)
  else (cc, some ⟨doActualRequest lower cc rq, true⟩)

def corsSeqPtr (tbl : Config) : CorsCfg → List CorsReq → List (Option Out)
  | _, [] => []
  | cc, rq :: rest =>
    let r := filterCallPtr lower E cc tbl rq
    r.2 :: corsSeqPtr tbl r.1 rest

end Cors
end Restful
