/-
container.go `dispatch`, `ServeHTTP`, `Handle`, `HandleWithFilter`, `writeServiceError`; filter.go
`FilterChain.ProcessFilter`; filter_adapter.go; compress.go `CompressingResponseWriter`,
`wantsCompressedResponse`, `NewCompressingResponseWriter`.

User code is data: handlers, filters, the recover handler and plain http.Handlers are *scripts*
(lists of `Act`).  The response writer is an explicit state: the recorder at the bottom
(first status wins, headers frozen at the first write), optionally a compressing writer on top of
it, and on top of that the wrappers installed by filters that replace the response.
-/
import Restful.Model.Route
namespace Restful
open Str

namespace Serve

inductive Act where
  | write (b : Str)              -- Response.Write / http.ResponseWriter.Write
  | writeHeader (c : Nat)        -- WriteHeader
  | addHeader (k v : Str)        -- Header().Add
  | setAttr (k v : Str)          -- Request.SetAttribute
  | panic (v : Str)
  deriving DecidableEq, Repr

inductive FKind where
  | pass      -- calls chain.ProcessFilter(req, resp)
  | stop      -- does not pass control on
  | replace   -- passes on a NEW Request (fresh attributes, no parameters) and a NEW Response whose writer wraps the old one
  | middle    -- HttpMiddlewareHandlerToFilter around a middleware that wraps the ResponseWriter before calling next
  deriving DecidableEq, Repr

structure Filter where
  id : Nat
  pre : List Act
  kind : FKind
  post : List Act
  deriving DecidableEq, Repr

inductive Coding where
  | gzip | deflate
  deriving DecidableEq, Repr

def Coding.name : Coding → Str
  | .gzip => "gzip".toList
  | .deflate => "deflate".toList

/-- which stage of the request path is running -/
inductive Stage where
  | cfilter (id : Nat) | sfilter (id : Nat) | rfilter (id : Nat)
  | handler (route : Nat) | plain (id : Nat) | errorWriter | recover
  deriving DecidableEq, Repr

structure Event where
  stage : Stage
  post : Bool                       -- after passing control on
  attrs : List (Str × Str)          -- request attributes visible
  params : Params                   -- path parameters visible
  selPath : Str                     -- Request.SelectedRoutePath()
  wrappers : List Nat               -- ids of the response wrappers between this stage and the base writer
  deriving DecidableEq, Repr

/-- the compressing writer, if one was installed -/
structure Comp where
  coding : Coding
  payload : Str := []               -- bytes handed to the compressor, in order
  closed : Bool := false
  deriving DecidableEq, Repr

/-- httptest.ResponseRecorder + what sits directly on it -/
structure Rec where
  status : Option Nat := none                   -- locked by the first WriteHeader / Write
  sent : Option (List (Str × Str)) := none      -- header snapshot taken when the status was locked
  headers : List (Str × Str) := []              -- live header map, insertion order
  body : Str := []                              -- bytes written without a compressor
  comp : Option Comp := none
  closeErrors : Nat := 0                        -- Close() calls on an already closed compressor
  writeAfterClose : Nat := 0                    -- Write() calls on a closed compressor
  deriving DecidableEq, Repr

/-- the compressor ledger: the only cross-request state besides configuration -/
structure World where
  acquired : Nat := 0
  released : Nat := 0
  deriving DecidableEq, Repr

/-- per-request mutable state threaded through the chain -/
structure St where
  rc : Rec
  log : List Event := []             -- newest first
  deriving DecidableEq, Repr

/-- what a stage holds: its Request (attributes, parameters) and its Response (wrappers) -/
structure Ctx where
  attrs : List (Str × Str) := []
  params : Params := []
  selPath : Str := []
  wrappers : List Nat := []
  deriving DecidableEq, Repr

def lockStatus (r : Rec) (c : Nat) : Rec :=
  match r.status with
  | some _ => r
  | none => { r with status := some c, sent := some r.headers }

/-- the mark a response wrapper puts in front of every chunk it forwards -/
def wrapMark (w : Nat) : Str := '<' :: (toString w).toList ++ ['>']

/-- bytes as they arrive at the base writer after passing the wrappers (outermost first in the list) -/
def throughWrappers (ws : List Nat) (b : Str) : Str :=
  ws.foldl (fun acc w => wrapMark w ++ acc) b

/-- `Write` on the base writer (compressing or not) -/
def baseWrite (r : Rec) (b : Str) : Rec :=
  match r.comp with
  | none => { lockStatus r 200 with body := r.body ++ b }
  | some c =>
    if c.closed then { r with writeAfterClose := r.writeAfterClose + 1 }
    else
      -- the coding's header goes to the recorder on the first Write: the status is locked
      { lockStatus r 200 with comp := some { c with payload := c.payload ++ b } }

def baseWriteHeader (r : Rec) (c : Nat) : Rec := lockStatus r c

def addHeader (r : Rec) (k v : Str) : Rec := { r with headers := r.headers ++ [(k, v)] }

def getHeader (r : Rec) (k : Str) : Str :=
  match r.headers.find? (fun kv => kv.1 = k) with
  | some kv => kv.2
  | none => []

/-- compress.go:61 `Close` -/
def closeComp (s : St) : St :=
  match s.rc.comp with
  | none => s
  | some c =>
    if c.closed then { s with rc := { s.rc with closeErrors := s.rc.closeErrors + 1 } }
    else { s with rc := { lockStatus s.rc 200 with comp := some { c with closed := true } } }

/-- run a script; `some v` = the script panicked with `v` (the rest is not executed) -/
def runActs : List Act → Ctx → St → Ctx × St × Option Str
  | [], cx, s => (cx, s, none)
  | a :: as, cx, s =>
    match a with
    | .write b => runActs as cx { s with rc := baseWrite s.rc (throughWrappers cx.wrappers b) }
    | .writeHeader c => runActs as cx { s with rc := baseWriteHeader s.rc c }
    | .addHeader k v => runActs as cx { s with rc := addHeader s.rc k v }
    | .setAttr k v => runActs as { cx with attrs := setParam cx.attrs k v } s
    | .panic v => (cx, s, some v)

/-- every stage records what it sees when it starts: its Request's attributes and parameters, the
    selected route path, the wrappers around its Response -/
def logStart (stage : Stage) (post : Bool) (cx : Ctx) (s : St) : St :=
  { s with log := ⟨stage, post, cx.attrs, cx.params, cx.selPath, cx.wrappers⟩ :: s.log }

def runStage (stage : Stage) (post : Bool) (script : List Act) (cx : Ctx) (s : St) : Ctx × St × Option Str :=
  runActs script cx (logStart stage post cx s)

/-- what runs when every filter passed control on -/
structure Target where
  stage : Stage
  script : List Act
  deriving DecidableEq, Repr

structure RouteX where           -- what the serve model needs beyond routing, per route
  id : Nat
  filters : List Filter := []
  script : List Act := []
  enc : Option Bool := none      -- RouteBuilder.ContentEncodingEnabled
  deriving DecidableEq, Repr

structure SvcX where
  id : Nat
  filters : List Filter := []
  deriving DecidableEq, Repr

structure Cfg where
  routing : Config
  cfilters : List Filter := []
  svcs : List SvcX := []
  routes : List RouteX := []
  encoding : Bool := false                 -- Container.EnableContentEncoding
  recover : Bool := false                  -- !doNotRecover
  recoverScript : Option (List Act) := none -- custom RecoverHandler; none = logStackOnRecover
  plainScript : List Act := []             -- the http.Handler behind Handle / HandleWithFilter
  customErr : Bool := false                -- a custom ServiceErrorHandler writing "E<code>" (the library's message texts are not part of any property)
  deriving Repr

inductive Entry where
  | dispatch            -- Container.Dispatch
  | serveDispatch       -- Container.ServeHTTP, the mux hands the request to `dispatch`
  | muxHandle           -- a pattern registered with Handle, reached through the mux only
  | serveHandle         -- the same through Container.ServeHTTP
  | muxHandleF          -- HandleWithFilter through the mux only
  | serveHandleF        -- HandleWithFilter through Container.ServeHTTP
  deriving DecidableEq, Repr

structure SReq where
  req : Req
  acceptEncoding : Str := []
  priorEncoding : Str := []      -- Content-Encoding already on the writer on arrival
  condPanic : Option Str := none -- an If-condition evaluated for this request panics with this value
  deriving Repr

/-- compress.go:98 `wantsCompressedResponse` -/
def wants (r : Rec) (acceptEncoding : Str) : Option Coding :=
  if !(getHeader r "Content-Encoding".toList).isEmpty then none
  else
    match indexSub "gzip".toList acceptEncoding, indexSub "deflate".toList acceptEncoding with
    | none, none => none
    | none, some _ => some .deflate
    | some _, none => some .gzip
    | some gi, some zi => if gi < zi then some .gzip else some .deflate

/-- compress.go:118 `NewCompressingResponseWriter` when no compressing writer is there yet -/
def install (s : St) (c : Coding) : St :=
  { s with rc := { (addHeader { s.rc with headers := s.rc.headers.filter (fun kv => kv.1 ≠ "Content-Encoding".toList) } "Content-Encoding".toList c.name)
                      with comp := some { coding := c } } }

def maybeInstall (enabled : Bool) (s : St) (acceptEncoding : Str) : St :=
  if !enabled || s.rc.comp.isSome then s
  else match wants s.rc acceptEncoding with
    | some c => install s c
    | none => s

def find? {α : Type} (p : α → Bool) (l : List α) : Option α := l.find? p

def routeX (cfg : Cfg) (id : Nat) : RouteX := (cfg.routes.find? (·.id == id)).getD { id := id }
def svcX (cfg : Cfg) (id : Nat) : SvcX := (cfg.svcs.find? (·.id == id)).getD { id := id }

/-- the text `detectRoute` and the routers put into the ServiceError -/
def available (E : ReEnv) (cfg : Config) (req : Req) : Str :=
  -- `strings.Join(available, ", ")` over the candidates that passed the Content-Type stage
  let svcRoutes : List Route :=
    match cfg.router with
    | .curly =>
      match Curly.detectWebService E (tokenize req.path) cfg.services none with
      | some (some (svc, _)) => (Curly.selectRoutes E svc.built (tokenize req.path)).getD []
      | _ => []
    | .jsr =>
      match Jsr.detectDispatcher E cfg.services req.path with
      | some (some (svc, final)) => (Jsr.selectRoutes E svc.built final).getD []
      | _ => []
  let c3 := ((svcRoutes.filter (passesConds · req)).filter (fun r => req.method = r.method)).filter (matchesContentType · req.contentType)
  join ", ".toList (c3.flatMap (·.produces))

def errorMessage (E : ReEnv) (cfg : Config) (req : Req) (tag : String) : Str :=
  match tag with
  | "404-nosvc" => (match cfg.router with | .curly => "404: Page Not Found".toList | .jsr => [])
  | "404-noroute" => "404: Page Not Found".toList
  | "404-conds" => "404: Not Found".toList
  | "405" => "405: Method Not Allowed".toList
  | "415-ct" => "415: Unsupported Media Type".toList
  | "415-ct-nobody" => "415: Unsupported Media Type\n\nAvailable representations: ".toList ++ available E cfg req
  | "415-accept-nobody" => "415: Unsupported Media Type\n\nAvailable representations: ".toList ++ available E cfg req
  | "406" => "406: Not Acceptable\n\nAvailable representations: ".toList ++ available E cfg req
  | _ => []

/-- container.go:190 `writeServiceError` as a script -/
def errorScript (code : Nat) (allow : Option (List Str)) (msg : Str) : List Act :=
  (match allow with
   | some al => [.addHeader "Allow".toList (join ", ".toList al)]
   | none => []) ++ [.writeHeader code, .write msg]

structure Result where
  rc : Rec
  log : List Event                -- oldest first
  world : World
  escaped : Option Str            -- the panic value that left the entry point
  recoverCalls : Nat
  deriving DecidableEq, Repr

/-- the recover handler: container.go:171 `logStackOnRecover` or a custom script (runs on the base writer) -/
def runRecover (cfg : Cfg) (s : St) : St :=
  match cfg.recoverScript with
  | some sc => (runStage .recover false sc {} s).2.1
  | none => { s with rc := baseWrite (baseWriteHeader s.rc 500) "<stack>".toList }

/-- filter.go:21 `ProcessFilter`, unrolled over the filter list (each filter labelled with the stage
    it belongs to).  Attributes live in a map shared by every holder of the same Request, so
    attribute writes of later stages are visible to the `post` part of earlier filters — unless a
    filter replaced the Request. -/
def runChain : List (Stage × Filter) → Target → Ctx → St → Ctx × St × Option Str
  | [], t, cx, s => runStage t.stage false t.script cx s
  | (st, f) :: fs, t, cx, s =>
    match runStage st false f.pre cx s with
    | (cx1, s1, some v) => (cx1, s1, some v)
    | (cx1, s1, none) =>
      match f.kind with
      | .stop => runStage st true f.post cx1 s1
      | .pass =>
        match runChain fs t cx1 s1 with
        | (cx2, s2, some v) => (cx2, s2, some v)
        | (cx2, s2, none) => runStage st true f.post cx2 s2
      | .replace =>
        let inner : Ctx := { attrs := [("who".toList, (toString f.id).toList)], params := [], selPath := [], wrappers := f.id :: cx1.wrappers }
        match runChain fs t inner s1 with
        | (_, s2, some v) => (cx1, s2, some v)
        | (_, s2, none) => runStage st true f.post cx1 s2
      | .middle =>
        -- same Request and Response objects; the ResponseWriter inside the Response is wrapped
        -- (the adapter stores the wrapped writer in the Response for good: filters further out see it
        -- in their post part; the middleware's own post part runs on the writer it was given)
        match runChain fs t { cx1 with wrappers := f.id :: cx1.wrappers } s1 with
        | (cx2, s2, some v) => (cx2, s2, some v)
        | (cx2, s2, none) =>
          match runStage st true f.post { cx2 with wrappers := cx1.wrappers } s2 with
          | (cx3, s3, p) => ({ cx3 with wrappers := cx2.wrappers }, s3, p)

def label (mk : Nat → Stage) (fs : List Filter) : List (Stage × Filter) := fs.map (fun f => (mk f.id, f))

/-- `allFilters = containerFilters ++ webService.filters ++ route.Filters` -/
def allFilters (cfg : Cfg) (svc rid : Nat) : List (Stage × Filter) :=
  label .cfilter cfg.cfilters ++ label .sfilter (svcX cfg svc).filters ++ label .rfilter (routeX cfg rid).filters

/-- the two deferred functions of `dispatch`, in the order they run: recover (only with recovery
    on) calls the recover handler with `writer`; then the compressing writer is closed -/
def finishDispatch (cfg : Cfg) (s : St) (p : Option Str) : St × Option Str × Nat :=
  match p with
  | none => (closeComp s, none, 0)
  | some v =>
    if cfg.recover then (closeComp (runRecover cfg s), none, 1)
    else (closeComp s, some v, 0)

/-- the text the service-error writer writes: the library's message, or "E<code>" when the harness
    installed its own ServiceErrorHandler (message texts are not part of any property) -/
def errMsg (E : ReEnv) (cfg : Cfg) (sr : SReq) (code : Nat) (tag : String) : Str :=
  if cfg.customErr then 'E' :: (toString code).toList else errorMessage E cfg.routing sr.req tag

/-- container.go:210 `dispatch` -/
def dispatch (E : ReEnv) (cfg : Cfg) (sr : SReq) (s0 : St) : St × Option Str × Nat :=
  -- a panicking If-condition unwinds out of the closure that holds the read lock (its RUnlock is deferred)
  match sr.condPanic with
  | some v => finishDispatch cfg s0 (some v)
  | none =>
  match routeTagged E cfg.routing sr.req with
  | (.panic w, _) => finishDispatch cfg s0 (some w.toList)
  | (.error code allow, tag) =>
    -- the error chain: container filters around the service-error writer; no compressor is installed here
    let t : Target := ⟨.errorWriter, errorScript code allow (errMsg E cfg sr code tag)⟩
    let (_, s1, p) := runChain (label .cfilter cfg.cfilters) t {} s0
    finishDispatch cfg s1 p
  | (.selected svc rid ps, _) =>
    let rx := routeX cfg rid
    let enabled := match rx.enc with
      | some b => b
      | none => cfg.encoding
    let s1 := maybeInstall enabled s0 sr.acceptEncoding
    let selPath : Str :=
      match (cfg.routing.services.flatMap (·.built)).find? (fun r => r.id == rid && r.svc == svc) with
      | some r => r.path
      | none => []
    let (_, s2, p) := runChain (allFilters cfg svc rid) ⟨.handler rid, rx.script⟩ { params := ps, selPath := selPath } s1
    finishDispatch cfg s2 p

/-- container.go:357 the closure `Handle` registers: optional compressor, deferred Close, no recovery.
    (every body returns the state, the panic that is still propagating, and the number of recover-handler calls) -/
def handleWrapper (cfg : Cfg) (sr : SReq) (s0 : St) (body : St → St × Option Str × Nat) : St × Option Str × Nat :=
  if s0.rc.comp.isSome then body s0
  else
    let s1 := maybeInstall cfg.encoding s0 sr.acceptEncoding
    let (s2, p, n) := body s1
    (closeComp s2, p, n)

/-- the plain http.Handler behind Handle -/
def plainBody (cfg : Cfg) (s : St) : St × Option Str × Nat :=
  let (_, s1, p) := runStage (.plain 0) false cfg.plainScript {} s
  (s1, p, 0)

/-- container.go:393 `HandleWithFilter`: the container filters around the plain handler, with the
    same deferred recover as `dispatch` (only when there are container filters: without any the
    handler is called directly) -/
def plainFilteredBody (cfg : Cfg) (s : St) : St × Option Str × Nat :=
  if cfg.cfilters.isEmpty then plainBody cfg s
  else
    let (_, s1, p) := runChain (label .cfilter cfg.cfilters) ⟨.plain 0, cfg.plainScript⟩ {} s
    match p with
    | none => (s1, none, 0)
    | some v => if cfg.recover then (runRecover cfg s1, none, 1) else (s1, some v, 0)

/-- container.go:315 `ServeHTTP` around whatever the mux selects -/
def serveWrapper (cfg : Cfg) (sr : SReq) (s0 : St) (inner : St → St × Option Str × Nat) : St × Option Str × Nat :=
  if !cfg.encoding || s0.rc.comp.isSome then inner s0
  else
    let s1 := match wants s0.rc sr.acceptEncoding with
      | some c => install s0 c
      | none => s0
    let (s2, p, n) := inner s1
    (closeComp s2, p, n)

def initial (sr : SReq) : St :=
  { rc := { headers := if sr.priorEncoding.isEmpty then [] else [("Content-Encoding".toList, sr.priorEncoding)] } }

/-- what the request did to the compressor ledger: one acquisition per installed compressing
    writer, one release when it was closed -/
def ledger (w : World) (r : Rec) : World :=
  match r.comp with
  | none => w
  | some c => { acquired := w.acquired + 1, released := w.released + (if c.closed then 1 else 0) }

/-- one request through one entry point -/
def serve (E : ReEnv) (cfg : Cfg) (e : Entry) (w : World) (sr : SReq) : Result :=
  let s0 := initial sr
  let (s, p, n) : St × Option Str × Nat :=
    match e with
    | .dispatch => dispatch E cfg sr s0
    | .serveDispatch => serveWrapper cfg sr s0 (dispatch E cfg sr)
    | .muxHandle => handleWrapper cfg sr s0 (plainBody cfg)
    | .serveHandle => serveWrapper cfg sr s0 (fun s => handleWrapper cfg sr s (plainBody cfg))
    | .muxHandleF => handleWrapper cfg sr s0 (plainFilteredBody cfg)
    | .serveHandleF => serveWrapper cfg sr s0 (fun s => handleWrapper cfg sr s (plainFilteredBody cfg))
  { rc := s.rc, log := s.log.reverse, world := ledger w s.rc, escaped := p, recoverCalls := n }

/-! ### a routing failure that is not a `ServiceError`

`RouteSelector` is an interface: a selector of the application's own, installed with
`Container.Router` (typically a wrapper around a built-in router), may report a routing failure with
any `error`.  container.go:243–252: the container filters run all the same; the target of that chain
looks at the error with `switch err.(type)` and has a case for `ServiceError` only, so for any other
error it does nothing (no service-error writer runs, nothing is written).  `dispatch` installs no
compressor on this path.  The built-in routers only return `ServiceError`s: this is a third kind of
routing outcome, which `routeTagged` (the model of the built-in routers) never produces, so it is a
separate entry of the model rather than a branch of `dispatch`. -/

/-- the target of the error chain when the error is not a `ServiceError`: the empty function -/
def routerErrorTarget : Target := ⟨.errorWriter, []⟩

/-- container.go:242 `dispatch` for a request that the installed `RouteSelector` refuses with an
    error value that is not a `ServiceError` -/
def dispatchRouterError (cfg : Cfg) (s0 : St) : St × Option Str × Nat :=
  let (_, s1, p) := runChain (label .cfilter cfg.cfilters) routerErrorTarget {} s0
  finishDispatch cfg s1 p

/-- such a request through `Container.Dispatch` (`viaServeHTTP = false`) or `Container.ServeHTTP` -/
def serveRouterError (cfg : Cfg) (viaServeHTTP : Bool) (w : World) (sr : SReq) : Result :=
  let s0 := initial sr
  let (s, p, n) : St × Option Str × Nat :=
    if viaServeHTTP then serveWrapper cfg sr s0 (dispatchRouterError cfg) else dispatchRouterError cfg s0
  { rc := s.rc, log := s.log.reverse, world := ledger w s.rc, escaped := p, recoverCalls := n }

/-- a sequence of requests on one container: only the world is carried over -/
def serveSeq (E : ReEnv) (cfg : Cfg) (e : Entry) : World → List SReq → List Result
  | _, [] => []
  | w, r :: rs => let res := serve E cfg e w r; res :: serveSeq E cfg e res.world rs

end Serve
end Restful
