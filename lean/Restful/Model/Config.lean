/-
The data the routing model works on: what a user declares (services, routes) and what a
request carries.  User code (If-conditions) is data: condition `i` is bit `i` of the request.
-/
import Restful.Go.Str
import Restful.Model.Path
namespace Restful

inductive RouterKind where
  | curly | jsr
  deriving DecidableEq, Repr

structure RouteDecl where
  id : Nat
  method : Str
  relPath : Str                 -- RouteBuilder.Path(subPath)
  consumes : List Str
  produces : List Str
  conds : List Nat              -- RouteBuilder.If(...): indices into `Req.conds`
  noct : List Str               -- AllowedMethodsWithoutContentType
  deriving DecidableEq, Repr

structure Service where
  id : Nat
  root : Str                    -- WebService.Path(root)
  consumes : List Str := []     -- WebService.Consumes (default for routes)
  produces : List Str := []
  routes : List RouteDecl
  deriving DecidableEq, Repr

structure Config where
  router : RouterKind
  services : List Service
  deriving DecidableEq, Repr

structure Req where
  method : Str
  path : Str
  contentType : Str := []       -- Header.Get("Content-Type")
  accept : Str := []            -- Header.Get("Accept")
  clenHeader : Str := []        -- Header.Get("Content-Length")
  contentLength : Int := 0      -- http.Request.ContentLength
  conds : List Bool := []       -- value of If-condition i on this request
  deriving DecidableEq, Repr

/-- what `RouteSelector.SelectRoute` + `ExtractParameters` come to -/
inductive Outcome where
  | selected (svc route : Nat) (params : List (Str × Str))
  | error (code : Nat) (allow : Option (List Str))      -- `allow` only on 405
  | panic (where_ : String)
  deriving DecidableEq, Repr

/-- web_service.go:80 `Path(root)` -/
def Service.rootPath (s : Service) : Str := if s.root.isEmpty then ['/'] else s.root

/-- route_builder.go:297 `copyDefaults` -/
def Service.producesOf (s : Service) (r : RouteDecl) : List Str := if r.produces.isEmpty then s.produces else r.produces
def Service.consumesOf (s : Service) (r : RouteDecl) : List Str := if r.consumes.isEmpty then s.consumes else r.consumes

/-- a built `Route` as the routers see it (route_builder.go:314 `Build`, route.go:63 `postBuild`) -/
structure Route where
  svc : Nat
  id : Nat
  method : Str
  path : Str                    -- Route.Path = concatPath root rel
  root : Str                    -- the service's root path when the route was built
  relPath : Str
  pathParts : List Str          -- tokenizePath(Path)
  hasCustomVerb : Bool          -- hasCustomVerb(Path)
  consumes : List Str
  produces : List Str
  conds : List Nat
  noct : List Str
  deriving DecidableEq, Repr

def Service.build (s : Service) (r : RouteDecl) : Route :=
  let p := concatPath s.rootPath r.relPath
  { svc := s.id, id := r.id, method := r.method, path := p, root := s.rootPath, relPath := r.relPath,
    pathParts := tokenize p, hasCustomVerb := hasCustomVerb p,
    consumes := s.consumesOf r, produces := s.producesOf r, conds := r.conds, noct := r.noct }

def Service.built (s : Service) : List Route := s.routes.map s.build

/-- the regular-expression oracle the model is parametric in -/
structure ReEnv where
  search : Str → Str → Bool     -- `regexp.MatchString(re, s)` reporting `matched && err == nil`
  full : Str → Str → Bool       -- `re` matches exactly `s`

abbrev Params := List (Str × Str)

/-- association list standing for a Go `map[string]string` written to in order -/
def setParam (ps : Params) (k v : Str) : Params :=
  match ps with
  | [] => [(k, v)]
  | (k', v') :: rest => if k' = k then (k, v) :: rest else (k', v') :: setParam rest k v

end Restful
