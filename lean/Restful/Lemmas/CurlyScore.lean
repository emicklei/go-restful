/-
CurlyRouter's `computeWebserviceScore` after fix 19aa57d: the faithful loop `Curly.scoreWalkE` /
`Curly.wsScoreE` (a `{name:regex}` token of a root path is matched with `regularMatchesPathToken`)
against the regex-blind arithmetic `Curly.scoreWalk` / `Curly.wsScore`.  One iteration of the
faithful loop is the arithmetic step followed by the expression (`reStep`); on root tokens that
cannot raise the slice-bounds panic the loop has a closed form (`wsScoreE_eq`), and on the roots
`Config.wfTemplates` leaves (`RootGood`: the root's tokens lead the tokens of every route path,
`tokenize_concatPath`) it computes `Spec.claimScore`.
-/
import Restful.Spec.Classify
import Restful.Lemmas.OrderScore
import Restful.Lemmas.Tokenize
import Restful.Lemmas.SplitOn
import Restful.Lemmas.ReadTemplate
namespace Restful
open Str

namespace Curly
variable (E : ReEnv)

/-- what the loop asks of the expression of root token `x` for the request token `q`:
    `some true` = satisfied (or no expression), `some false` = not satisfied, `none` = slice-bounds panic -/
def reStep (x q : Str) : Option Bool :=
  if Spec.rootTokIsVar x then
    match index ':' x with
    | some colon =>
      match regularMatches E x colon q with
      | .fail => some false
      | .panic => none
      | _ => some true
    | none => some true
  else some true

theorem scoreWalkE_cons (x q : Str) (ts qs : List Str) (acc : Nat) :
    scoreWalkE E (x :: ts) (q :: qs) acc =
      match stepD x q ts.length with
      | none => .no
      | some d =>
        match reStep E x q with
        | none => .panic
        | some false => .no
        | some true => scoreWalkE E ts qs (acc + d) := by
  rw [scoreWalkE, stepD, reStep, Spec.rootTokIsVar]
  by_cases h1 : (q.isEmpty && x.isEmpty) = true
  · simp only [Bool.and_eq_true, List.isEmpty_iff] at h1
    obtain ⟨rfl, rfl⟩ := h1
    simp
  · rw [if_neg h1, if_neg h1]
    by_cases h2 : (!x.isEmpty && hasPrefix ['{'] x) = true
    · rw [if_pos h2, if_pos h2]
      by_cases h3 : q.isEmpty = true
      · simp [h3]
      · rw [if_neg h3, if_neg h3]
        simp only [h2, if_true]
        cases index ':' x with
        | none => rfl
        | some colon =>
          simp only
          cases regularMatches E x colon q <;> rfl
    · rw [if_neg h2, if_neg h2]
      simp only [h2, Bool.false_eq_true, if_false]
      by_cases h3 : (q != x) = true
      · simp [h3]
      · rw [if_neg h3, if_neg h3]

/-- every expression the loop meets along the root is satisfied -/
def reAll : List Str → List Str → Bool
  | x :: ts, q :: qs => (reStep E x q == some true) && reAll ts qs
  | _, _ => true

/-- the root token cannot raise the slice-bounds panic of `regularMatchesPathToken` -/
def tokNoPanic (x : Str) : Bool :=
  !Spec.rootTokIsVar x ||
    (match index ':' x with
     | some colon => (regPart x colon).isSome
     | none => true)

theorem reStep_of_noPanic {x : Str} (h : tokNoPanic x = true) (q : Str) : ∃ b, reStep E x q = some b := by
  unfold reStep
  unfold tokNoPanic at h
  cases hv : Spec.rootTokIsVar x with
  | false => exact ⟨true, by simp⟩
  | true =>
    simp only [hv, Bool.not_true, Bool.false_or] at h
    simp only [if_true]
    cases hi : index ':' x with
    | none => exact ⟨true, rfl⟩
    | some colon =>
      simp only [hi] at h
      simp only
      obtain ⟨rp, hrp⟩ := Option.isSome_iff_exists.mp h
      unfold regularMatches
      rw [hrp]
      simp only
      by_cases hs : rp = ['*']
      · rw [if_pos hs]; exact ⟨true, rfl⟩
      · rw [if_neg hs]
        cases E.search rp q
        · exact ⟨false, rfl⟩
        · exact ⟨true, rfl⟩

/-- the faithful loop says `true, sc` exactly when the arithmetic gives `sc` and every expression
    along the root is satisfied (no hypothesis on the root) -/
theorem scoreWalkE_yes_iff : ∀ (ts qs : List Str) (acc sc : Nat),
    scoreWalkE E ts qs acc = .yes sc ↔ scoreWalk ts qs acc = some sc ∧ reAll E ts qs = true
  | [], qs, acc, sc => by
    cases qs <;> simp [scoreWalkE, scoreWalk, reAll]
  | _ :: _, [], acc, sc => by simp [scoreWalkE, scoreWalk]
  | x :: ts, q :: qs, acc, sc => by
    rw [scoreWalkE_cons, scoreWalk_cons, reAll]
    cases stepD x q ts.length with
    | none => simp
    | some d =>
      simp only [Option.bind_some]
      cases hr : reStep E x q with
      | none => simp
      | some b =>
        cases b with
        | false => simp
        | true =>
          simp only [beq_self_eq_true, Bool.true_and]
          exact scoreWalkE_yes_iff ts qs (acc + d) sc

theorem scoreWalkE_eq : ∀ (ts qs : List Str) (acc : Nat), (∀ x ∈ ts, tokNoPanic x = true) →
    scoreWalkE E ts qs acc =
      match scoreWalk ts qs acc with
      | some sc => if reAll E ts qs = true then .yes sc else .no
      | none => .no
  | [], qs, acc, _ => by
    cases qs <;> simp [scoreWalkE, scoreWalk, reAll]
  | _ :: _, [], acc, _ => by simp [scoreWalkE, scoreWalk]
  | x :: ts, q :: qs, acc, h => by
    rw [scoreWalkE_cons, scoreWalk_cons, reAll]
    cases stepD x q ts.length with
    | none => simp
    | some d =>
      simp only [Option.bind_some]
      obtain ⟨b, hb⟩ := reStep_of_noPanic E (h x List.mem_cons_self) q
      rw [hb]
      have ih := scoreWalkE_eq ts qs (acc + d) (fun y hy => h y (List.mem_cons_of_mem _ hy))
      cases b with
      | false =>
        simp only
        cases scoreWalk ts qs (acc + d) <;> simp
      | true =>
        simp only [beq_self_eq_true, Bool.true_and]
        exact ih

theorem wsScoreE_yes_iff (qs toks : List Str) (sc : Nat) :
    wsScoreE E qs toks = .yes sc ↔ wsScore qs toks = some sc ∧ reAll E toks qs = true := by
  unfold wsScoreE wsScore
  split
  · simp
  · exact scoreWalkE_yes_iff E toks qs 0 sc

theorem wsScore_of_wsScoreE {qs toks : List Str} {sc : Nat} (h : wsScoreE E qs toks = .yes sc) :
    wsScore qs toks = some sc := ((wsScoreE_yes_iff E qs toks sc).mp h).1

theorem wsScoreE_eq (qs toks : List Str) (hnp : ∀ x ∈ toks, tokNoPanic x = true) :
    wsScoreE E qs toks =
      match wsScore qs toks with
      | some sc => if reAll E toks qs = true then .yes sc else .no
      | none => .no := by
  unfold wsScoreE wsScore
  split
  · rfl
  · exact scoreWalkE_eq E toks qs 0 hnp

theorem wsScoreE_ne_panic (qs toks : List Str) (hnp : ∀ x ∈ toks, tokNoPanic x = true) :
    wsScoreE E qs toks ≠ .panic := by
  rw [wsScoreE_eq E qs toks hnp]
  cases wsScore qs toks with
  | none => simp
  | some sc =>
    simp only
    split <;> simp

theorem wsScoreE_no_iff (qs toks : List Str) (hnp : ∀ x ∈ toks, tokNoPanic x = true) :
    wsScoreE E qs toks = .no ↔ wsScore qs toks = none ∨ reAll E toks qs = false := by
  rw [wsScoreE_eq E qs toks hnp]
  cases wsScore qs toks with
  | none => simp
  | some sc =>
    simp only
    cases reAll E toks qs <;> simp

theorem tokNoPanic_of_noVar {x : Str} (h : Spec.rootTokIsVar x = false) : tokNoPanic x = true := by
  simp [tokNoPanic, h]

theorem reAll_of_noVar : ∀ (toks qs : List Str), (∀ x ∈ toks, Spec.rootTokIsVar x = false) →
    reAll E toks qs = true
  | [], _, _ => by simp [reAll]
  | _ :: _, [], _ => by simp [reAll]
  | x :: ts, q :: qs, h => by
    rw [reAll, reAll_of_noVar ts qs (fun y hy => h y (List.mem_cons_of_mem _ hy)), Bool.and_true]
    simp [reStep, h x List.mem_cons_self]

/-- on a root without `{` tokens no expression is evaluated: the faithful loop is the arithmetic -/
theorem wsScoreE_of_noVar (qs toks : List Str) (h : ∀ x ∈ toks, Spec.rootTokIsVar x = false) :
    wsScoreE E qs toks =
      match wsScore qs toks with
      | some sc => .yes sc
      | none => .no := by
  rw [wsScoreE_eq E qs toks (fun x hx => tokNoPanic_of_noVar (h x hx)), reAll_of_noVar E toks qs h]
  cases wsScore qs toks <;> rfl

end Curly
end Restful

namespace Restful
open Str
namespace Str

theorem trimLeft_all {c : Char} {s : Str} (h : ∀ x ∈ s, x = c) : trimLeft c s = [] := by
  simpa [trimLeft] using List.dropWhile_append_of_pos (p := (· == c)) (l₁ := s) (l₂ := []) (by simpa using h)

theorem trimRight_all {c : Char} {s : Str} (h : ∀ x ∈ s, x = c) : trimRight c s = [] := by
  simpa [trimRight, trimLeft] using trimLeft_all (c := c) (s := s.reverse) (by simpa using h)

theorem trimLeft_append_all {c : Char} {a : Str} (u : Str) (h : ∀ x ∈ a, x = c) : trimLeft c (a ++ u) = trimLeft c u :=
  List.dropWhile_append_of_pos (by simpa using h)

theorem trimRight_append_of_exists (c : Char) (s t : Str) (h : ∃ x ∈ t, x ≠ c) :
    trimRight c (s ++ t) = s ++ trimRight c t := by
  have := trimLeft_append_of_exists c t.reverse s.reverse (by simpa using h)
  simp only [trimLeft] at this
  simp [trimRight, this]

theorem trimLeft_head (c : Char) (s : Str) : (trimLeft c s).head? ≠ some c := by
  intro h
  have := List.head?_dropWhile_not (fun x => x == c) s
  rw [show s.dropWhile (fun x => x == c) = trimLeft c s from rfl, h] at this
  simp at this

theorem trimRight_getLast (c : Char) (s : Str) : (trimRight c s).getLast? ≠ some c := by
  unfold trimRight
  rw [List.getLast?_reverse]
  exact trimLeft_head c s.reverse

theorem exists_ne_trimRight {c : Char} {s : Str} (h : ∃ x ∈ s, x ≠ c) : ∃ x ∈ trimRight c s, x ≠ c := by
  obtain ⟨x, hx, hne⟩ := exists_ne_trimLeft (c := c) (s := s.reverse) (by simpa using h)
  exact ⟨x, by simpa [trimRight, trimLeft] using hx, hne⟩

theorem trimRight_prefix (c : Char) (s : Str) : trimRight c s <+: s := by
  unfold trimRight
  have := List.dropWhile_suffix (fun x => x == c) (l := s.reverse)
  rw [← List.reverse_prefix, List.reverse_reverse] at this
  exact this

theorem trimLeft_split (c : Char) (s : Str) : ∃ a, (∀ x ∈ a, x = c) ∧ s = a ++ trimLeft c s := by
  refine ⟨s.takeWhile (· == c), ?_, ?_⟩
  · exact takeWhile_beq_all c s
  · unfold trimLeft
    exact List.takeWhile_append_dropWhile.symm

theorem all_eq_or_exists_ne (c : Char) (s : Str) : (∀ x ∈ s, x = c) ∨ ∃ x ∈ s, x ≠ c := by
  by_cases h : ∀ x ∈ s, x = c
  · exact .inl h
  · exact .inr (by simpa using h)

theorem trim_comm (c : Char) (s : Str) : trimLeft c (trimRight c s) = trimRight c (trimLeft c s) := by
  rcases all_eq_or_exists_ne c s with hall | hex
  · rw [trimRight_all hall, trimLeft_all hall]; rfl
  · obtain ⟨a, ha, hs⟩ := trimLeft_split c s
    have hu := exists_ne_trimLeft hex
    have h1 : trimRight c s = a ++ trimRight c (trimLeft c s) := by
      conv => lhs; rw [hs]
      exact trimRight_append_of_exists c a _ hu
    rw [h1, trimLeft_append_all _ ha]
    apply trimLeft_id
    -- the head of `trimRight (trimLeft s)` is the head of `trimLeft s`
    obtain ⟨rest, hrest⟩ := trimRight_prefix c (trimLeft c s)
    obtain ⟨y, hy, _⟩ := exists_ne_trimRight hu
    cases htr : trimRight c (trimLeft c s) with
    | nil => rw [htr] at hy; simp at hy
    | cons z zs =>
      rw [htr] at hrest
      have := trimLeft_head c s
      rw [← hrest] at this
      simpa using this

end Str

theorem tokenize_all_slash {R : Str} (h : ∀ x ∈ R, x = '/') : tokenize R = [] ∨ tokenize R = [[]] := by
  unfold tokenize
  by_cases hR : R = ['/']
  · left; simp [hR]
  · right
    rw [if_neg hR]
    unfold trim
    rw [trimLeft_all h]
    rfl

/-- **the tokens of a root path lead the tokens of every route path built on it**
    (`concatPath`, default strategy), and when nothing follows them the route path ends in `/` -/
theorem tokenize_concatPath (R rel : Str) (hR : ∃ x ∈ R, x ≠ '/') :
    ∃ ext, tokenize (concatPath R rel) = tokenize R ++ ext ∧
      (ext = [] → (concatPath R rel).getLast? = some '/') := by
  have hA := exists_ne_trimRight hR
  have hBhead := trimLeft_head '/' rel
  unfold concatPath
  generalize hAd : trimRight '/' R = A at hA
  generalize trimLeft '/' rel = B at hBhead
  have hp1 : A ++ '/' :: B ≠ ['/'] := by
    intro e
    obtain ⟨x, hx, _⟩ := hA
    have h1 := List.length_pos_of_mem hx
    have h2 := congrArg List.length e
    simp only [List.length_append, List.length_cons, List.length_nil] at h2
    omega
  have hR1 : R ≠ ['/'] := by
    rintro rfl
    simp at hR
  -- `T`: the root without its outer slashes
  have hT : trimLeft '/' A = trim '/' R := by
    rw [← hAd, trim_comm]; rfl
  have hTlast : (trim '/' R).getLast? ≠ some '/' := trimRight_getLast '/' _
  simp only [tokenize, hp1, hR1, if_false]
  have hl : trimLeft '/' (A ++ '/' :: B) = trim '/' R ++ '/' :: B := by
    rw [trimLeft_append_of_exists _ _ _ hA, hT]
  conv => enter [1, ext, 1, 1]; rw [trim, hl]
  cases B with
  | nil =>
    refine ⟨[], ?_, fun _ => by simp⟩
    rw [trimRight_snoc, trimRight_id hTlast, List.append_nil]
  | cons b B' =>
    have hb : b ≠ '/' := by
      intro e; subst e
      exact hBhead rfl
    have hBex : ∃ x ∈ b :: B', x ≠ '/' := ⟨b, List.mem_cons_self, hb⟩
    refine ⟨split '/' (trimRight '/' (b :: B')), ?_, ?_⟩
    · have : trim '/' R ++ '/' :: b :: B' = (trim '/' R ++ ['/']) ++ (b :: B') := by simp
      rw [this, trimRight_append_of_exists _ _ _ hBex]
      have : (trim '/' R ++ ['/']) ++ trimRight '/' (b :: B') = trim '/' R ++ '/' :: trimRight '/' (b :: B') := by simp
      rw [this]
      exact List.splitOn_append_cons_self _ _
    · intro e
      exact absurd e (split_ne_nil _ _)

end Restful

namespace Restful
open Str
namespace Curly
variable (E : ReEnv)

theorem rootTokIsVar_eq (t : Str) : Spec.rootTokIsVar t = hasPrefix ['{'] t := by
  cases t <;> simp [Spec.rootTokIsVar, hasPrefix, List.isPrefixOf]

theorem reStep_render {b : Tok} (hb : b.wf = true) (q : Str) :
    reStep E b.render q = some (match (generalizing := false) b with
      | .re _ e => E.search e q
      | _ => true) := by
  unfold reStep
  rw [rootTokIsVar_eq, Tok.hasPrefix_render hb, Tok.index_colon_render hb]
  cases b with
  | re n e =>
    simp only [Tok.name?, Option.isSome_some, if_true, regularMatches, Tok.regPart_render_re,
      Tok.re_ne_star hb, if_false]
    cases E.search e q <;> rfl
  | wild n => simp [Tok.name?, regularMatches, Tok.regPart_render_wild]
  | _ => simp [Tok.name?]

theorem tokNoPanic_render {b : Tok} (hb : b.wf = true) : tokNoPanic b.render = true := by
  unfold tokNoPanic
  rw [Tok.index_colon_render hb]
  cases b <;> simp [Tok.regPart_render_re, Tok.regPart_render_wild]

theorem reAll_render : ∀ (ts : List TTok) (qs : List Str), (∀ t ∈ ts, t.wf = true ∧ t.verb = none) →
    ts.length ≤ qs.length → reAll E (ts.map TTok.render) qs = Spec.rootRegexOK E ts qs
  | [], qs, _, _ => by cases qs <;> simp [reAll, Spec.rootRegexOK]
  | _ :: _, [], _, hl => by simp at hl
  | t :: ts, q :: qs, h, hl => by
    obtain ⟨hw, hv⟩ := h t List.mem_cons_self
    have ih := reAll_render ts qs (fun x hx => h x (List.mem_cons_of_mem _ hx))
      (by simpa using hl)
    rw [List.map_cons, reAll, Spec.rootRegexOK, TTok.render_of_verb_none hv,
      reStep_render E (TTok.wf_base hw), ih]
    congr 1
    cases t.base <;> simp

/-- the root tokens are checked template tokens without custom verbs, or they do not read as a
    template and none of them starts with `{` (e.g. the single empty token of the root `//`) -/
def RootGood (W : List Str) : Prop :=
  (∃ ts, readToks W = some ts ∧ ∀ t ∈ ts, t.verb = none) ∨
  (readToks W = none ∧ ∀ x ∈ W, Spec.rootTokIsVar x = false)

theorem RootGood.noPanic {W : List Str} (h : RootGood W) : ∀ x ∈ W, tokNoPanic x = true := by
  rcases h with ⟨ts, hts, hv⟩ | ⟨_, hn⟩
  · obtain ⟨hr, hw⟩ := readToks_render hts
    intro x hx
    rw [← hr, List.mem_map] at hx
    obtain ⟨t, ht, rfl⟩ := hx
    rw [TTok.render_of_verb_none (hv t ht)]
    exact tokNoPanic_render (TTok.wf_base (hw t ht))
  · intro x hx
    exact tokNoPanic_of_noVar (hn x hx)

theorem readToks_length {ss : List Str} {ts : List TTok} (h : readToks ss = some ts) : ts.length = ss.length := by
  have := (readToks_render h).1
  rw [← this, List.length_map]

theorem wsScore_length {qs toks : List Str} {sc : Nat} (h : wsScore qs toks = some sc) : toks.length ≤ qs.length := by
  unfold wsScore at h
  split at h
  · simp at h
  · omega

/-- **the faithful score is the specification's claim** (`Spec.claimScore`), with the regular
    expressions of root variables -/
theorem wsScoreE_claim {s : Service} (hg : RootGood (tokenize s.rootPath)) (qs : List Str) :
    wsScoreE E qs (tokenize s.rootPath) =
      match Spec.claimScore E s qs with
      | some sc => .yes sc
      | none => .no := by
  have hnp := hg.noPanic
  rcases hg with ⟨ts, hts, hv⟩ | ⟨hnone, hn⟩
  · obtain ⟨hr, hw⟩ := readToks_render hts
    rw [wsScoreE_eq E qs _ hnp]
    unfold Spec.claimScore
    rw [hts]
    cases hws : wsScore qs (tokenize s.rootPath) with
    | none => rfl
    | some sc =>
      simp only
      have hl : ts.length ≤ qs.length := by
        rw [readToks_length hts]; exact wsScore_length hws
      have hre : reAll E (tokenize s.rootPath) qs = Spec.rootRegexOK E ts qs := by
        conv => lhs; rw [← hr]
        exact reAll_render E ts qs (fun t ht => ⟨hw t ht, hv t ht⟩) hl
      rw [hre]
      cases Spec.rootRegexOK E ts qs <;> rfl
  · rw [wsScoreE_of_noVar E qs _ hn]
    unfold Spec.claimScore
    rw [hnone]
    cases wsScore qs (tokenize s.rootPath) <;> rfl

theorem readToks_append : ∀ {a b : List Str} {ts : List TTok}, readToks (a ++ b) = some ts →
    ∃ ta tb, ts = ta ++ tb ∧ readToks a = some ta ∧ readToks b = some tb
  | [], b, ts, h => ⟨[], ts, rfl, rfl, h⟩
  | x :: a, b, ts, h => by
    rw [List.cons_append] at h
    unfold readToks at h
    split at h
    · rename_i t ts' h1 h2
      simp only [Option.some.injEq] at h
      subst h
      obtain ⟨ta, tb, rfl, ha, hb⟩ := readToks_append h2
      refine ⟨t :: ta, tb, rfl, ?_, hb⟩
      unfold readToks
      rw [h1, ha]
    · simp at h

theorem shapeOK_verb_dropLast : ∀ (ts : List TTok), shapeOK ts = true → ∀ t ∈ ts.dropLast, t.verb = none
  | [], _, _, ht => by cases ht
  | [_], _, _, ht => by cases ht
  | t :: t' :: ts, h, x, hx => by
    obtain ⟨_, hv, h'⟩ := shapeOK_cons_cons.mp h
    rcases List.mem_cons.mp hx with rfl | hx
    · exact hv
    · exact shapeOK_verb_dropLast (t' :: ts) h' x hx

theorem shapeOK_noLastVerb (a : List TTok) (h : shapeOK a = true) (hl : lastHasVerb a = false) : ∀ t ∈ a, t.verb = none := by
  intro t ht
  cases hlast : a.getLast? with
  | none => simp [List.getLast?_eq_none_iff.mp hlast] at ht
  | some l =>
    obtain ⟨ys, rfl⟩ := List.getLast?_eq_some_iff.mp hlast
    rcases List.mem_append.mp ht with ht | ht
    · exact shapeOK_verb_dropLast _ h t (by simpa using ht)
    · rw [List.mem_singleton.mp ht]
      simpa [lastHasVerb] using hl

theorem hasCustomVerb_of_trailing_slash {p : Str} (h : p.getLast? = some '/') : hasCustomVerb p = false := by
  obtain ⟨p', rfl⟩ := List.getLast?_eq_some_iff.mp h
  simp [hasCustomVerb, customVerbOf_append_not_letter p' (c := '/') (by decide) (by decide)]

theorem rootGood_of_route {s : Service} {rt : Route} (hrt : rt ∈ s.built) {ts : List TTok}
    (hts : readTemplate rt.path = some ts) : RootGood (tokenize s.rootPath) := by
  obtain ⟨_, _, hshape, hverb, _⟩ := readTemplate_facts hts
  have hread := (readTemplate_eq_some_iff.mp hts).1
  have hpath := s.built_path hrt
  rcases all_eq_or_exists_ne '/' s.rootPath with hall | hex
  · rcases tokenize_all_slash hall with h0 | h1
    · left
      rw [h0]
      exact ⟨[], rfl, by simp⟩
    · right
      rw [h1]
      exact ⟨by decide, by simp [Spec.rootTokIsVar]⟩
  · obtain ⟨ext, htok, hext⟩ := tokenize_concatPath s.rootPath rt.relPath hex
    rw [hpath, htok] at hread
    obtain ⟨ta, tb, rfl, ha, hb⟩ := readToks_append hread
    left
    refine ⟨ta, ha, ?_⟩
    by_cases htb : tb = []
    · subst htb
      have hext0 : ext = [] := by
        have := readToks_length hb
        simpa using this.symm
      have hlast := hext hext0
      rw [← hpath] at hlast
      rw [hasCustomVerb_of_trailing_slash hlast, List.append_nil] at hverb
      rw [List.append_nil] at hshape
      exact shapeOK_noLastVerb ta hshape hverb.symm
    · exact fun t ht => shapeOK_verb_dropLast _ hshape t
        (by rw [List.dropLast_append_of_ne_nil htb]; exact List.mem_append_left _ ht)

end Curly
end Restful

namespace Restful

/-- **C03, service level** (faithful score): a longer root scores higher than its own proper
    prefix, whenever both claim the request -/
theorem C03_rootE_longer_beats_prefix (E : ReEnv) (qs a b : List Str) (hpre : b <+: a) (hne : b ≠ a) (sa sb : Nat)
    (ha : Curly.wsScoreE E qs a = .yes sa) (hb : Curly.wsScoreE E qs b = .yes sb) : sa > sb :=
  C03_root_longer_beats_prefix qs a b hpre hne sa sb (Curly.wsScore_of_wsScoreE E ha)
    (Curly.wsScore_of_wsScoreE E hb)

end Restful
