/- jsr311.go `RouterJSR311.ExtractParameters` / `extractParams` = `Jsr.extract`; the code binds into a fresh map and
   merges it, the model binds directly: `mapMerge_bindParams`. -/
import Restful.Lemmas.TieImpVocab
import Restful.Lemmas.TieImpJsrSel
import Restful.Lemmas.JsrMatch
namespace Restful
namespace TieImp
open Imp

namespace T13

theorem keys_mapSet (m : List (Str × Str)) (k v : Str) :
    (mapSet m k v).map Prod.fst = if k ∈ m.map Prod.fst then m.map Prod.fst else m.map Prod.fst ++ [k] := by
  induction m with
  | nil => simp [mapSet]
  | cons kv rest ih =>
    obtain ⟨k', v'⟩ := kv
    unfold mapSet
    by_cases h : k' = k
    · subst h; simp
    · have h' : ¬ k = k' := fun e => h e.symm
      simp only [h, if_false, List.map_cons, ih, List.mem_cons, h', false_or]
      split <;> simp

theorem mem_keys_mapSet (m : List (Str × Str)) (k v : Str) : k ∈ (mapSet m k v).map Prod.fst := by
  rw [keys_mapSet]; split <;> simp [*]

theorem mem_keys_mapSet_of (m : List (Str × Str)) (a k v : Str) (h : a ∈ m.map Prod.fst) :
    a ∈ (mapSet m k v).map Prod.fst := by
  rw [keys_mapSet]; split <;> simp [*]

theorem nodup_mapSet (m : List (Str × Str)) (k v : Str) (h : (m.map Prod.fst).Nodup) :
    ((mapSet m k v).map Prod.fst).Nodup := by
  rw [keys_mapSet]
  split
  · exact h
  · rw [List.nodup_append]
    refine ⟨h, by simp, ?_⟩
    intro a ha b hb
    simp at hb; subst hb
    intro e; subst e; contradiction

theorem mapSet_mapSet (p : List (Str × Str)) (k v' v : Str) : mapSet (mapSet p k v') k v = mapSet p k v := by
  induction p with
  | nil => simp [mapSet]
  | cons kv rest ih =>
    obtain ⟨k0, v0⟩ := kv
    by_cases h : k0 = k
    · subst h; simp [mapSet]
    · simp [mapSet, h, ih]

theorem mapSet_comm (p : List (Str × Str)) (a x k v : Str) (hk : k ∈ p.map Prod.fst) (hak : a ≠ k) :
    mapSet (mapSet p a x) k v = mapSet (mapSet p k v) a x := by
  induction p with
  | nil => simp at hk
  | cons kv rest ih =>
    obtain ⟨k0, v0⟩ := kv
    by_cases h1 : k0 = a
    · subst h1
      simp [mapSet, hak]
    · by_cases h2 : k0 = k
      · subst h2
        simp [mapSet, h1]
      · have hk' : k ∈ rest.map Prod.fst := by
          simp only [List.map_cons, List.mem_cons] at hk
          rcases hk with e | hk
          · exact absurd e.symm h2
          · exact hk
        simp [mapSet, h1, h2, ih hk']

theorem mapMerge_nil (p : List (Str × Str)) : mapMerge p [] = p := rfl

theorem mapMerge_cons (p : List (Str × Str)) (kv : Str × Str) (rest : List (Str × Str)) :
    mapMerge p (kv :: rest) = mapMerge (mapSet p kv.1 kv.2) rest := rfl

theorem mapSet_mapMerge (rest : List (Str × Str)) : ∀ (p : List (Str × Str)) (k v : Str),
    k ∈ p.map Prod.fst → k ∉ rest.map Prod.fst → mapSet (mapMerge p rest) k v = mapMerge (mapSet p k v) rest := by
  induction rest with
  | nil => intro p k v _ _; rfl
  | cons ax r ih =>
    intro p k v hk hn
    obtain ⟨a, x⟩ := ax
    simp only [List.map_cons, List.mem_cons, not_or] at hn
    rw [mapMerge_cons, mapMerge_cons, ih _ k v (mem_keys_mapSet_of p k a x hk) hn.2,
      mapSet_comm p a x k v hk (fun e => hn.1 e.symm)]

theorem mapMerge_mapSet (m : List (Str × Str)) : ∀ (ps : List (Str × Str)) (k v : Str),
    (m.map Prod.fst).Nodup → mapMerge ps (mapSet m k v) = mapSet (mapMerge ps m) k v := by
  induction m with
  | nil => intro ps k v _; rfl
  | cons kv rest ih =>
    intro ps k v hnd
    obtain ⟨k', v'⟩ := kv
    simp only [List.map_cons, List.nodup_cons] at hnd
    by_cases h : k' = k
    · subst h
      have : mapSet ((k', v') :: rest) k' v = (k', v) :: rest := by simp [mapSet]
      rw [this, mapMerge_cons, mapMerge_cons,
        mapSet_mapMerge rest _ k' v (mem_keys_mapSet ps k' v') hnd.1, mapSet_mapSet]
    · have : mapSet ((k', v') :: rest) k v = (k', v') :: mapSet rest k v := by simp [mapSet, h]
      rw [this, mapMerge_cons, mapMerge_cons, ih _ k v hnd.2]

theorem bindParams_nil_left (ms : List Str) (ps : Params) : Jsr.bindParams [] ms ps = ps := rfl

theorem bindParams_cons (n : Str) (ns : List Str) (m : Str) (ms : List Str) (ps : Params) :
    Jsr.bindParams (n :: ns) (m :: ms) ps = Jsr.bindParams ns ms (mapSet ps n m) := by
  rw [mapSet_eq]; rfl

theorem bindParams_append (ns : List Str) : ∀ (ms extra : List Str) (ps : Params), ns.length ≤ ms.length →
    Jsr.bindParams ns (ms ++ extra) ps = Jsr.bindParams ns ms ps := by
  induction ns with
  | nil => intro ms extra ps _; rfl
  | cons n ns ih =>
    intro ms extra ps h
    cases ms with
    | nil => simp at h
    | cons m ms =>
      simp only [List.length_cons, Nat.add_le_add_iff_right] at h
      rw [List.cons_append, bindParams_cons, bindParams_cons, ih _ _ _ h]

theorem mapMerge_bindParams (ns : List Str) : ∀ (ms : List Str) (ps acc : Params), (acc.map Prod.fst).Nodup →
    mapMerge ps (Jsr.bindParams ns ms acc) = Jsr.bindParams ns ms (mapMerge ps acc) := by
  induction ns with
  | nil => intro ms ps acc _; rfl
  | cons n ns ih =>
    intro ms ps acc hnd
    cases ms with
    | nil => rfl
    | cons m ms =>
      rw [bindParams_cons, bindParams_cons, ih _ _ _ (nodup_mapSet acc n m hnd), mapMerge_mapSet acc ps n m hnd]

/-- the loop over the groups `k .. len(matches)-1` (body abstract: "when `VarNames` has an `i`-th name, write
    `VarNames[i-1] ↦ matches[i]`") binds the names from the `k-1`-th on to the groups from the `k`-th on -/
theorem extract_loop (ns M : List Str) (f : Int → List (Str × Str) → Option (ForInStep (List (Str × Str))))
    (hf : ∀ (k : Nat) (acc : List (Str × Str)), 1 ≤ k →
      f (k : Int) acc = if k ≤ ns.length then
          (ns[k - 1]?).bind fun n => (M[k]?).bind fun m => some (ForInStep.yield (mapSet acc n m))
        else some (ForInStep.yield acc)) :
    ∀ (n k : Nat) (acc : List (Str × Str)), 1 ≤ k → k + n = M.length →
      forIn ((List.range' k n).map (fun j : Nat => (j : Int))) acc f
        = some (Jsr.bindParams (ns.drop (k - 1)) (M.drop k) acc) := by
  intro n
  induction n with
  | zero =>
    intro k acc _ hk
    rw [List.drop_eq_nil_of_le (as := M) (i := k) (by omega), Jsr.bindParams_nil_right]
    rfl
  | succ n ih =>
    intro k acc h1 hk
    rw [List.range'_succ, List.map_cons, List.forIn_cons, hf k acc h1]
    have hM : k < M.length := by omega
    rw [List.drop_eq_getElem_cons hM, List.getElem?_eq_getElem hM]
    by_cases hle : k ≤ ns.length
    · have hN : k - 1 < ns.length := by omega
      rw [if_pos hle, List.getElem?_eq_getElem hN, List.drop_eq_getElem_cons hN, bindParams_cons]
      simp only [Option.bind_some, Option.bind_eq_bind]
      rw [ih (k + 1) _ (by omega) (by omega)]
      rw [show k + 1 - 1 = k - 1 + 1 by omega]
    · rw [if_neg hle]
      simp only [Option.bind_some, Option.bind_eq_bind]
      rw [ih (k + 1) _ (by omega) (by omega), List.drop_eq_nil_of_le (as := ns) (i := k - 1) (by omega),
        List.drop_eq_nil_of_le (as := ns) (i := k + 1 - 1) (by omega)]
      rfl

/-- jsr311.go:58 `extractParams` on a non-nil expression: the names bound to the groups after the whole match -/
theorem extractParams_eq (X : ImpGen.Ext) (pe : ImpGen.GoPathExpression) (M : List Str) :
    ImpGen.RouterJSR311_extractParams X (some pe) M = some (Jsr.bindParams pe.VarNames (M.drop 1) []) := by
  unfold ImpGen.RouterJSR311_extractParams
  simp only [deref, Option.bind_eq_bind, Option.bind_some, Option.pure_def]
  rw [show range 1 (len M) = _ from T2.range_nat_len 1 M]
  by_cases hM : M.length = 0
  · have : M = [] := List.eq_nil_of_length_eq_zero hM
    subst this
    simp [Jsr.bindParams_nil_right]
  · rw [extract_loop pe.VarNames M _ ?hf (M.length - 1) 1 [] (by omega) (by omega)]
    · rfl
    case hf =>
      intro k acc hk
      have e1 : ((k : Int) - 1) = ((k - 1 : Nat) : Int) := by omega
      rw [e1, at?_nat, at?_nat]
      by_cases hle : k ≤ pe.VarNames.length
      · have : len pe.VarNames ≥ (k : Int) := by unfold len; omega
        simp [this, hle]
      · have : ¬ len pe.VarNames ≥ (k : Int) := by unfold len; omega
        simp [this, hle]

end T13

/-- jsr311.go `RouterJSR311.ExtractParameters` (with `extractParams`): the variables of the service's root
    expression bound to its captures, then those of the route's expression matched against the final group
    of the service's match, written over them; a nil match of the root (index −1) is a panic where the
    model says `none`; a template that does not compile (`pathExpr` nil) likewise.  The Go code merges the
    route's parameters by ranging over a map: translated as `mapMerge` (§5a) -/
theorem jsr_extract_parameters (E : ReEnv) (X : ImpGen.Ext)
    (routesOf : Service → List ImpGen.GoRoute) (gr : ImpGen.GoRoute)
    (s : Service) (r : Route) (hgr : gr.pathExpr = genPE E r.relPath) (urlPath : Str) :
    ImpGen.RouterJSR311_ExtractParameters X (some gr) (some (genSvcJ E routesOf s)) urlPath
      = Jsr.extract E s r urlPath := by
  unfold ImpGen.RouterJSR311_ExtractParameters Jsr.extract
  simp only [deref, Option.bind_eq_bind, Option.bind_some, Option.pure_def]
  rw [show (genSvcJ E routesOf s).pathExpr = genPE E s.rootPath from rfl, hgr]
  unfold genPE
  cases hw : Jsr.compile s.rootPath with
  | none => rfl
  | some wex =>
    simp only [Option.map_some, Option.bind_some, T13.extractParams_eq]
    cases hr : Jsr.compile r.relPath with
    | none =>
      simp only [Option.map_none, Option.bind_none]
    | some rex =>
      simp only [Option.map_some, Option.bind_some, T13.extractParams_eq]
      have hwn : wex.varNames = wex.toks.filterMap Jsr.varNameOf := by
        unfold Jsr.compile at hw
        cases hp : Jsr.parseToks (tokenize s.rootPath) with
        | none => simp [hp] at hw
        | some ts => simp [hp] at hw; subst hw; rfl
      have hrn : rex.varNames = rex.toks.filterMap Jsr.varNameOf := by
        unfold Jsr.compile at hr
        cases hp : Jsr.parseToks (tokenize r.relPath) with
        | none => simp [hp] at hr
        | some ts => simp [hp] at hr; subst hr; rfl
      cases hm : Jsr.matchExpr E wex.toks urlPath with
      | none => simp [reOf, hm, at?]
      | some cf =>
        obtain ⟨wcaps, fin⟩ := cf
        have hwl := Jsr.matchExpr_caps_length E hm
        simp only [reOf, hm, at?_last_snoc, Option.bind_some, List.drop_succ_cons, List.drop_zero]
        rw [T13.bindParams_append _ _ _ _ (by rw [hwn, hwl]; exact Nat.le_refl _)]
        cases hm2 : Jsr.matchExpr E rex.toks fin with
        | none => simp [Jsr.bindParams_nil_right, T13.mapMerge_nil]
        | some cf2 =>
          obtain ⟨rcaps, fin2⟩ := cf2
          have hrl := Jsr.matchExpr_caps_length E hm2
          simp only [List.drop_succ_cons, List.drop_zero]
          rw [T13.bindParams_append _ _ _ _ (by rw [hrn, hrl]; exact Nat.le_refl _),
            T13.mapMerge_bindParams _ _ _ _ (by simp), T13.mapMerge_nil]

#print axioms jsr_extract_parameters

end TieImp
end Restful
