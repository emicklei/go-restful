/- compress.go `wantsCompressedResponse` as translated on this run IS the model's `Serve.wants` -/
import Restful.Lemmas.TieImpBase
import Restful.Model.Serve
namespace Restful
namespace TieImp
open Imp

/-- which coding the container applies: none when the writer already carries a Content-Encoding, else the
    one of gzip / deflate that Accept-Encoding mentions, the one mentioned FIRST when both are (substring
    test, as in the code) -/
theorem wants_compressed (X : ImpGen.Ext) (r : Serve.Rec) (ae : Str) (hr : HttpRequest) (hw : HttpWriter)
    (h1 : hw.header "Content-Encoding".toList = Serve.getHeader r "Content-Encoding".toList)
    (h2 : hr.header "Accept-Encoding".toList = ae) :
    (ImpGen.wantsCompressedResponse X hr hw).map (fun p => if p.1 then some p.2 else none)
      = some ((Serve.wants r ae).map Serve.Coding.name) := by
  have ng : Serve.Coding.name .gzip = "gzip".toList := rfl
  have nd : Serve.Coding.name .deflate = "deflate".toList := rfl
  have he : ("".toList : Str) = [] := rfl
  unfold ImpGen.wantsCompressedResponse Serve.wants
  rw [he]
  generalize ("gzip".toList : Str) = G at *
  generalize ("deflate".toList : Str) = D at *
  generalize ("Content-Encoding".toList : Str) = CE at *
  generalize ("Accept-Encoding".toList : Str) = AE at *
  subst h2
  simp only [h1, Imp.index]
  by_cases hce : Serve.getHeader r CE = []
  · -- is "gzip" there, is "deflate" there; when both are, which comes first
    rcases Option.eq_none_or_eq_some (Str.indexSub G (hr.header AE)) with hg | ⟨gi, hg⟩
    · rcases Option.eq_none_or_eq_some (Str.indexSub D (hr.header AE)) with hz | ⟨zi, hz⟩
      · simp [hg, hz, hce]
      · simp [hg, hz, hce, nd]
    · rcases Option.eq_none_or_eq_some (Str.indexSub D (hr.header AE)) with hz | ⟨zi, hz⟩
      · simp [hg, hz, hce, ng]
      · have hgi : ((gi : Int) == -1) = false := by rw [beq_eq_false_iff_ne]; omega
        have hzi : ((zi : Int) == -1) = false := by rw [beq_eq_false_iff_ne]; omega
        by_cases hlt : gi < zi
        · simp [hg, hz, hce, ng, hgi, hzi, hlt]
        · simp [hg, hz, hce, nd, hgi, hzi, hlt]
  · simp [hce]
end TieImp
end Restful
