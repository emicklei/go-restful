/-
The tie for the Accept-header helper of mime.go (C05): `Mime.trimOWS` is the translated `trimOWS`.
`strings.Trim` is a parameter of the translated definition (tools/gotrans never interprets a library
function); the tie instantiates it with the cutset trim below, so what is tied is the call as
written: which string is trimmed with which cutset.
-/
import Restful.Gen.Translated
import Restful.Model.Mime
namespace Restful
namespace Tie
open Translated

/-- `strings.Trim(s, cutset)` (ASCII cutset): the leading and the trailing bytes that occur in the
    cutset removed -/
def trimCutset (s cutset : Str) : Str :=
  ((s.dropWhile cutset.contains).reverse.dropWhile cutset.contains).reverse

/-- mime.go:58 `trimOWS(s) = strings.Trim(s, " \t")` is the model's `Mime.trimOWS` -/
theorem mime_trim_ows (s : Str) : trimOWS trimCutset s = Mime.trimOWS s := by
  have h : (List.contains " \t".toList) = Mime.isOWS := by
    funext c
    simp only [Mime.isOWS, List.contains_cons, List.contains_nil, Bool.or_false,
      show " \t".toList = [' ', '\t'] from String.toList_ofList]
  unfold trimOWS trimCutset Mime.trimOWS
  rw [h]

end Tie
end Restful
