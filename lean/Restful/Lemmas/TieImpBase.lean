/- Prelude operations against the MODEL's string library (`Str.index`, `Str.containsSub`, `Str.trim`, parameter
   maps) and `range` as a list of naturals; TieImpBridge holds what needs the prelude only. -/
import Restful.Lemmas.TieImp
import Restful.Lemmas.TieImpBridge
import Restful.Model.Detect
namespace Restful
namespace TieImp
open Imp

theorem mapSet_eq : mapSet = setParam := by
  funext m k v
  induction m with
  | nil => rfl
  | cons p rest ih => obtain ⟨k', v'⟩ := p; simp only [mapSet, setParam, ih]

namespace T2
open Imp

/-- `strings.Contains(s, string(c))` is `strings.Index(s, string(c)) != -1` -/
theorem containsSub_single (c : Char) (s : Str) : Str.containsSub [c] s = (Str.index c s).isSome := by
  simp only [Str.containsSub, indexSub_singleton, Str.index]

/-- `strings.Trim` is `strings.TrimRight` of `strings.TrimLeft` (one-character cutset) -/
theorem trim_eq (c : Char) (s : Str) : Str.trim c s = Str.trimRight c (Str.trimLeft c s) := rfl

theorem slice_eq (s : Str) (i j : Int) : Imp.slice s i j = Str.slice? s i j := TieImp.slice_eq s i j

theorem range_nat (a b : Nat) :
    Imp.range (a : Int) (b : Int) = (List.range' a (b - a)).map (fun k : Nat => (k : Int)) := by
  unfold Imp.range
  have h1 : ((b : Int) - (a : Int)).toNat = b - a := by omega
  rw [h1, List.range_eq_range']
  generalize b - a = n
  have : ∀ s, List.map (fun k : Nat => (a : Int) + (k : Int)) (List.range' s n)
      = List.map (fun k : Nat => (k : Int)) (List.range' (a + s) n) := by
    induction n with
    | zero => simp
    | succ n ih => intro s; simp [List.range'_succ, ih, Nat.add_assoc]
  simpa using this 0

theorem range_step (k n : Nat) (h : k < n) : range (k:Int) (n:Int) = (k:Int) :: range ((k+1 : Nat) : Int) n := by
  rw [range_nat, range_nat, show n - k = (n - (k + 1)) + 1 by omega, List.range'_succ]
  rfl

theorem range_empty (k n : Nat) (h : n ≤ k) : range (k:Int) (n:Int) = [] := by
  rw [range_nat, show n - k = 0 by omega]
  rfl

theorem range_nat_len {α : Type} (a : Nat) (xs : List α) :
    Imp.range (a : Int) (len xs) = (List.range' a (xs.length - a)).map (fun k : Nat => (k : Int)) :=
  range_nat a xs.length

end T2
end TieImp
end Restful
