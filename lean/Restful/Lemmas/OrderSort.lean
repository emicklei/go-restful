/-
C03: the model's insertion sort returns a sorted list for every strict weak order; hence the first
element of the sorted list that passes a test is ranked before no other that passes it, and sorting
permuted inputs gives the same passing elements in the same order.  The routers' `Less` functions
are lexicographic comparisons (`Sort.lexStep`); CurlyRouter's `candLess` compares
(staticCount, paramCount, Path), `Str.lt` being the bytewise order on paths.
-/
import Restful.Go.Sort
import Restful.Model.Curly
namespace Restful

namespace Str

theorem lt_cons_cons (a b : Char) (as bs : Str) :
    lt (a :: as) (b :: bs) = true ↔ a.toNat < b.toNat ∨ a = b ∧ lt as bs = true := by
  rw [lt]
  by_cases h1 : a.toNat < b.toNat
  · simp [h1]
  · by_cases h2 : b.toNat < a.toNat
    · have : a ≠ b := by intro e; subst e; omega
      simp [h1, h2, this]
    · have : a = b := Char.toNat_inj.mp (by omega)
      simp [this]

/-- `lt` is the lexicographic order on the code points; its order properties are those of `List`'s -/
theorem lt_iff : ∀ {a b : Str}, lt a b = true ↔ a.map Char.toNat < b.map Char.toNat
  | [], [] => by simp [lt, List.lt_irrefl]
  | [], _ :: _ => by simp [lt, List.nil_lt_cons]
  | _ :: _, [] => by simp [lt, List.not_lt_nil]
  | a :: as, b :: bs => by
    rw [lt_cons_cons, List.map_cons, List.map_cons, List.cons_lt_cons_iff, lt_iff, Char.toNat_inj]

theorem lt_eq_false_iff {a b : Str} : lt a b = false ↔ b.map Char.toNat ≤ a.map Char.toNat := by
  rw [← List.not_lt, ← lt_iff, Bool.not_eq_true]

theorem lt_asymm {a b : Str} (h : lt a b = true) : lt b a = false :=
  Bool.eq_false_iff.mpr fun h' => List.lt_asymm (lt_iff.mp h) (lt_iff.mp h')

theorem eq_of_not_lt {a b : Str} (h1 : lt a b = false) (h2 : lt b a = false) : a = b :=
  (List.map_inj_right fun _ _ => Char.toNat_inj.mp).mp
    (List.le_antisymm (lt_eq_false_iff.mp h2) (lt_eq_false_iff.mp h1))

theorem not_lt_trans {a b c : Str} (h1 : lt a b = false) (h2 : lt b c = false) : lt a c = false :=
  lt_eq_false_iff.mpr (List.le_trans (lt_eq_false_iff.mp h2) (lt_eq_false_iff.mp h1))

end Str

end Restful
namespace Restful.Sort
variable {α : Type}

theorem insRev_sorted (less : α → α → Bool)
    (htrans : ∀ a b c, less b a = false → less c b = false → less c a = false)
    (hasym : ∀ a b, less a b = true → less b a = false)
    (x : α) : ∀ (l : List α), l.Pairwise (fun a b => less a b = false) →
      (insRev less x l).Pairwise (fun a b => less a b = false)
  | [], _ => by simp [insRev]
  | y :: ys, h => by
    rw [List.pairwise_cons] at h
    unfold insRev
    split
    · rename_i hxy
      rw [List.pairwise_cons]
      refine ⟨?_, insRev_sorted less htrans hasym x ys h.2⟩
      intro w hw
      have hw' : w ∈ x :: ys := (insRev_perm less x ys).subset hw
      simp only [List.mem_cons] at hw'
      rcases hw' with rfl | hw'
      · exact hasym _ _ hxy
      · exact h.1 w hw'
    · rename_i hxy
      have hxy' : less x y = false := by simpa using hxy
      rw [List.pairwise_cons]
      refine ⟨?_, List.pairwise_cons.mpr h⟩
      intro w hw
      simp only [List.mem_cons] at hw
      rcases hw with rfl | hw
      · exact hxy'
      · exact htrans w y x (h.1 w hw) hxy'

theorem sortRev_sorted (less : α → α → Bool)
    (htrans : ∀ a b c, less b a = false → less c b = false → less c a = false)
    (hasym : ∀ a b, less a b = true → less b a = false) :
    ∀ (l acc : List α), acc.Pairwise (fun a b => less a b = false) →
      (sortRev less acc l).Pairwise (fun a b => less a b = false)
  | [], acc, h => by simpa [sortRev] using h
  | x :: xs, acc, h => by
    unfold sortRev
    exact sortRev_sorted less htrans hasym xs _ (insRev_sorted less htrans hasym x acc h)

/-- **Sortedness of the model's sort** for every `less` that is asymmetric and whose negation is
    transitive (a strict weak order).  Asymmetry cannot be dropped: with `less := fun _ _ => true`
    the negation is (vacuously) transitive and `insertionSort less [1, 2] = [2, 1]` is not sorted
    (see the `example` below). -/
theorem insertionSort_sorted_partial (less : α → α → Bool)
    (htrans : ∀ a b c, less b a = false → less c b = false → less c a = false)
    (hasym : ∀ a b, less a b = true → less b a = false)
    (l : List α) : (insertionSort less l).Pairwise (fun a b => less b a = false) := by
  unfold insertionSort
  rw [List.pairwise_reverse]
  exact sortRev_sorted less htrans hasym l [] List.Pairwise.nil

/-- the counterexample to sortedness from negative transitivity alone -/
example : (∀ a b c : Nat, (fun _ _ => true) b a = false → (fun _ _ => true) c b = false →
      (fun _ _ => true) c a = false) ∧
    ¬ (insertionSort (fun (_ _ : Nat) => true) [1, 2]).Pairwise (fun a b => (fun _ _ => true) b a = false) := by
  refine ⟨by simp, ?_⟩
  decide

section
variable {less : α → α → Bool}
  (htrans : ∀ a b c, less b a = false → less c b = false → less c a = false)
  (hasym : ∀ a b, less a b = true → less b a = false)
include hasym

theorem irrefl_of_asymm (a : α) : less a a = false :=
  Bool.eq_false_iff.mpr fun h => Bool.noConfusion ((hasym a a h).symm.trans h)

include htrans

theorem insertionSort_filter_head (P : α → Bool) {l : List α} {c : α} {rest : List α}
    (e : (insertionSort less l).filter P = c :: rest) :
    c ∈ l ∧ P c = true ∧ ∀ c' ∈ l, P c' = true → less c' c = false := by
  have hperm := (insertionSort_perm less l).filter P
  have hsorted := (insertionSort_sorted_partial less htrans hasym l).filter P
  rw [e] at hperm hsorted
  have hc := List.mem_filter.mp (hperm.subset List.mem_cons_self)
  refine ⟨hc.1, hc.2, fun c' hc' hP => ?_⟩
  rcases List.mem_cons.mp (hperm.symm.subset (List.mem_filter.mpr ⟨hc', hP⟩)) with rfl | hm
  · exact irrefl_of_asymm hasym _
  · exact (List.pairwise_cons.mp hsorted).1 _ hm

theorem insertionSort_filter_perm (P : α → Bool) {l l' : List α} (hp : l.Perm l')
    (htie : ∀ a ∈ l, ∀ b ∈ l', P a = true → P b = true → less a b = false → less b a = false → a = b) :
    (insertionSort less l).filter P = (insertionSort less l').filter P := by
  have hL := insertionSort_perm less l
  have hL' := insertionSort_perm less l'
  refine List.Perm.eq_of_pairwise (le := fun a b => less b a = false) ?_
    ((insertionSort_sorted_partial less htrans hasym l).filter P)
    ((insertionSort_sorted_partial less htrans hasym l').filter P) ((hL.trans (hp.trans hL'.symm)).filter P)
  intro a b ha hb hab hba
  rw [List.mem_filter] at ha hb
  exact htie a (hL.subset ha.1) b (hL'.subset hb.1) ha.2 hb.2 hba hab

end

/-! ### lexicographic comparison

Each `Less` of the two routers compares a few counters in turn, the greater value first, and
falls through to the next comparison on a tie. -/

/-- one level of such a comparison: by the counter `f`, then by `next` -/
def lexStep (f : α → Nat) (next : α → α → Bool) (x y : α) : Bool :=
  if f y < f x then true else if f y > f x then false else next x y

variable {f : α → Nat} {next : α → α → Bool}

theorem lexStep_eq_false_iff {x y : α} :
    lexStep f next x y = false ↔ f x < f y ∨ f x = f y ∧ next x y = false := by
  unfold lexStep
  by_cases h1 : f y < f x
  · simp [h1]; omega
  · by_cases h2 : f y > f x
    · simp [h1, h2]
    · have e : f x = f y := by omega
      simp [e]

theorem lexStep_le {x y : α} (h : lexStep f next x y = false) : f x ≤ f y := by
  rw [lexStep_eq_false_iff] at h
  omega

theorem lexStep_trans (hn : ∀ a b c, next b a = false → next c b = false → next c a = false) (a b c : α)
    (h1 : lexStep f next b a = false) (h2 : lexStep f next c b = false) : lexStep f next c a = false := by
  rw [lexStep_eq_false_iff] at h1 h2 ⊢
  rcases h1 with h1 | ⟨e1, h1⟩
  · exact Or.inl (by omega)
  · rcases h2 with h2 | ⟨e2, h2⟩
    · exact Or.inl (by omega)
    · exact Or.inr ⟨by omega, hn a b c h1 h2⟩

theorem lexStep_asymm (hn : ∀ a b, next a b = true → next b a = false) (a b : α)
    (h : lexStep f next a b = true) : lexStep f next b a = false := by
  rw [← Bool.not_eq_false, lexStep_eq_false_iff] at h
  rw [lexStep_eq_false_iff]
  by_cases hlt : f b < f a
  · exact Or.inl hlt
  · have e : f a = f b := by omega
    exact Or.inr ⟨e.symm, hn a b (by simpa [e] using h)⟩

theorem lexStep_tie {a b : α} (h1 : lexStep f next a b = false) (h2 : lexStep f next b a = false) :
    f a = f b ∧ next a b = false ∧ next b a = false := by
  rw [lexStep_eq_false_iff] at h1 h2
  rcases h1 with h1 | ⟨e1, h1⟩
  · omega
  · rcases h2 with h2 | ⟨_, h2⟩
    · omega
    · exact ⟨e1, h1, h2⟩

end Restful.Sort
namespace Restful

namespace Curly

/-- curly_route.go:36: by staticCount, then paramCount, then the path, bytewise -/
theorem candLess_eq : candLess =
    Sort.lexStep (·.staticCount) (Sort.lexStep (·.paramCount) fun x y => Str.lt y.route.path x.route.path) :=
  rfl

theorem candLess_trans (a b c : Cand) (h1 : candLess b a = false) (h2 : candLess c b = false) :
    candLess c a = false := by
  rw [candLess_eq] at h1 h2 ⊢
  refine Sort.lexStep_trans (Sort.lexStep_trans ?_) a b c h1 h2
  exact fun _ _ _ => Str.not_lt_trans

theorem candLess_asymm (a b : Cand) (h : candLess a b = true) : candLess b a = false := by
  rw [candLess_eq] at h ⊢
  refine Sort.lexStep_asymm (Sort.lexStep_asymm ?_) a b h
  exact fun _ _ => Str.lt_asymm

theorem candLess_antisymm (a b : Cand) (h1 : candLess a b = false) (h2 : candLess b a = false) :
    a.staticCount = b.staticCount ∧ a.paramCount = b.paramCount ∧ a.route.path = b.route.path := by
  rw [candLess_eq] at h1 h2
  obtain ⟨e1, h1, h2⟩ := Sort.lexStep_tie h1 h2
  obtain ⟨e2, h1, h2⟩ := Sort.lexStep_tie h1 h2
  exact ⟨e1, e2, Str.eq_of_not_lt h2 h1⟩

end Curly
end Restful
