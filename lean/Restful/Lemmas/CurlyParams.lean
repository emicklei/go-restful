/-
C04 for CurlyRouter: the path processor (`Params.extractWalk`, path_processor.go:25) binds
every declared variable to exactly the URL text at its position (`Spec.expectedParams`),
exactly the declared names are bound, and substituting the bound values back into the
template gives the URL's segments back.
-/
import Restful.Lemmas.CurlyMatch
import Restful.Lemmas.ReadTemplate
import Restful.Model.Params
import Restful.Spec.Params
namespace Restful
open Str

namespace CurlyParams

theorem shapeOK_verb {t : TTok} {ts : List TTok} (h : shapeOK (t :: ts) = true)
    (hv : t.verb.isSome = true) : ts = [] := by
  cases ts with
  | nil => rfl
  | cons t' ts => simp [(shapeOK_cons_cons.mp h).2.1] at hv

theorem lastHasVerb_cons_of_tail {t : TTok} {ts : List TTok} (h : lastHasVerb ts = true) :
    lastHasVerb (t :: ts) = true := by
  cases ts with
  | nil => simp [lastHasVerb] at h
  | cons t' ts => rwa [lastHasVerb_cons_cons]

theorem verb_flag_head {t : TTok} {ts : List TTok} {hv : Bool} (hshape : shapeOK (t :: ts) = true)
    (hhv : lastHasVerb (t :: ts) = true → hv = true) : t.verb.isSome = true → hv = true := by
  intro h
  have := shapeOK_verb hshape h
  subst this
  apply hhv
  simpa [lastHasVerb] using h

def withVerb (t : TTok) (s : Str) : Str :=
  match t.verb with
  | none => s
  | some v => s ++ ':' :: v

theorem stripVerb_append_verb {v q : Str} (hs : hasSuffix (':' :: v) q = true) :
    Spec.stripVerb v q ++ ':' :: v = q := by
  obtain ⟨pre, rfl⟩ := hasSuffix_iff.mp hs
  rw [Spec.stripVerb_append]

theorem withVerb_unverb (E : ReEnv) (k : RouterKind) {t : TTok} {q : Str}
    (h : Spec.segOK E k t q = true) : withVerb t (Spec.unverb t q) = q := by
  unfold withVerb Spec.unverb
  cases hv : t.verb with
  | none => rfl
  | some v =>
    simp only [Spec.segOK, hv, Bool.and_eq_true] at h
    exact stripVerb_append_verb h.1

theorem tokOK_unverb (E : ReEnv) (k : RouterKind) {t : TTok} {q : Str}
    (h : Spec.segOK E k t q = true) : Spec.tokOK E k t.base (Spec.unverb t q) = true := by
  unfold Spec.unverb
  cases hv : t.verb with
  | none => simpa [Spec.segOK, hv] using h
  | some v =>
    simp only [Spec.segOK, hv, Bool.and_eq_true] at h
    exact h.2

theorem take_append_of_hasSuffix {p s : Str} (h : hasSuffix p s = true) :
    s.take (s.length - p.length) ++ p = s := by
  obtain ⟨pre, rfl⟩ := hasSuffix_iff.mp h
  have : (pre ++ p).length - p.length = pre.length := by simp
  rw [this, List.take_left' rfl]

theorem admits_cons (E : ReEnv) (k : RouterKind) {t : TTok} {ts : List TTok} {q : Str}
    {qs : List Str} (hw : t.base.isWild = false) :
    Spec.admits E k (t :: ts) (q :: qs) = (Spec.segOK E k t q && Spec.admits E k ts qs) := by
  simp [Spec.admits, hw]

theorem lookup_of_nodup : ∀ (ps : Params), (ps.map (·.1)).Nodup →
    ∀ kv ∈ ps, Spec.lookup ps kv.1 = some kv.2
  | [], _, kv, h => by simp at h
  | (k', v') :: rest, hnd, kv, h => by
    simp only [List.map_cons, List.nodup_cons] at hnd
    simp only [List.mem_cons] at h
    rcases h with rfl | h
    · simp [Spec.lookup]
    · have hne : k' ≠ kv.1 := by
        intro e
        apply hnd.1
        rw [e]
        exact List.mem_map_of_mem h
      simp only [Spec.lookup, hne, if_false]
      exact lookup_of_nodup rest hnd.2 kv h

theorem split_untokenize {qs : List Str} (hne : qs ≠ []) (hslash : ∀ q ∈ qs, '/' ∉ q) :
    split '/' (untokenize qs) = qs := by
  simp only [split, untokenize, join]
  exact List.splitOn_intercalate '/' hslash hne

theorem slice?_zero_take (s : Str) (j : Nat) (h : j ≤ s.length) :
    slice? s (0 : Nat) (j : Int) = some (s.take j) :=
  slice?_eq_some s 0 j rfl rfl (Nat.zero_le j) h

theorem slice?_name (n rest : Str) :
    slice? ('{' :: (n ++ rest)) ((0 + 1 : Nat) : Int) ((n.length + 1 : Nat) : Int) = some n := by
  rw [slice?_eq_some _ 1 (n.length + 1) rfl rfl (by omega) (by simp)]
  simp

theorem index_lbrace_cons (s : Str) : index '{' ('{' :: s) = some 0 := by
  simp [index, List.idxOf?_cons]

end CurlyParams
open CurlyParams

/-- what a base token other than the tail wildcard binds, `value` being the URL segment at its
    position without the verb -/
def Tok.binding (b : Tok) (value : Str) : Option (Str × Str) :=
  match b with
  | .var n | .re n _ => some (n, value)
  | .suf n suffix => some (n, value.take (value.length - suffix.length))
  | _ => none

theorem Spec.expectedParams_cons {t : TTok} (hw : t.base.isWild = false) (ts : List TTok) (q : Str) (qs : List Str) :
    Spec.expectedParams (t :: ts) (q :: qs) =
      (t.base.binding (Spec.unverb t q)).toList ++ Spec.expectedParams ts qs := by
  cases hb : t.base <;> simp [hb, Tok.isWild] at hw <;> simp [Spec.expectedParams, Tok.binding, hb]

theorem Tok.binding_name {b : Tok} (hw : b.isWild = false) (value : Str) :
    (b.binding value).map (·.1) = b.name? := by
  cases b <;> first | rfl | cases hw

/-- exactly the declared names are bound -/
theorem Spec.expectedParams_names (E : ReEnv) (k : RouterKind) (ts : List TTok) (hshape : shapeOK ts = true)
    (qs : List Str) (hadm : Spec.admits E k ts qs = true) :
    (Spec.expectedParams ts qs).map (·.1) = varNames ts := by
  induction ts generalizing qs with
  | nil => simp [Spec.expectedParams, varNames]
  | cons t ts ih =>
    cases qs with
    | nil => simp [Spec.admits] at hadm
    | cons q qs =>
      cases hw : t.base.isWild with
      | true =>
        have hts := shapeOK_wild_last hshape hw
        subst hts
        cases hb : t.base <;> simp [hb, Tok.isWild] at hw
        simp [Spec.expectedParams, hb, varNames, Tok.name?]
      | false =>
        rw [admits_cons E k hw, Bool.and_eq_true] at hadm
        rw [Spec.expectedParams_cons hw, Jsr.varNames_cons, List.map_append, ih (shapeOK_tail hshape) qs hadm.2,
          ← Tok.binding_name hw (Spec.unverb t q)]
        cases t.base.binding (Spec.unverb t q) <;> rfl

theorem Spec.substitute_cons (E : ReEnv) (k : RouterKind) {ps : Params} {t : TTok} {q : Str}
    (hw : t.base.isWild = false) (hseg : Spec.segOK E k t q = true)
    (hlk : ∀ kv ∈ t.base.binding (Spec.unverb t q), Spec.lookup ps kv.1 = some kv.2) (ts : List TTok) :
    Spec.substitute ps (t :: ts) = (Spec.substitute ps ts).map (q :: ·) := by
  have hwv := withVerb_unverb E k hseg
  have hok := tokOK_unverb E k hseg
  have key : ∀ s, s = Spec.unverb t q → (Spec.substitute ps ts).map (withVerb t s :: ·) = (Spec.substitute ps ts).map (q :: ·) :=
    fun s hs => by rw [hs, hwv]
  cases hb : t.base with
  | lit s =>
    have hq : Spec.unverb t q = s := by simpa [hb, Spec.tokOK] using hok
    simp only [Spec.substitute, hb]
    exact key s hq.symm
  | var n =>
    have h : Spec.lookup ps n = some (Spec.unverb t q) := hlk (n, Spec.unverb t q) (by rw [hb]; rfl)
    simp only [Spec.substitute, hb, h]
    exact key _ rfl
  | re n e =>
    have h : Spec.lookup ps n = some (Spec.unverb t q) := hlk (n, Spec.unverb t q) (by rw [hb]; rfl)
    simp only [Spec.substitute, hb, h]
    exact key _ rfl
  | suf n suffix =>
    have h := hlk (n, (Spec.unverb t q).take ((Spec.unverb t q).length - suffix.length)) (by rw [hb]; rfl)
    simp only at h
    simp only [Spec.substitute, hb, h]
    exact key _ (take_append_of_hasSuffix (by simpa [hb, Spec.tokOK] using hok))
  | wild n => simp [hb, Tok.isWild] at hw

/-- Substitution gives the URL's segments back from ANY parameter list in which every expected
    binding is found (the form `Spec.c04Holds` tests). -/
theorem Spec.substitute_of_lookup (E : ReEnv) (k : RouterKind) (ps : Params) :
    ∀ (ts : List TTok), shapeOK ts = true → ∀ (qs : List Str), (∀ q ∈ qs, '/' ∉ q) →
      Spec.admits E k ts qs = true →
      (∀ kv ∈ Spec.expectedParams ts qs, Spec.lookup ps kv.1 = some kv.2) →
      Spec.substitute ps ts = some qs
  | [], _, qs, _, hadm, _ => by
    cases qs with
    | nil => rfl
    | cons q qs => simp [Spec.admits] at hadm
  | t :: ts, _, [], _, hadm, _ => by simp [Spec.admits] at hadm
  | t :: ts, hshape, q :: qs, hslash, hadm, hlk => by
    cases hw : t.base.isWild with
    | true =>
      have hts := shapeOK_wild_last hshape hw
      subst hts
      cases hb : t.base <;> simp [hb, Tok.isWild] at hw
      rename_i n
      have := hlk (n, untokenize (q :: qs)) (by simp [Spec.expectedParams, hb])
      simp only at this
      simp only [Spec.substitute, hb, this]
      rw [split_untokenize (by simp) hslash]
    | false =>
      rw [admits_cons E k hw, Bool.and_eq_true] at hadm
      rw [Spec.expectedParams_cons hw] at hlk
      rw [Spec.substitute_cons E k hw hadm.1 (fun kv hkv => hlk kv (List.mem_append_left _ (by simpa using hkv))),
        Spec.substitute_of_lookup E k ps ts (shapeOK_tail hshape) qs (fun x hx => hslash x (by simp [hx])) hadm.2
          (fun kv hkv => hlk kv (List.mem_append_right _ hkv))]
      rfl

/-- with distinct names, `lookup` finds every expected binding (the middle clause of `c04Holds`) -/
theorem Spec.lookup_expectedParams (E : ReEnv) (k : RouterKind) (ts : List TTok)
    (hshape : shapeOK ts = true) (hnd : (varNames ts).Nodup) (qs : List Str)
    (hadm : Spec.admits E k ts qs = true) :
    ∀ kv ∈ Spec.expectedParams ts qs, Spec.lookup (Spec.expectedParams ts qs) kv.1 = some kv.2 := by
  apply lookup_of_nodup
  rw [Spec.expectedParams_names E k ts hshape qs hadm]
  exact hnd

/-- substituting the bound values back into the template reproduces the URL's segments -/
theorem Spec.substitute_expected (E : ReEnv) (k : RouterKind) (ts : List TTok)
    (hshape : shapeOK ts = true) (hnd : (varNames ts).Nodup) (qs : List Str)
    (hslash : ∀ q ∈ qs, '/' ∉ q) (hadm : Spec.admits E k ts qs = true) :
    Spec.substitute (Spec.expectedParams ts qs) ts = some qs :=
  Spec.substitute_of_lookup E k _ ts hshape qs hslash hadm
    (Spec.lookup_expectedParams E k ts hshape hnd qs hadm)

namespace Params
variable (E : ReEnv)

/-- the part of one loop iteration after the custom verb has been dealt with: `key`, `value`
    are the route token / URL segment without their verbs, `url` is `urlParts[i:]` -/
def stepBody (hv : Bool) (keys url : List Str) (key value : Str) (ps : Params) : Option Params :=
  match index '{' key with
  | none => extractWalk hv keys url.tail ps
  | some startIndex =>
    match index ':' key with
    | some colon =>
      match slice? key (colon + 1 : Nat) ((key.length : Int) - 1), slice? key 1 colon with
      | some regPart, some keyPart =>
        if regPart = ['*'] then some (setParam ps keyPart (untokenize url))
        else extractWalk hv keys url.tail (setParam ps keyPart value)
      | _, _ => none
    | none =>
      let endKeyIndex : Int := match index '}' key with
        | some i => i
        | none => -1
      let suffixLength : Int := key.length - endKeyIndex - 1
      let endValueIndex : Int := value.length - suffixLength
      match slice? key (startIndex + 1 : Nat) endKeyIndex, slice? value startIndex endValueIndex with
      | some name, some v => extractWalk hv keys url.tail (setParam ps name v)
      | _, _ => none

/-- what one iteration on the rendering of base token `b` comes to, `value` being the URL
    segment `q` without its verb -/
def stepOf (hv : Bool) (keys : List Str) (q : Str) (qs : List Str) (ps : Params) (value : Str) :
    Tok → Option Params
  | .lit _ => extractWalk hv keys qs ps
  | .var n => extractWalk hv keys qs (setParam ps n value)
  | .re n _ => extractWalk hv keys qs (setParam ps n value)
  | .suf n suffix =>
    extractWalk hv keys qs (setParam ps n (value.take (value.length - suffix.length)))
  | .wild n => some (setParam ps n (untokenize (q :: qs)))

theorem stepOf_of_binding {b : Tok} (hw : b.isWild = false) (hv : Bool) (keys : List Str) (q : Str) (qs : List Str)
    (ps : Params) (value : Str) :
    stepOf hv keys q qs ps value b =
      extractWalk hv keys qs (match b.binding value with
        | some kv => setParam ps kv.1 kv.2
        | none => ps) := by
  cases b <;> first | rfl | cases hw

theorem extractWalk_cons (hv : Bool) (key : Str) (keys url : List Str) (ps : Params) :
    extractWalk hv (key :: keys) url ps =
      stepBody hv keys url
        (if (hv && hasCustomVerb key) = true then removeCustomVerb key else key)
        (if (hv && hasCustomVerb key) = true then removeCustomVerb (url.headD []) else url.headD [])
        ps := by
  rw [extractWalk]
  rfl

theorem stepBody_render {b : Tok} (hb : b.wf = true) (hv : Bool) (keys : List Str) (q : Str)
    (qs : List Str) (value : Str) (ps : Params) (hok : Spec.tokOK E .curly b value = true) :
    stepBody hv keys (q :: qs) b.render value ps =
      stepOf hv keys q qs ps value b := by
  cases b with
  | lit s =>
    have hno : '{' ∉ s := (litOK_not_mem (s := s) (by simpa [Tok.wf] using hb)).2.2.1
    simp only [stepBody, stepOf, Tok.render, index_eq_none hno, List.tail_cons]
  | var n =>
    have hcolon := Tok.index_colon_render hb
    have hbrace := Tok.index_rbrace_render_var hb
    have hname : slice? (Tok.var n).render ((0 + 1 : Nat) : Int) ((n.length + 1 : Nat) : Int) = some n := by
      simpa [Tok.render] using slice?_name n ['}']
    have hlen : (((Tok.var n).render.length : Nat) : Int) - ((n.length + 1 : Nat) : Int) - 1 = 0 := by
      simp only [Tok.render, List.length_cons, List.length_append, List.length_nil]; omega
    have hval : slice? value ((0 : Nat) : Int) ((value.length : Int) - 0) = some value := by
      have := slice?_zero_take value value.length (Nat.le_refl _)
      simpa using this
    have hidx : index '{' (Tok.var n).render = some 0 := index_lbrace_cons _
    simp only [stepBody, stepOf, hidx, hcolon, hbrace, hname, hlen, hval, List.tail_cons]
  | re n e =>
    have hne := Tok.re_ne_star hb
    have hcolon := Tok.index_colon_render hb
    have hreg := Tok.regPart_render_re n e
    unfold Curly.regPart at hreg
    have hname : slice? (Tok.re n e).render (1 : Int) ((n.length + 1 : Nat) : Int) = some n := by
      simpa [Tok.render] using slice?_name n (':' :: e ++ ['}'])
    have hidx : index '{' (Tok.re n e).render = some 0 := index_lbrace_cons _
    simp only [stepBody, stepOf, hidx, hcolon, hreg, hname, hne, if_false, List.tail_cons]
  | suf n suffix =>
    have hcolon := Tok.index_colon_render hb
    have hbrace := Tok.index_rbrace_render_suf hb
    have hname : slice? (Tok.suf n suffix).render ((0 + 1 : Nat) : Int) ((n.length + 1 : Nat) : Int) = some n := by
      simpa [Tok.render] using slice?_name n ('}' :: suffix)
    have hlen : (((Tok.suf n suffix).render.length : Nat) : Int) - ((n.length + 1 : Nat) : Int) - 1 =
        (suffix.length : Int) := by
      simp only [Tok.render, List.length_cons, List.length_append]; omega
    have hsuf : hasSuffix suffix value = true := by simpa [Spec.tokOK] using hok
    have hle : suffix.length ≤ value.length := by
      obtain ⟨pre, rfl⟩ := hasSuffix_iff.mp hsuf
      simp
    have hval : slice? value ((0 : Nat) : Int) ((value.length : Int) - (suffix.length : Int)) =
        some (value.take (value.length - suffix.length)) := by
      have := slice?_zero_take value (value.length - suffix.length) (by omega)
      rwa [Int.ofNat_sub hle] at this
    have hidx : index '{' (Tok.suf n suffix).render = some 0 := index_lbrace_cons _
    simp only [stepBody, stepOf, hidx, hcolon, hbrace, hname, hlen, hval, List.tail_cons]
  | wild n =>
    have hcolon := Tok.index_colon_render hb
    have hreg := Tok.regPart_render_wild n
    unfold Curly.regPart at hreg
    have hname : slice? (Tok.wild n).render (1 : Int) ((n.length + 1 : Nat) : Int) = some n := by
      simpa [Tok.render] using slice?_name n [':', '*', '}']
    have hidx : index '{' (Tok.wild n).render = some 0 := index_lbrace_cons _
    simp only [stepBody, stepOf, hidx, hcolon, hreg, hname, if_true]

theorem extractWalk_cons_render {t : TTok} (ht : t.wf = true) {hv : Bool}
    (hhv : t.verb.isSome = true → hv = true) (keys : List Str) (q : Str) (qs : List Str)
    (ps : Params) (hseg : Spec.segOK E .curly t q = true) :
    extractWalk hv (t.render :: keys) (q :: qs) ps =
      stepOf hv keys q qs ps (Spec.unverb t q) t.base := by
  have hval : (if (hv && hasCustomVerb t.render) = true then removeCustomVerb q else q) = Spec.unverb t q := by
    rw [(TTok.verb_flag ht hhv).1, Spec.unverb]
    cases hverb : t.verb with
    | none => rfl
    | some v =>
      simp only [Spec.segOK, hverb, Bool.and_eq_true] at hseg
      simp [removeCustomVerb_eq_stripVerb (TTok.wf_verb ht hverb).1 hseg.1]
  rw [extractWalk_cons, (TTok.verb_flag ht hhv).2, List.headD_cons, hval,
    stepBody_render E (TTok.wf_base ht) hv keys q qs _ ps (tokOK_unverb E .curly hseg)]

/-- The loop, started anywhere inside a template: `ts` is the part of the template still to be
    read, `ps` the bindings made so far (none of them for a name still to come).  `hv` is the
    route's (fixed) verb flag; all that is needed of it is that it is set when the last token
    carries a verb. -/
theorem extractWalk_spec_aux (hv : Bool) :
    ∀ (ts : List TTok), (∀ t ∈ ts, t.wf = true) → shapeOK ts = true →
      (lastHasVerb ts = true → hv = true) → (varNames ts).Nodup →
      ∀ (qs : List Str) (ps : Params), (∀ n ∈ varNames ts, n ∉ ps.map (·.1)) →
      Spec.admits E .curly ts qs = true →
      extractWalk hv (ts.map TTok.render) qs ps = some (ps ++ Spec.expectedParams ts qs)
  | [], _, _, _, _, qs, ps, _, _ => by
    simp [extractWalk, Spec.expectedParams]
  | t :: ts, _, _, _, _, [], ps, _, hadm => by simp [Spec.admits] at hadm
  | t :: ts, hwf, hshape, hhv, hnd, q :: qs, ps, hdisj, hadm => by
    have ht : t.wf = true := hwf t (by simp)
    have hhv' := verb_flag_head hshape hhv
    rw [Jsr.varNames_cons] at hnd hdisj
    cases hw : t.base.isWild with
    | true =>
      have hts := shapeOK_wild_last hshape hw
      subst hts
      have hverb := TTok.wf_wild_verb ht hw
      cases hb : t.base <;> simp [hb, Tok.isWild] at hw
      rename_i n
      have hseg : Spec.segOK E .curly t q = true := by simp [Spec.segOK, hverb, hb, Spec.tokOK]
      have hn : n ∉ ps.map (·.1) := hdisj n (by simp [hb, Tok.name?])
      rw [List.map_cons, extractWalk_cons_render E ht hhv' _ q qs ps hseg]
      simp only [hb, stepOf, Spec.expectedParams, Jsr.setParam_not_mem hn]
    | false =>
      rw [admits_cons E .curly hw, Bool.and_eq_true] at hadm
      obtain ⟨hseg, hadm'⟩ := hadm
      have ih := extractWalk_spec_aux hv ts (fun x hx => hwf x (by simp [hx]))
        (shapeOK_tail hshape) (fun h => hhv (lastHasVerb_cons_of_tail h))
        (List.Nodup.sublist (List.sublist_append_right _ _) hnd) qs
      rw [List.map_cons, extractWalk_cons_render E ht hhv' _ q qs ps hseg, stepOf_of_binding hw,
        Spec.expectedParams_cons hw]
      rw [← Tok.binding_name hw (Spec.unverb t q)] at hnd hdisj
      cases hbd : t.base.binding (Spec.unverb t q) with
      | none =>
        rw [hbd] at hdisj
        exact ih ps (by simpa using hdisj) hadm'
      | some kv =>
        -- the accumulator grows by one new key
        simp only [hbd, Option.map_some, Option.toList_some, List.singleton_append, List.nodup_cons, List.mem_cons,
          forall_eq_or_imp] at hnd hdisj ⊢
        rw [Jsr.setParam_not_mem hdisj.1, ih (ps ++ [kv]) ?_ hadm']
        · simp
        · intro m hm
          simp only [List.map_append, List.map_cons, List.map_nil, List.mem_append,
            List.mem_singleton, not_or]
          exact ⟨hdisj.2 m hm, fun e => hnd.1 (e ▸ hm)⟩

/-- the path processor binds every declared variable to exactly the URL text at its position -/
theorem extractWalk_spec (E : ReEnv) (ts : List TTok) (hwf : ∀ t ∈ ts, t.wf = true)
    (hshape : shapeOK ts = true) (hnd : (varNames ts).Nodup) (qs : List Str)
    (hadm : Spec.admits E .curly ts qs = true) :
    Params.extractWalk (lastHasVerb ts) (ts.map TTok.render) qs [] = some (Spec.expectedParams ts qs) := by
  have := extractWalk_spec_aux E (lastHasVerb ts) ts hwf hshape id hnd qs [] (by simp) hadm
  simpa using this

end Params

/-- non-vacuity: `/users/{id}/{file}.json:export` on `/users/u1/report.json:export` -/
example :
    let ts : List TTok :=
      [ { base := .lit "users".toList },
        { base := .var "id".toList },
        { base := .suf "file".toList ".json".toList, verb := some "export".toList } ]
    let E : ReEnv := ⟨fun _ _ => true, fun _ _ => true⟩
    let qs : List Str := ["users", "u1", "report.json:export"].map String.toList
    let ps : Params := [("id".toList, "u1".toList), ("file".toList, "report".toList)]
    (∀ t ∈ ts, t.wf = true) ∧ shapeOK ts = true ∧ (varNames ts).Nodup ∧ lastHasVerb ts = true ∧
      (∀ q ∈ qs, '/' ∉ q) ∧ Spec.admits E .curly ts qs = true ∧
      Params.extractWalk (lastHasVerb ts) (ts.map TTok.render) qs [] = some ps ∧
      Spec.expectedParams ts qs = ps ∧ ps.map (·.1) = varNames ts ∧
      Spec.substitute ps ts = some qs := by
  simp only [List.map]
  decide_lits

/-- non-vacuity: `/static/{rest:*}` on `/static/css/site.css` -/
example :
    let ts : List TTok :=
      [ { base := .lit "static".toList },
        { base := .wild "rest".toList } ]
    let E : ReEnv := ⟨fun _ _ => true, fun _ _ => true⟩
    let qs : List Str := ["static", "css", "site.css"].map String.toList
    let ps : Params := [("rest".toList, "css/site.css".toList)]
    (∀ t ∈ ts, t.wf = true) ∧ shapeOK ts = true ∧ (varNames ts).Nodup ∧ lastHasVerb ts = false ∧
      (∀ q ∈ qs, '/' ∉ q) ∧ Spec.admits E .curly ts qs = true ∧
      Params.extractWalk (lastHasVerb ts) (ts.map TTok.render) qs [] = some ps ∧
      Spec.expectedParams ts qs = ps ∧ ps.map (·.1) = varNames ts ∧
      Spec.substitute ps ts = some qs := by
  simp only [List.map]
  decide_lits

end Restful
