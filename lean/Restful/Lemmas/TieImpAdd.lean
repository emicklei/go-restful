/- container.go `Container.Add` (with the lazy `service.Path("/")` and the duplicate-root exit) = the `add` step of
   the registry model, `Registry.step`. -/
import Restful.Lemmas.TieImpRegistry
import Restful.Lemmas.TieImpBuild
namespace Restful
namespace TieImp
open Imp
set_option linter.unusedVariables false  -- `hT hq hts` (and `quote`): the "/" template has no tokens, they are not needed

/-- what the registry model tracks of a container: the root paths of its WebServices in order, the patterns
    on its ServeMux, the flag `isRegisteredOnRoot` -/
def contView (c : ImpGen.GoContainer) : List (Option Str) × MuxLog × Bool :=
  (c.webServices.map (fun w => w.map (·.rootPath)), c.ServeMux, c.isRegisteredOnRoot)

namespace T18

theorem path_slash (X : ImpGen.Ext) (hc : ∀ e : Str, (X.regexp_Compile e).2 = none) (w : ImpGen.GoWebService) :
    ∃ w' : ImpGen.GoWebService, ImpGen.WebService_Path X (some w) ['/'] = some (some w', some w') ∧ w'.rootPath = ['/'] := by
  obtain ⟨t, ht⟩ : ∃ t, ImpGen.templateToRegularExpression X ['/'] = some t := ⟨_, rfl⟩
  unfold ImpGen.WebService_Path ImpGen.WebService_compilePathExpression ImpGen.newPathExpression
  dsimp only
  have h0 : (len ['/'] == (0:Int)) = false := by decide
  simp only [deref, Option.bind_eq_bind, Option.bind_some, Option.pure_def, h0, Bool.false_eq_true, if_false, ht, hc,
    Option.isSome_none]
  exact ⟨_, rfl, rfl⟩

/-- the duplicate-root search: `if each.RootPath() == service.RootPath() { os.Exit(1) }` -/
theorem dup_loop (g : Registry.Svc → ImpGen.GoWebService) (root : Str)
    (f : Option ImpGen.GoWebService → PUnit.{1} → Option (ForInStep PUnit.{1})) (l : List Registry.Svc)
    (hf : ∀ r u, f (some (g r)) u = if (r.root == root) = true then none else some (.yield ⟨⟩)) :
    forIn (l.map fun r => some (g r)) PUnit.unit f
      = if l.any (fun r => r.root == root) = true then none else some ⟨⟩ := by
  induction l with
  | nil => rfl
  | cons r rs ih =>
    simp only [List.map_cons, List.forIn_cons, hf, List.any_cons]
    by_cases h : (r.root == root) = true
    · simp only [h, if_true, Bool.true_or]; rfl
    · simp only [h, if_false, Bool.false_eq_true, Bool.false_or, Option.bind_eq_bind, Option.bind_some, ih]

/-- `add_handler` for a `*WebService` value that is not `g s` (the one being added is not registered yet) -/
theorem add_handler' (X : ImpGen.Ext)
    (hmux : ∀ (t : Mux.Table) (p : Str), X.mux_HandleFunc (muxRepr t) p =
      (match Mux.register t p .dispatch with
       | .ok t' => some (muxRepr t')
       | .error _ => none))
    (g : Registry.Svc → ImpGen.GoWebService) (hg : ∀ s, (g s).rootPath = s.root)
    (c : Option ImpGen.GoContainer) (registered : List Registry.Svc) (s : Registry.Svc) (t : Mux.Table)
    (w : ImpGen.GoWebService) (hw : w.rootPath = s.root) (hn : s ∉ registered) :
    ImpGen.Container_addHandler X c (some w) (muxRepr t) (registered.map (fun r => some (g r)))
      = (match Registry.addHandler registered s t with
         | .ok (t', b) => some (b, muxRepr t')
         | .error _ => none) := by
  have h := add_handler X hmux (fun x => if x = s then w else g x)
    (by intro x; by_cases hx : x = s <;> simp [hx, hw, hg]) c registered s t
  have e : registered.map (fun r => some ((fun x => if x = s then w else g x) r)) = registered.map (fun r => some (g r)) := by
    apply List.map_congr_left
    intro r hr
    have : r ≠ s := fun h => hn (h ▸ hr)
    simp [this]
  rw [e] at h
  rw [if_pos rfl] at h
  exact h

end T18

/-- container.go `Container.Add` (with the lazy `service.Path("/")`, the duplicate-root exit, `addHandler`):
    as translated on this run IS the `add` step of the registry model — same services, same ServeMux
    patterns, same root flag; `os.Exit` (duplicate root path) and a panic of `ServeMux.HandleFunc` are `none`
    where the model has an error.  `ServeMux.HandleFunc` behaves like the model's `Mux.register` (`hmux`);
    `regexp.Compile` accepts the expression of "/" (`hc`: otherwise the library exits) -/
theorem container_add (X : ImpGen.Ext) (quote : Str → Str) (m : Str → Regexp)
    (hT : X.TrimRightSlashEnabled = true) (hq : X.regexp_QuoteMeta = quote) (hts : X.strings_TrimSpace = Jsr.trimSpace)
    (hc : ∀ e : Str, X.regexp_Compile e = (m e, none))
    (hmux : ∀ (t : Mux.Table) (p : Str), X.mux_HandleFunc (muxRepr t) p =
      (match Mux.register t p .dispatch with
       | .ok t' => some (muxRepr t')
       | .error _ => none))
    (g : Registry.Svc → ImpGen.GoWebService) (hg : ∀ s, (g s).rootPath = s.root)
    (st : Registry.State) (c0 : ImpGen.GoContainer)
    (hc0 : c0.webServices = st.services.map (fun s => some (g s)) ∧ c0.ServeMux = muxRepr st.mux ∧
           c0.isRegisteredOnRoot = st.onRoot)
    (s : Registry.Svc) (w : ImpGen.GoWebService) (hw : w.rootPath = s.svc.root) :
    (ImpGen.Container_Add X (some c0) (some w)).map (fun r => r.1.map contView)
      = (match Registry.step st (.add s) with
         | .ok st' => some (some (st'.services.map (fun x => some x.root), muxRepr st'.mux, st'.onRoot))
         | .error _ => none) := by
  obtain ⟨h1, h2, h3⟩ := hc0
  -- what happens after the lazy `Path("/")`, for the service value `w'` that is registered
  have key : ∀ w' : ImpGen.GoWebService, w'.rootPath = s.root →
      ∀ f : Option ImpGen.GoWebService → PUnit.{1} → Option (ForInStep PUnit.{1}),
      (∀ r u, f (some (g r)) u = if (r.root == s.root) = true then none else some (.yield ⟨⟩)) →
      ((forIn c0.webServices PUnit.unit f).bind fun _ =>
        if (!c0.isRegisteredOnRoot) = true then
          (ImpGen.Container_addHandler X (some c0) (some w') c0.ServeMux c0.webServices).bind fun x =>
            some (some ({ webServices := push c0.webServices (some w'), ServeMux := x.snd, isRegisteredOnRoot := x.fst } : ImpGen.GoContainer),
                  some ({ webServices := push c0.webServices (some w'), ServeMux := x.snd, isRegisteredOnRoot := x.fst } : ImpGen.GoContainer), some w')
        else some (some { webServices := push c0.webServices (some w'), ServeMux := c0.ServeMux, isRegisteredOnRoot := c0.isRegisteredOnRoot },
                   some { webServices := push c0.webServices (some w'), ServeMux := c0.ServeMux, isRegisteredOnRoot := c0.isRegisteredOnRoot }, some w')).map
          (fun r => r.1.map contView)
      = (match Registry.step st (.add s) with
         | .ok st' => some (some (st'.services.map (fun x => some x.root), muxRepr st'.mux, st'.onRoot))
         | .error _ => none) := by
    intro w' hw' f hf
    rw [h1, h2, h3, T18.dup_loop g s.root f st.services hf]
    unfold Registry.step
    by_cases hany : st.services.any (fun each => each.root == s.root) = true
    · simp only [hany, if_true]; rfl
    · have hn : s ∉ st.services := by
        intro hmem
        apply hany
        rw [List.any_eq_true]
        exact ⟨s, hmem, by simp⟩
      simp only [hany, if_false, Bool.false_eq_true, Option.bind_some]
      have hview : (push (st.services.map fun s => some (g s)) (some w')).map (fun w => w.map (·.rootPath))
          = (st.services ++ [s]).map (fun x => some x.root) := by
        simp [push, hg, hw', Function.comp_def]
      cases hr : st.onRoot
      · simp only [Bool.not_false, if_true, Bool.false_eq_true, if_false,
          T18.add_handler' X hmux g hg (some c0) st.services s st.mux w' hw' hn]
        cases Registry.addHandler st.services s st.mux with
        | error e => rfl
        | ok p =>
          simp only [Option.bind_some, Option.map_some, contView, hview]
      · simp only [Bool.not_true, Bool.false_eq_true, if_false, if_true, Option.map_some, contView, hview]
  have hroot : s.root = if s.svc.root.isEmpty then ['/'] else s.svc.root := rfl
  unfold ImpGen.Container_Add
  dsimp only
  simp only [deref, Option.bind_eq_bind, Option.bind_some, Option.pure_def, len_beq_zero', String.reduceToList]
  by_cases he : w.rootPath.isEmpty = true
  · obtain ⟨w', hp, hr'⟩ := T18.path_slash X (fun e => by rw [hc]) w
    have hw' : w'.rootPath = s.root := by rw [hroot, ← hw, if_pos he, hr']
    simp only [he, if_true, hp, Option.bind_some]
    exact key w' hw' _ (by
      intro r u
      simp only [Option.bind_some, hg, hw']
      by_cases h : (r.root == s.root) = true <;> simp only [h, if_true, if_false, Bool.false_eq_true] <;> rfl)
  · have hw' : w.rootPath = s.root := by rw [hroot, ← hw, if_neg he]
    simp only [he, if_false, Bool.false_eq_true]
    exact key w hw' _ (by
      intro r u
      simp only [Option.bind_some, hg, hw']
      by_cases h : (r.root == s.root) = true <;> simp only [h, if_true, if_false, Bool.false_eq_true] <;> rfl)

#print axioms container_add

end TieImp
end Restful
