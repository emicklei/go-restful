/- cors_filter.go: the CORS filter and the functions it calls = `Cors.corsOut` and its parts; options_filter.go
   `Container.OPTIONSFilter` = `Options.optionsOut`.  Stated on the generated structures (`cfgOf`, `reqOf` read a
   filter value and a request); TieImpFilters states the two filters on model values. -/
import Restful.Lemmas.TieImpTactic
import Restful.Lemmas.TieImpVocab
import Restful.Lemmas.TieImpAllowed
import Restful.Lemmas.Cors
import Restful.Model.Options
namespace Restful
namespace TieImp
namespace T11
open Imp
set_option linter.unusedSimpArgs false  -- see TieImpTactic

/-- a `for … range` whose body is `if f x { return true }; if g x { return true }` -/
theorem any_loop2 {α : Type} (f g : α → Bool) (l : List α) :
    forIn l ((none : Option Bool), ()) (fun p _ =>
      if f p = true then (some (ForInStep.done (some true, ())) : Option _)
      else if g p = true then some (ForInStep.done (some true, ()))
      else some (ForInStep.yield (none, ()))) = some (if l.any (fun x => f x || g x) then some true else none, ()) := by
  rw [any_loop_gen (fun x => f x || g x) _ l _ (some true, ()) fun x => by cases f x <;> cases g x <;> rfl]
  cases l.any _ <;> rfl

/-- the fields of the filter value the model reads -/
def cfgOf (c : ImpGen.GoCrossOriginResourceSharing) : Cors.CorsCfg :=
  { exposeHeaders := c.ExposeHeaders, allowedHeaders := c.AllowedHeaders, allowedDomains := c.AllowedDomains,
    pred := c.AllowedDomainFunc, allowedMethods := c.AllowedMethods, maxAge := c.MaxAge, cookies := c.CookiesAllowed }

theorem isOriginAllowed_tie (X : ImpGen.Ext) (c : ImpGen.GoCrossOriginResourceSharing) (origin : Str) :
    ImpGen.CrossOriginResourceSharing_isOriginAllowed X c origin
      = some (Cors.isOriginAllowed X.strings_ToLower (cfgOf c) origin) := by
  unfold ImpGen.CrossOriginResourceSharing_isOriginAllowed Cors.isOriginAllowed
  simp only [deref, Option.bind_eq_bind, Option.pure_def, any_loop, len_beq_zero', cfgOf,
    Option.bind_some, Cors.domainLoop_eq_any, Cors.sDotStar, List.length_eq_zero_iff, List.isEmpty_iff]
  generalize (c.AllowedDomains.any _) = b
  -- both sides ask, in this order: empty origin, empty list, a hit `b` in the list, a predicate
  cases origin
  case nil => rfl
  cases c.AllowedDomains
  all_goals cases c.AllowedDomainFunc <;> cases b <;> rfl

theorem isValidMethod_tie (X : ImpGen.Ext) (c : ImpGen.GoCrossOriginResourceSharing) (m : Str) (l : List Str) :
    ImpGen.CrossOriginResourceSharing_isValidAccessControlRequestMethod X c m l
      = some (Cors.isValidAccessControlRequestMethod m l) := by
  unfold ImpGen.CrossOriginResourceSharing_isValidAccessControlRequestMethod
  simp only [Option.bind_eq_bind, Option.pure_def, any_loop, Option.bind_some, Cors.isValidMethod_eq, List.any_beq']
  generalize l.contains m = b
  cases b <;> rfl

theorem isValidHeader_tie (X : ImpGen.Ext) (c : ImpGen.GoCrossOriginResourceSharing) (h : Str) :
    ImpGen.CrossOriginResourceSharing_isValidAccessControlRequestHeader X c h
      = some (Cors.isValidAccessControlRequestHeader X.strings_ToLower h (cfgOf c).allowedHeaders) := by
  unfold ImpGen.CrossOriginResourceSharing_isValidAccessControlRequestHeader
  simp only [Option.bind_eq_bind, Option.pure_def]
  -- the loop returns at the first element that passes the test, however the body spells the test (two `if`s,
  -- one `||`, the lower-cased header computed once before the loop)
  rw [any_loop_gen (fun e => X.strings_ToLower e == X.strings_ToLower h || e == "*".toList)]
  case hf =>
    intro x
    cases (X.strings_ToLower x == X.strings_ToLower h) <;> cases (x == "*".toList) <;> rfl
  simp only [Option.bind_some, Cors.isValidHeader_eq, Spec.headerAllowed, Cors.sStar, cfgOf]
  generalize (c.AllowedHeaders.any _) = b
  cases b <;> rfl

theorem exposeHeaders_tie (X : ImpGen.Ext) (c : ImpGen.GoCrossOriginResourceSharing) (resp : RespLog) :
    ImpGen.CrossOriginResourceSharing_checkAndSetExposeHeaders X c resp
      = some (resp ++ Cors.checkAndSetExposeHeaders (cfgOf c)) := by
  unfold ImpGen.CrossOriginResourceSharing_checkAndSetExposeHeaders Cors.checkAndSetExposeHeaders
  simp only [Option.pure_def, len_pos']
  show _ = some (resp ++ if c.ExposeHeaders.length > 0 then [("Access-Control-Expose-Headers".toList, Str.join ",".toList c.ExposeHeaders)] else [])
  cases c.ExposeHeaders <;> simp [push]

theorem allowCredentials_tie (X : ImpGen.Ext) (c : ImpGen.GoCrossOriginResourceSharing) (resp : RespLog) :
    ImpGen.CrossOriginResourceSharing_checkAndSetAllowCredentials X c resp
      = some (resp ++ Cors.checkAndSetAllowCredentials (cfgOf c)) := by
  unfold ImpGen.CrossOriginResourceSharing_checkAndSetAllowCredentials Cors.checkAndSetAllowCredentials
  simp only [Option.pure_def]
  show _ = some (resp ++ if c.CookiesAllowed then [("Access-Control-Allow-Credentials".toList, "true".toList)] else [])
  cases c.CookiesAllowed <;> simp [push]

/-- what the filter reads of a request -/
def reqOf (hr : HttpRequest) : Cors.CorsReq :=
  { method := hr.method, path := hr.path, origin := hr.header "Origin".toList,
    acrm := hr.header "Access-Control-Request-Method".toList,
    acrh := hr.header "Access-Control-Request-Headers".toList }

theorem setAllowOrigin_tie (X : ImpGen.Ext) (c : ImpGen.GoCrossOriginResourceSharing) (hr : HttpRequest) (resp : RespLog) :
    ImpGen.CrossOriginResourceSharing_setAllowOriginHeader X c (some { Request := hr }) resp
      = some (resp ++ Cors.setAllowOriginHeader X.strings_ToLower (cfgOf c) (reqOf hr)) := by
  unfold ImpGen.CrossOriginResourceSharing_setAllowOriginHeader Cors.setAllowOriginHeader
  simp only [Option.pure_def, deref, Option.bind_eq_bind, Option.bind_some, isOriginAllowed_tie]
  show _ = some (resp ++ if Cors.isOriginAllowed X.strings_ToLower (cfgOf c) (hr.header "Origin".toList) then
    [("Access-Control-Allow-Origin".toList, hr.header "Origin".toList)] else [])
  cases Cors.isOriginAllowed X.strings_ToLower (cfgOf c) (hr.header "Origin".toList) <;> simp [push]

theorem setOptionsHeaders_tie (X : ImpGen.Ext) (hitoa : X.strconv_Itoa = Cors.itoa)
    (c : ImpGen.GoCrossOriginResourceSharing) (hr : HttpRequest) (resp : RespLog) :
    ImpGen.CrossOriginResourceSharing_setOptionsHeaders X c (some { Request := hr }) resp
      = some (resp ++ Cors.setOptionsHeaders X.strings_ToLower (cfgOf c) (reqOf hr)) := by
  unfold ImpGen.CrossOriginResourceSharing_setOptionsHeaders Cors.setOptionsHeaders
  simp only [Option.pure_def, Option.bind_eq_bind, Option.bind_some, exposeHeaders_tie, setAllowOrigin_tie,
    allowCredentials_tie, hitoa]
  show _ = some (resp ++ (_ ++ _ ++ _ ++ if c.MaxAge > 0 then [("Access-Control-Max-Age".toList, Cors.itoa c.MaxAge)] else []))
  by_cases h : c.MaxAge > 0 <;> simp [push, h]

theorem doActualRequest_tie (X : ImpGen.Ext) (hitoa : X.strconv_Itoa = Cors.itoa)
    (c : ImpGen.GoCrossOriginResourceSharing) (hr : HttpRequest) (resp : RespLog) :
    ImpGen.CrossOriginResourceSharing_doActualRequest X c (some { Request := hr }) resp
      = some (resp ++ Cors.doActualRequest X.strings_ToLower (cfgOf c) (reqOf hr)) := by
  unfold ImpGen.CrossOriginResourceSharing_doActualRequest Cors.doActualRequest
  simp only [Option.pure_def, Option.bind_eq_bind, Option.bind_some, setOptionsHeaders_tie X hitoa]


/-- a `for … range` whose body is `if !f x { return v }` -/
theorem all_loop {α β : Type} (f : α → Bool) (v : β) (l : List α) :
    forIn l ((none : Option β), ()) (fun p _ =>
      if (!f p) = true then (some (ForInStep.done (some v, ())) : Option _)
      else some (ForInStep.yield (none, ()))) = some (if l.all f then none else some v, ()) := by
  rw [all_loop_gen f _ l _ (some v, ()) fun x => by cases f x <;> rfl]
  cases l.all f <;> rfl

/-- the container the methods are computed on is the filter's own (`c.Container`) when it has one, else the
    package variable `DefaultContainer` -/
def OnContainer (X : ImpGen.Ext) (c : ImpGen.GoCrossOriginResourceSharing) (k : ImpGen.GoContainer) : Prop :=
  c.Container = some k ∨ (c.Container = none ∧ X.DefaultContainer = some k)

/-- the callees are replaced by their own ties; what is left on both sides is one list of decisions — methods configured
    or computed on the table, the requested method among them, every requested header allowed — taken in that order -/
theorem doPreflight_tie_gen (X : ImpGen.Ext) (hitoa : X.strconv_Itoa = Cors.itoa) (E : ReEnv)
    (mk : RouteDecl → Option ImpGen.GoPathExpression → ImpGen.GoRoute)
    (hmk : ∀ rt pe, (mk rt pe).Method = rt.method ∧ (mk rt pe).pathExpr = pe)
    (c : ImpGen.GoCrossOriginResourceSharing) (tbl : Config)
    (hc : OnContainer X c { webServices := tbl.services.map (fun ws => some (genWS E mk ws)) })
    (hr : HttpRequest) (rq : Cors.CorsReq) (hreq : reqOf hr = rq) (resp : RespLog) :
    ImpGen.CrossOriginResourceSharing_doPreflightRequest X (some c) (some { Request := hr }) resp
      = (Cors.doPreflightRequest X.strings_ToLower E (cfgOf c) tbl rq).map
          (fun r => (some { c with AllowedMethods := r.1.allowedMethods }, resp ++ r.2)) := by
  have h2 : hr.header "Access-Control-Request-Method".toList = rq.acrm := congrArg Cors.CorsReq.acrm hreq
  have h3 : hr.header "Access-Control-Request-Headers".toList = rq.acrh := congrArg Cors.CorsReq.acrh hreq
  have h4 : hr.path = rq.path := congrArg Cors.CorsReq.path hreq
  obtain ⟨eh, ah, ad, adf, am, ma, ca, ct⟩ := c
  unfold ImpGen.CrossOriginResourceSharing_doPreflightRequest
  -- whichever of the two containers is read, it is the table's
  rcases hc with hc | ⟨hc, hdc⟩
  case' inr => rw [hdc]
  all_goals
    dsimp only at hc
    subst hc
    simp only [Option.pure_def, deref, Option.bind_eq_bind, Option.bind_some, Option.isNone_some, Option.isNone_none,
      Bool.false_eq_true, if_true, if_false,
      compute_allowed_methods E X mk hmk, isValidMethod_tie, isValidHeader_tie, all_loop,
      setOptionsHeaders_tie X hitoa, len_beq_zero', len_pos', h2, h3, h4, hreq]
    unfold Cors.doPreflightRequest
    simp only [Cors.requestHeadersLoop_eq, List.all_map, Function.comp_def, ← Cors.isValidHeader_eq]
    simp only [cfgOf]
    rw [show Cors.sComma = ",".toList from rfl, show Cors.hAllowMethods = "Access-Control-Allow-Methods".toList from rfl,
      show Cors.hAllowHeaders = "Access-Control-Allow-Headers".toList from rfl]
    -- the methods are the configured ones, or the computed ones when none are configured; the rest is the same
    by_cases hm : am = []
    case' pos =>
      subst hm
      simp only [List.isEmpty_nil, if_true, Bool.false_eq_true, if_false, List.length_nil]
      rcases Option.eq_none_or_eq_some (Cors.computeAllowedMethods E tbl.services rq.path) with hcm | ⟨am, hcm⟩
      · rw [hcm]; rfl
      simp only [hcm, Option.bind_some, Option.map_some]
    case' neg =>
      have h1 : am.isEmpty = false := by simpa using hm
      have h2 : ¬ am.length = 0 := by simpa using hm
      simp only [h1, h2, Bool.false_eq_true, if_false, Option.map_some]
    all_goals
      by_cases hb1 : Cors.isValidAccessControlRequestMethod rq.acrm am = true
      · simp only [hb1, Bool.not_true, Bool.false_eq_true, if_false]
        by_cases hb0 : rq.acrh = []
        · simp only [hb0, push, List.isEmpty_nil, Bool.not_true, Bool.false_eq_true, if_false, List.length_nil,
            gt_iff_lt, Nat.lt_irrefl, decide_false, Bool.false_and, Option.map_some, List.append_assoc,
            List.cons_append, List.nil_append]
        · have h3 : rq.acrh.isEmpty = false := by simpa using hb0
          have h4 : rq.acrh.length > 0 := List.length_pos_iff.mpr hb0
          simp only [h3, h4, Bool.not_false, if_true, decide_true, Bool.true_and]
          by_cases hb2 : ((Str.split ',' rq.acrh).all fun p =>
            Cors.isValidAccessControlRequestHeader X.strings_ToLower (Str.trim ' ' p) ah) = true
          all_goals simp only [hb2, push, Bool.not_true, Bool.false_eq_true, if_false, Option.map_some,
            List.append_assoc, List.cons_append, List.nil_append, List.append_nil, Bool.not_eq_true, Bool.not_false,
            if_true]
      · simp only [hb1, Bool.not_false, if_true, Option.map_some, List.append_nil]

theorem doPreflight_tie' (X : ImpGen.Ext) (hitoa : X.strconv_Itoa = Cors.itoa) (E : ReEnv)
    (mk : RouteDecl → Option ImpGen.GoPathExpression → ImpGen.GoRoute)
    (hmk : ∀ rt pe, (mk rt pe).Method = rt.method ∧ (mk rt pe).pathExpr = pe)
    (c : ImpGen.GoCrossOriginResourceSharing) (tbl : Config)
    (hc : c.Container = some { webServices := tbl.services.map (fun ws => some (genWS E mk ws)) })
    (hr : HttpRequest) (rq : Cors.CorsReq) (hreq : reqOf hr = rq) (resp : RespLog) :
    ImpGen.CrossOriginResourceSharing_doPreflightRequest X (some c) (some { Request := hr }) resp
      = (Cors.doPreflightRequest X.strings_ToLower E (cfgOf c) tbl rq).map
          (fun r => (some { c with AllowedMethods := r.1.allowedMethods }, resp ++ r.2)) :=
  doPreflight_tie_gen X hitoa E mk hmk c tbl (Or.inl hc) hr rq hreq resp

/-- as for the preflight: origin present, origin allowed, then OPTIONS with an `Access-Control-Request-Method` or
    not; the preflight's receiver is a copy (`Filter` has a value receiver) and only its response log is kept -/
theorem filter_tie_gen (X : ImpGen.Ext) (hitoa : X.strconv_Itoa = Cors.itoa) (E : ReEnv)
    (mk : RouteDecl → Option ImpGen.GoPathExpression → ImpGen.GoRoute)
    (hmk : ∀ rt pe, (mk rt pe).Method = rt.method ∧ (mk rt pe).pathExpr = pe)
    (c : ImpGen.GoCrossOriginResourceSharing) (tbl : Config)
    (hc : OnContainer X c { webServices := tbl.services.map (fun ws => some (genWS E mk ws)) })
    (hr : HttpRequest) (rq : Cors.CorsReq) (hreq : reqOf hr = rq) (resp : RespLog) (chain : ChainLog) :
    ImpGen.CrossOriginResourceSharing_Filter X c (some { Request := hr }) resp chain
      = (Cors.corsOut X.strings_ToLower E (cfgOf c) tbl rq).map
          (fun o => (resp ++ o.added, if o.passOn then chain ++ [resp ++ o.added] else chain)) := by
  have h1 : hr.header "Origin".toList = rq.origin := congrArg Cors.CorsReq.origin hreq
  have h2 : hr.header "Access-Control-Request-Method".toList = rq.acrm := congrArg Cors.CorsReq.acrm hreq
  have h4 : hr.method = rq.method := congrArg Cors.CorsReq.method hreq
  unfold ImpGen.CrossOriginResourceSharing_Filter
  simp only [Option.pure_def, deref, Option.bind_eq_bind, Option.bind_some, isOriginAllowed_tie,
    doActualRequest_tie X hitoa, doPreflight_tie_gen X hitoa E mk hmk c tbl hc hr rq hreq,
    len_beq_zero', h1, h2, h4, hreq]
  unfold Cors.corsOut
  rw [show Cors.sOPTIONS = "OPTIONS".toList from rfl, show "".toList = ([] : List Char) from rfl]
  by_cases ho : rq.origin = []
  · simp only [ho, List.isEmpty_nil, if_true, List.length_nil, Option.map_some, List.append_nil, push]
  · have ho1 : rq.origin.isEmpty = false := by simpa using ho
    have ho2 : ¬ rq.origin.length = 0 := by simpa using ho
    simp only [ho1, ho2, Bool.false_eq_true, if_false]
    by_cases ha : Cors.isOriginAllowed X.strings_ToLower (cfgOf c) rq.origin = true
    · simp only [ha, Bool.not_true, Bool.false_eq_true, if_false]
      -- "is it OPTIONS" and "is there an Access-Control-Request-Method", in whichever order, nesting and polarity the
      -- code tests them (two guards, or one `||` / `&&` condition): all four cases, each closed by evaluation
      simp only [str_beq_decide, str_bne_decide, str_isEmpty_decide]
      by_cases hm : rq.method = "OPTIONS".toList <;> by_cases hq : rq.acrm = [] <;>
        cases hp : Cors.doPreflightRequest X.strings_ToLower E (cfgOf c) tbl rq <;>
        simp [hm, hq, push, Function.comp, -String.reduceToList]
    · simp only [ha, Bool.not_false, if_true, Option.map_some, List.append_nil, push]

theorem hdr3 (k1 k2 k3 a b c : Str) (h21 : k2 ≠ k1) (h31 : k3 ≠ k1) (h32 : k3 ≠ k2) :
    (fun k : Str => if k = k1 then a else if k = k2 then b else if k = k3 then c else []) k1 = a ∧
    (fun k : Str => if k = k1 then a else if k = k2 then b else if k = k3 then c else []) k2 = b ∧
    (fun k : Str => if k = k1 then a else if k = k2 then b else if k = k3 then c else []) k3 = c := by
  simp [h21, h31, h32]

theorem acrm_ne_origin : "Access-Control-Request-Method".toList ≠ "Origin".toList := by decide_lits
theorem acrh_ne_origin : "Access-Control-Request-Headers".toList ≠ "Origin".toList := by decide_lits
theorem acrh_ne_acrm : "Access-Control-Request-Headers".toList ≠ "Access-Control-Request-Method".toList := by
  decide_lits

/-- two exits: not OPTIONS, control is passed on with the log as it stands; OPTIONS, `Allow` and the three CORS
    headers are written from the computed methods and the chain ends here -/
theorem options_tie' (X : ImpGen.Ext) (E : ReEnv)
    (mk : RouteDecl → Option ImpGen.GoPathExpression → ImpGen.GoRoute)
    (hmk : ∀ rt pe, (mk rt pe).Method = rt.method ∧ (mk rt pe).pathExpr = pe)
    (tbl : Config) (hr : HttpRequest) (rq : Options.OptReq)
    (h1 : hr.header "Origin".toList = rq.origin)
    (h2 : hr.header "Access-Control-Request-Headers".toList = rq.acrh)
    (h3 : hr.method = rq.method) (h4 : hr.path = rq.path) (resp : RespLog) (chain : ChainLog) :
    ImpGen.Container_OPTIONSFilter X (some { webServices := tbl.services.map (fun ws => some (genWS E mk ws)) })
        (some { Request := hr }) resp chain
      = (Options.optionsOut E tbl rq).map
          (fun o => (resp ++ o.added, if o.passOn then chain ++ [resp ++ o.added] else chain)) := by
  unfold ImpGen.Container_OPTIONSFilter
  simp only [Option.pure_def, deref, Option.bind_eq_bind, Option.bind_some,
    compute_allowed_methods E X mk hmk, h1, h2, h3, h4]
  unfold Options.optionsOut
  rw [show Cors.sOPTIONS = "OPTIONS".toList from rfl, show Cors.sComma = ",".toList from rfl,
    show Cors.hAllowMethods = "Access-Control-Allow-Methods".toList from rfl,
    show Cors.hAllowHeaders = "Access-Control-Allow-Headers".toList from rfl,
    show Cors.hAllowOrigin = "Access-Control-Allow-Origin".toList from rfl]
  rw [show ("OPTIONS".toList != rq.method) = (rq.method != "OPTIONS".toList) from bne_comm]
  by_cases hm : (rq.method != "OPTIONS".toList) = true
  · simp only [hm, if_true, Option.map_some, List.append_nil, push]
  · simp only [hm, Bool.false_eq_true, if_false]
    cases Cors.computeAllowedMethods E tbl.services rq.path with
    | none => rfl
    | some ms =>
      simp only [Option.bind_some, Option.map_some, push, List.append_assoc, List.cons_append, List.nil_append,
        Bool.false_eq_true, if_false]

end T11
end TieImp
end Restful
