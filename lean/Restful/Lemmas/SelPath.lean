/-
The selected-route path that filters and the handler see (`Request.SelectedRoutePath()`), in the
serve model: container.go:210 `dispatch` stores the selected route in the Request; the model
(Model/Serve.lean `dispatch`, Spec/Serve.lean `chainOf`) looks the path up by the identity
(service id, route id) of the routing outcome.  Under `Spec.idsDistinct` that lookup returns the
path of the route OBJECT the router returned (`selPathOf_of_mem`), and every stage of the chain sees
that path — or none, inside a Request a `replace` filter created (`chainLog_selPath`).
-/
import Restful.Lemmas.Chain
import Restful.Lemmas.RouteUnique
namespace Restful
open Str
namespace Serve
namespace Chain
open Spec

/-- `Request.SelectedRoutePath()` as the serve model sets it for the identity `(svc, rid)` -/
def selPathOf (cfg : Config) (svc rid : Nat) : Str :=
  match (cfg.services.flatMap (·.built)).find? (fun r => r.id == rid && r.svc == svc) with
  | some r => r.path
  | none => []

theorem selPathOf_of_mem {cfg : Config} (hids : Spec.idsDistinct cfg = true) {svc : Service}
    (hsvc : svc ∈ cfg.services) {rt : Route} (hrt : rt ∈ svc.built) :
    selPathOf cfg svc.id rt.id = rt.path := by
  unfold selPathOf
  rw [find?_of_unique (fun r => r.id == rt.id && r.svc == svc.id) (a := rt)
    (List.mem_flatMap.mpr ⟨svc, hsvc, hrt⟩) (by simp [Service.built_svc svc hrt])]
  intro b hb hp
  simp only [Bool.and_eq_true, beq_iff_eq] at hp
  obtain ⟨svc', hsvc', hb'⟩ := List.mem_flatMap.mp hb
  have hs : svc' = svc := Spec.service_unique hids hsvc' hsvc (by rw [← Service.built_svc svc' hb']; exact hp.2)
  subst hs
  exact Spec.route_unique hids hsvc' hb' hrt hp.1

/-- the chain `chainOf` selects for a routed request: all filters of the route's identity around
    its handler, with the parameters of the outcome and the selected path looked up by identity -/
theorem chainOf_selected (E : ReEnv) (cfg : Cfg) (e : Entry) (he : e = .dispatch ∨ e = .serveDispatch)
    (sr : SReq) (hcp : sr.condPanic = none) {s r : Nat} {ps : Params}
    (h : route E cfg.routing sr.req = .selected s r ps) :
    chainOf E cfg e sr =
      some (allFilters cfg s r, ⟨.handler r, (routeX cfg r).script⟩, { params := ps, selPath := selPathOf cfg.routing s r }) := by
  have h' : routeTagged E cfg.routing sr.req = (.selected s r ps, (routeTagged E cfg.routing sr.req).2) := by
    unfold route at h
    rw [← h]
  rcases he with rfl | rfl <;>
  · unfold chainOf
    simp only [hcp, Option.isSome_none, Bool.false_eq_true, if_false]
    rw [h']
    rfl

theorem after_inv (P : Event → Prop) {v : Str} {ev0 : Event} {inner : List Event} {p : Bool} {cxPanic cxp cxr : Ctx}
    {st : Stage} {f : Filter}
    (h0 : P ev0) (hin : ∀ ev ∈ inner, P ev) (hpost : P (evOf st true cxp))
    (hcp : cxPanic.selPath = v) (hpp : cxp.selPath = v) :
    (after ev0 inner p cxPanic (postPart st f cxp cxr)).2.1.selPath = v ∧
      ∀ ev ∈ (after ev0 inner p cxPanic (postPart st f cxp cxr)).1, P ev := by
  unfold after postPart
  cases p with
  | true =>
    refine ⟨hcp, fun ev hev => ?_⟩
    rcases List.mem_cons.mp hev with rfl | hev
    · exact h0
    · exact hin ev hev
  | false =>
    refine ⟨hpp, fun ev hev => ?_⟩
    rcases List.mem_cons.mp hev with rfl | hev
    · exact h0
    · rcases List.mem_append.mp hev with hev | hev
      · exact hin ev hev
      · exact List.mem_singleton.mp hev ▸ hpost

/-- the selected path through a chain: the context handed back carries the path unchanged, and
    every stage sees the path the chain was started with — or none, and that only inside a Request
    created by a `replace` filter of the chain -/
theorem chainLog_selPath_replace (fs : List (Stage × Filter)) (t : Target) (cx : Ctx) :
    (chainLog fs t cx).2.1.selPath = cx.selPath ∧
    ∀ ev ∈ (chainLog fs t cx).1,
      ev.selPath = cx.selPath ∨ (ev.selPath = [] ∧ ∃ sf ∈ fs, sf.2.kind = .replace) := by
  induction fs generalizing cx with
  | nil =>
    rw [chainLog_nil]
    exact ⟨rfl, fun ev hev => .inl (by rw [List.mem_singleton.mp hev]; rfl)⟩
  | cons sf fs ih =>
    obtain ⟨st, f⟩ := sf
    rw [chainLog_cons]
    let P : Event → Prop := fun ev =>
      ev.selPath = cx.selPath ∨ (ev.selPath = [] ∧ ∃ sf ∈ (st, f) :: fs, sf.2.kind = .replace)
    have h0 : P (evOf st false cx) := .inl rfl
    -- an event of the inner chain, started with the same path, seen from the outer chain
    have inner : ∀ cx' : Ctx, cx'.selPath = cx.selPath → ∀ ev ∈ (chainLog fs t cx').1, P ev := by
      intro cx' hc ev hev
      rcases (ih cx').2 ev hev with h | ⟨h, sf, hsf, hk⟩
      · exact .inl (h.trans hc)
      · exact .inr ⟨h, sf, List.mem_cons_of_mem _ hsf, hk⟩
    split
    · exact ⟨rfl, fun ev hev => by rw [List.mem_singleton.mp hev]; exact h0⟩
    · split
      · exact after_inv P h0 (fun _ h => nomatch h) (.inl rfl) rfl rfl
      · have h1 := (ih { cx with attrs := (attrsAfter f.pre cx.attrs).1 }).1
        exact after_inv P h0 (inner _ rfl) (.inl h1) h1 h1
      · rename_i hrep
        have h2 := (ih ⟨[("who".toList, (toString f.id).toList)], [], [], f.id :: cx.wrappers⟩).2
        exact after_inv P h0 (fun ev hev => .inr ⟨(h2 ev hev).elim id (·.1), (st, f), List.mem_cons_self, hrep⟩)
          (.inl rfl) rfl rfl
      · have h1 := (ih { cx with attrs := (attrsAfter f.pre cx.attrs).1, wrappers := f.id :: cx.wrappers }).1
        exact after_inv P h0 (inner _ rfl) (.inl h1) h1 h1

theorem chainLog_selPath (fs : List (Stage × Filter)) (t : Target) (cx : Ctx) :
    (chainLog fs t cx).2.1.selPath = cx.selPath ∧
    ∀ ev ∈ (chainLog fs t cx).1, ev.selPath = cx.selPath ∨ ev.selPath = [] :=
  ⟨(chainLog_selPath_replace fs t cx).1, fun ev hev => ((chainLog_selPath_replace fs t cx).2 ev hev).imp_right (·.1)⟩

theorem chainLog_selPath_eq (fs : List (Stage × Filter)) (t : Target) (cx : Ctx)
    (hno : ∀ sf ∈ fs, sf.2.kind ≠ .replace) :
    ∀ ev ∈ (chainLog fs t cx).1, ev.selPath = cx.selPath :=
  fun ev hev => ((chainLog_selPath_replace fs t cx).2 ev hev).elim id
    (fun ⟨_, sf, hsf, hk⟩ => absurd hk (hno sf hsf))

theorem chainLog_head_selPath (fs : List (Stage × Filter)) (t : Target) (cx : Ctx) :
    ∃ ev rest, (chainLog fs t cx).1 = ev :: rest ∧ ev.selPath = cx.selPath := by
  cases fs with
  | nil => rw [chainLog_nil]; exact ⟨_, [], rfl, rfl⟩
  | cons sf fs =>
    obtain ⟨st, f⟩ := sf
    rw [chainLog_cons]
    simp only
    split
    · exact ⟨_, [], rfl, rfl⟩
    · have key : ∀ inner p cxP post, ∃ ev rest,
          (after (evOf st false cx) inner p cxP post).1 = ev :: rest ∧ ev.selPath = cx.selPath := by
        intro inner p cxP post
        unfold after
        cases p <;> exact ⟨_, _, rfl, rfl⟩
      cases f.kind <;> exact key _ _ _ _

/-- the log of a routed request through `Dispatch` / `ServeHTTP`: every event that is not the recover
    handler's carries the selected path looked up for the ids of the routing outcome, or none; none
    only when there is a `replace` filter in the chain; the first event always carries it -/
theorem serve_selPath (E : ReEnv) (cfg : Cfg) (e : Entry) (he : e = .dispatch ∨ e = .serveDispatch)
    (w : World) (sr : SReq) (hcp : sr.condPanic = none) {s r : Nat} {ps : Params}
    (h : route E cfg.routing sr.req = .selected s r ps) :
    (∀ ev ∈ (serve E cfg e w sr).log, ev.stage ≠ .recover →
      ev.selPath = selPathOf cfg.routing s r ∨ ev.selPath = []) ∧
    ((∀ sf ∈ allFilters cfg s r, sf.2.kind ≠ .replace) →
      ∀ ev ∈ (serve E cfg e w sr).log, ev.stage ≠ .recover → ev.selPath = selPathOf cfg.routing s r) ∧
    (∃ ev rest, (serve E cfg e w sr).log = ev :: rest ∧ ev.selPath = selPathOf cfg.routing s r) := by
  obtain ⟨rc, hrc, hlog⟩ := serve_log E cfg e w sr
  unfold chainEvents at hlog
  rw [chainOf_selected E cfg e he sr hcp h] at hlog
  simp only at hlog
  have hmem : ∀ ev ∈ (serve E cfg e w sr).log, ev.stage ≠ .recover → ev ∈ (chainLog _ _ _).1 :=
    fun ev hev hst => (List.mem_append.mp (hlog ▸ hev)).resolve_right (fun h => hst (hrc ev h))
  obtain ⟨ev, rest, hc, hp⟩ := chainLog_head_selPath (allFilters cfg s r) ⟨.handler r, (routeX cfg r).script⟩
    { params := ps, selPath := selPathOf cfg.routing s r }
  exact ⟨fun ev hev hst => (chainLog_selPath _ _ _).2 ev (hmem ev hev hst),
    fun hno ev hev hst => chainLog_selPath_eq _ _ _ hno ev (hmem ev hev hst),
    ev, rest ++ rc, by rw [hlog, hc]; rfl, hp⟩

end Chain
end Serve
end Restful
