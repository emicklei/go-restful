/-
C03: how the stages of route selection behave under a permutation of their input list:
`Curly.candidates` (a filterMap-like loop), the `allowedLoop`, the filter stages of `detectRoute`, and
the router-independent tail of route selection (`finishWith`: `detectRoute` on the sorted candidates,
then parameter extraction).
-/
import Restful.Spec.Order
import Restful.Lemmas.OrderSort
import Restful.Lemmas.CurlySelect
import Restful.Lemmas.Detect
namespace Restful
open Str

theorem pairwise_eq_of_not {α : Type} {R : α → α → Prop} : ∀ {l : List α}, l.Pairwise R →
    ∀ {a b : α}, a ∈ l → b ∈ l → ¬ R a b → ¬ R b a → a = b
  | [], _, _, _, ha, _, _, _ => by simp at ha
  | x :: xs, h, a, b, ha, hb, n1, n2 => by
    rw [List.pairwise_cons] at h
    simp only [List.mem_cons] at ha hb
    rcases ha with rfl | ha
    · rcases hb with rfl | hb
      · rfl
      · exact absurd (h.1 b hb) n1
    · rcases hb with rfl | hb
      · exact absurd (h.1 a ha) n2
      · exact pairwise_eq_of_not h.2 ha hb n1 n2

/-- two runs of a candidate loop: both fail, or both succeed with the same candidates up to order -/
def OptPerm {β : Type} : Option (List β) → Option (List β) → Prop
  | none, none => True
  | some cs, some cs' => cs.Perm cs'
  | _, _ => False

theorem OptPerm.cases {β : Type} {o o' : Option (List β)} (h : OptPerm o o') :
    (o = none ∧ o' = none) ∨ ∃ cs cs', o = some cs ∧ o' = some cs' ∧ cs.Perm cs' := by
  match o, o', h with
  | none, none, _ => exact Or.inl ⟨rfl, rfl⟩
  | some cs, some cs', h => exact Or.inr ⟨cs, cs', rfl, rfl, h⟩

theorem guarded_filterMap_perm {α β : Type} (bad : α → Bool) (f : α → Option β) {l l' : List α}
    (hp : l.Perm l') :
    OptPerm (if l.any bad then none else some (l.filterMap f))
      (if l'.any bad then none else some (l'.filterMap f)) := by
  rw [← hp.any_eq]
  cases l.any bad
  · exact hp.filterMap f
  · trivial

theorem Spec.Forall2.left {α β : Type} {R : α → β → Prop} : ∀ {as : List α} {bs : List β},
    Spec.Forall2 R as bs → ∀ a ∈ as, ∃ b ∈ bs, R a b
  | _, _, .nil, a, ha => by simp at ha
  | _, _, .cons h t, a, ha => by
    simp only [List.mem_cons] at ha
    rcases ha with rfl | ha
    · exact ⟨_, List.mem_cons_self, h⟩
    · obtain ⟨b, hb, hr⟩ := Spec.Forall2.left t a ha
      exact ⟨b, List.mem_cons_of_mem _ hb, hr⟩

theorem Spec.Forall2.flip {α β : Type} {R : α → β → Prop} : ∀ {as : List α} {bs : List β},
    Spec.Forall2 R as bs → Spec.Forall2 (fun b a => R a b) bs as
  | _, _, .nil => .nil
  | _, _, .cons h t => .cons h t.flip

theorem Spec.Forall2.right {α β : Type} {R : α → β → Prop} {as : List α} {bs : List β}
    (h : Spec.Forall2 R as bs) : ∀ b ∈ bs, ∃ a ∈ as, R a b :=
  h.flip.left

theorem built_perm_of_rel {s s' : Service}
    (h : s.id = s'.id ∧ s.root = s'.root ∧ s.consumes = s'.consumes ∧ s.produces = s'.produces ∧ s.routes.Perm s'.routes) :
    s.rootPath = s'.rootPath ∧ s.built.Perm s'.built := by
  obtain ⟨h1, h2, h3, h4, h5⟩ := h
  have hroot : s.rootPath = s'.rootPath := by simp [Service.rootPath, h2]
  refine ⟨hroot, ?_⟩
  have hb : s.build = s'.build := by
    funext r
    simp [Service.build, Service.consumesOf, Service.producesOf, h1, hroot, h3, h4]
  unfold Service.built
  rw [hb]
  exact h5.map _

theorem Spec.CfgPerm.pair {cfg cfg' : Config} (h : Spec.CfgPerm cfg cfg') :
    (∀ s ∈ cfg.services, ∃ s' ∈ cfg'.services, s.rootPath = s'.rootPath ∧ s.built.Perm s'.built) ∧
    (∀ s' ∈ cfg'.services, ∃ s ∈ cfg.services, s.rootPath = s'.rootPath ∧ s.built.Perm s'.built) := by
  obtain ⟨_, svcs, hsp, hf⟩ := h
  constructor
  · intro s hs
    obtain ⟨s', hs', hrel⟩ := Spec.Forall2.left hf s (hsp.symm.subset hs)
    exact ⟨s', hs', built_perm_of_rel hrel⟩
  · intro s' hs'
    obtain ⟨s, hs, hrel⟩ := Spec.Forall2.right hf s' hs'
    exact ⟨s, hsp.subset hs, built_perm_of_rel hrel⟩

namespace Curly
variable (E : ReEnv)

def candOf (qs : List Str) (r : Route) : Option Cand :=
  match matchTokens E r.pathParts qs r.hasCustomVerb with
  | .yes p s => some ⟨r, p, s⟩
  | _ => none

def panics (qs : List Str) (r : Route) : Bool :=
  match matchTokens E r.pathParts qs r.hasCustomVerb with
  | .panic => true
  | _ => false

theorem candidates_eq (qs : List Str) : ∀ (routes : List Route),
    candidates E routes qs = if routes.any (panics E qs) then none else some (routes.filterMap (candOf E qs))
  | [] => by simp [candidates]
  | r :: rs => by
    rw [candidates, candidates_eq qs rs, List.any_cons, List.filterMap_cons]
    unfold panics candOf
    split <;> rename_i hm
    · simp [hm]
    · simp only [hm, Bool.false_or]
    · simp only [hm, Bool.false_or]
      split <;> simp

theorem candOf_some {qs : List Str} {r : Route} {c : Cand} (h : candOf E qs r = some c) :
    c.route = r ∧ matchTokens E r.pathParts qs r.hasCustomVerb = .yes c.paramCount c.staticCount := by
  unfold candOf at h
  split at h
  · rename_i p s hm
    simp only [Option.some.injEq] at h
    subst h
    exact ⟨rfl, hm⟩
  · simp at h

theorem candidates_complete {routes : List Route} {qs : List Str} {cs : List Cand}
    (h : candidates E routes qs = some cs) {r : Route} (hr : r ∈ routes) {p s : Nat}
    (hm : matchTokens E r.pathParts qs r.hasCustomVerb = .yes p s) : (⟨r, p, s⟩ : Cand) ∈ cs := by
  rw [candidates_eq] at h
  split at h
  · simp at h
  · simp only [Option.some.injEq] at h
    subst h
    rw [List.mem_filterMap]
    exact ⟨r, hr, by simp [candOf, hm]⟩

theorem cand_ext_of_mem {routes : List Route} {qs : List Str} {cs cs' : List Cand} {routes' : List Route}
    (h : candidates E routes qs = some cs) (h' : candidates E routes' qs = some cs')
    {a b : Cand} (ha : a ∈ cs) (hb : b ∈ cs') (hr : a.route = b.route) : a = b := by
  have h1 := (candidates_mem E h a ha).2
  have h2 := (candidates_mem E h' b hb).2
  rw [hr, h2] at h1
  simp only [MatchResult.yes.injEq] at h1
  cases a; cases b
  simp_all

theorem candidates_perm {routes routes' : List Route} (hp : routes.Perm routes') (qs : List Str) :
    OptPerm (candidates E routes qs) (candidates E routes' qs) := by
  rw [candidates_eq, candidates_eq]
  exact guarded_filterMap_perm _ _ hp

end Curly

theorem mem_allowedMethods (m : Str) : ∀ (l : List Route) (acc : List Str),
    m ∈ allowedMethods l acc ↔ m ∈ acc ∨ ∃ r ∈ l, r.method = m
  | [], acc => by simp [allowedMethods]
  | r :: rs, acc => by
    rw [allowedMethods]
    split
    · rename_i hc
      have hc' : r.method ∈ acc := by simpa using hc
      rw [mem_allowedMethods m rs acc]
      simp only [List.mem_cons, exists_eq_or_imp]
      constructor
      · rintro (h | h)
        · exact Or.inl h
        · exact Or.inr (Or.inr h)
      · rintro (h | rfl | h)
        · exact Or.inl h
        · exact Or.inl hc'
        · exact Or.inr h
    · rw [mem_allowedMethods m rs (r.method :: acc)]
      simp only [List.mem_cons, exists_eq_or_imp, eq_comm (a := m), or_assoc, or_left_comm (a := m ∈ acc)]

theorem stage4_eq_filter (l : List Route) (req : Req) : stage4 l req = l.filter (Spec.eligible · req) := by
  unfold stage4
  rw [List.filter_filter, List.filter_filter, List.filter_filter]
  apply List.filter_congr
  intro r _
  unfold Spec.eligible
  cases passesConds r req <;> cases decide (req.method = r.method) <;>
    cases matchesContentType r req.contentType <;> simp

theorem Spec.sameOutcome_refl (o : Outcome) : Spec.sameOutcome o o := by
  cases o with
  | selected s r ps => exact ⟨rfl, rfl, rfl⟩
  | error c a =>
    cases a with
    | none => exact rfl
    | some al => exact ⟨rfl, fun _ => Iff.rfl⟩
  | panic w => trivial

/-- what `sameOutcome` asks of two `detectRoute` results -/
def detectRel (a b : Except (Nat × Option (List Str)) Route) : Prop :=
  match a, b with
  | .ok r, .ok r' => r = r'
  | .error (c, al), .error (c', al') => Spec.sameOutcome (.error c al) (.error c' al')
  | _, _ => False

theorem detectRoute_perm {l l' : List Route} (hp : l.Perm l') (req : Req)
    (h4 : stage4 l req = stage4 l' req) : detectRel (detectRoute l req) (detectRoute l' req) := by
  have p1 := hp.filter (passesConds · req)
  have p2 := p1.filter (fun r => decide (req.method = r.method))
  have p3 := p2.filter (matchesContentType · req.contentType)
  have e1 := p1.isEmpty_eq
  have e2 := p2.isEmpty_eq
  have e3 := p3.isEmpty_eq
  unfold stage4 at h4
  unfold detectRoute
  simp only
  rw [← e1, ← e2, ← e3, ← h4]
  split
  · exact rfl
  split
  · refine ⟨rfl, fun m => ?_⟩
    rw [mem_allowedMethods, mem_allowedMethods]
    simp only [List.not_mem_nil, false_or]
    constructor
    · rintro ⟨x, hx, h⟩; exact ⟨x, p1.mem_iff.mp hx, h⟩
    · rintro ⟨x, hx, h⟩; exact ⟨x, p1.mem_iff.mpr hx, h⟩
  split
  · exact rfl
  split
  · split <;> exact rfl
  · exact rfl

theorem eligible_route_unique {routes : List Route}
    (hd : routes.Pairwise (fun a b => a.method = b.method → a.path ≠ b.path)) {req : Req} {a b : Route}
    (ha : a ∈ routes) (hb : b ∈ routes) (hea : Spec.eligible a req = true) (heb : Spec.eligible b req = true)
    (hpath : a.path = b.path) : a = b := by
  simp only [Spec.eligible, Bool.and_eq_true, decide_eq_true_eq] at hea heb
  have hm : a.method = b.method := hea.1.1.2.symm.trans heb.1.1.2
  exact pairwise_eq_of_not hd ha hb (fun hn => hn hm hpath) (fun hn => hn hm.symm hpath.symm)

def finishWith (extract : Route → Option Params) (cands : List Route) (req : Req) : Outcome :=
  match cands with
  | [] => .error 404 none
  | cands =>
    match detectRoute cands req with
    | .error (c, a) => .error c a
    | .ok r =>
      match extract r with
      | none => .panic "params"
      | some ps => .selected r.svc r.id ps

theorem finishWith_perm (extract : Route → Option Params) {cands cands' : List Route}
    (hmp : cands.Perm cands') (req : Req) (h4 : stage4 cands req = stage4 cands' req) :
    Spec.sameOutcome (finishWith extract cands req) (finishWith extract cands' req) := by
  have hdet := detectRoute_perm hmp req h4
  unfold finishWith
  cases cands with
  | nil =>
    rw [← hmp.nil_eq]
    exact rfl
  | cons x xs =>
    cases cands' with
    | nil => exact absurd hmp.eq_nil (by simp)
    | cons y ys =>
      simp only
      generalize detectRoute (x :: xs) req = d at hdet
      generalize detectRoute (y :: ys) req = d' at hdet
      match d, d', hdet with
      | .ok r, .ok _, rfl => exact Spec.sameOutcome_refl _
      | .error (_, _), .error (_, _), hdet => exact hdet

section
variable {C : Type} (route : C → Route) {less : C → C → Bool}
  (htrans : ∀ a b c, less b a = false → less c b = false → less c a = false)
  (hasym : ∀ a b, less a b = true → less b a = false)
  (extract : Route → Option Params)
include htrans hasym

theorem finishWith_sort_perm {cs cs' : List C} (hp : cs.Perm cs') (req : Req)
    (htie : ∀ a ∈ cs, ∀ b ∈ cs', Spec.eligible (route a) req = true → Spec.eligible (route b) req = true →
      less a b = false → less b a = false → a = b) :
    Spec.sameOutcome (finishWith extract ((Sort.insertionSort less cs).map route) req)
      (finishWith extract ((Sort.insertionSort less cs').map route) req) := by
  have hperm := (Sort.insertionSort_perm less cs).trans (hp.trans (Sort.insertionSort_perm less cs').symm)
  refine finishWith_perm extract (hperm.map route) req ?_
  rw [stage4_eq_filter, stage4_eq_filter, List.filter_map, List.filter_map,
    Sort.insertionSort_filter_perm htrans hasym ((Spec.eligible · req) ∘ route) hp htie]

theorem detectRoute_sorted_max (cs : List C) (req : Req) {rt : Route}
    (h : detectRoute ((Sort.insertionSort less cs).map route) req = .ok rt) :
    ∃ c ∈ cs, route c = rt ∧ ∀ c' ∈ cs, Spec.eligible (route c') req = true → less c' c = false := by
  obtain ⟨rest, h4⟩ := detectRoute_ok_iff.1 h
  rw [stage4_eq_filter, List.filter_map, List.map_eq_cons_iff] at h4
  obtain ⟨c, _, hf, rfl, _⟩ := h4
  obtain ⟨hc, _, hmax⟩ := Sort.insertionSort_filter_head htrans hasym _ hf
  exact ⟨c, hc, rfl, hmax⟩

end

end Restful
