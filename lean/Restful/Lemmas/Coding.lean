/-
C07 — helpers.  The heart is a simulation between a run of the serve model WITH a compressing writer
and the run of the same request with every content-coding switch off (`Spec.noCoding cfg`, empty
Accept-Encoding):

  `Sim K strict r₁ r₂`   r₂ has no compressor; if r₁ has none either the two recorders are EQUAL;
                         if r₁ has one (`c`), the uncoded body is `c.payload`, the coding satisfies
                         `K` (where it came from), `Content-Encoding: c.coding.name` is the first
                         such entry of the live header map and of the snapshot that was sent, and
                         (`strict`) the compressor is still open.

The strict relation is preserved by every writer operation (`Sim.stable`), hence by chains, the
recover handler and the plain handlers (`Serve.runChain_rel` and its companions); `closeComp` turns
it into the lax one; `install` on the state the request arrived with establishes it (every
installation site checks `comp.isSome` first, so that is the only state a compressor is ever
installed on: `Pristine`).  Results: `coded_facts`, `uncoded_facts`.  A second pass
(`Inv`) follows the first `Content-Encoding` entry through the run without codings: `plain_ce`,
`uncoded_ce`.

Proof-engineering note: `"…".toList` must never be unfolded by `whnf`/`isDefEq` in the elaborator
(seconds per literal); `decide_eq_true rfl`, `simp` (simproc `String.reduceToList`) and
`simp [-String.reduceToList]` are used instead.
-/
import Restful.Lemmas.Serve
namespace Restful
namespace Serve.Enc
open Str

abbrev ceKey : Str := "Content-Encoding".toList

abbrev isCE : Str × Str → Bool := fun kv => decide (kv.1 = "Content-Encoding".toList)

/-- `x` is the first `Content-Encoding` entry of the live header map and of the snapshot taken when
    the status was locked (if it was) -/
def CeIs (x : Option (Str × Str)) (r : Rec) : Prop :=
  r.headers.find? isCE = x ∧ ∀ h, r.sent = some h → h.find? isCE = x

theorem CeIs.lockStatus {x : Option (Str × Str)} {r : Rec} (h : CeIs x r) (c : Nat) : CeIs x (lockStatus r c) := by
  unfold Serve.lockStatus
  split
  · exact h
  · refine ⟨h.1, ?_⟩
    intro hs hh
    simp only [Option.some.injEq] at hh
    subst hh
    exact h.1

theorem CeIs.addHeader {x : Option (Str × Str)} {r : Rec} (h : CeIs x r) (k v : Str)
    (hk : x.isSome = true ∨ k ≠ ceKey) : CeIs x (addHeader r k v) := by
  refine ⟨?_, h.2⟩
  show (r.headers ++ [(k, v)]).find? isCE = x
  rw [List.find?_append, h.1]
  cases x with
  | some y => rfl
  | none =>
    have hk' : k ≠ ceKey := by
      rcases hk with hk | hk
      · simp at hk
      · exact hk
    have hf : isCE (k, v) = false := decide_eq_false hk'
    simp only [List.find?_cons, hf, List.find?_nil, Option.or_none]

theorem CeIs.congr {x : Option (Str × Str)} {r r' : Rec} (h : CeIs x r) (hh : r'.headers = r.headers)
    (hs : r'.sent = r.sent) : CeIs x r' := by
  unfold CeIs; rw [hh, hs]; exact h

theorem CeIs.baseWrite {x : Option (Str × Str)} {r : Rec} (h : CeIs x r) (b : Str) : CeIs x (baseWrite r b) := by
  unfold Serve.baseWrite
  split
  · exact (h.lockStatus 200).congr rfl rfl
  · split
    · exact h.congr rfl rfl
    · exact (h.lockStatus 200).congr rfl rfl

theorem CeIs.sent {x : Option (Str × Str)} {r : Rec} (h : CeIs x r) :
    (r.sent.getD r.headers).find? isCE = x := by
  cases hs : r.sent with
  | none => exact h.1
  | some hd => exact h.2 hd hs

theorem wants_some {r : Rec} {ae : Str} {c : Coding} (h : wants r ae = some c) :
    containsSub c.name ae = true ∧ getHeader r ceKey = [] := by
  unfold wants at h
  split at h
  · exact absurd h (by simp)
  · rename_i hce
    have hce' : getHeader r ceKey = [] := by
      simpa [-String.reduceToList] using hce
    refine ⟨?_, hce'⟩
    have hsub : ∀ {x : Str} {i : Nat}, indexSub x ae = some i → containsSub x ae = true := fun hi => by
      unfold containsSub
      rw [hi]
      rfl
    split at h
    · exact absurd h (by simp)
    · rename_i hz
      cases h
      exact hsub hz
    · rename_i hg _
      cases h
      exact hsub hg
    · rename_i gi zi hg hz
      split at h
      · cases h
        exact hsub hg
      · cases h
        exact hsub hz

theorem getHeader_initial (sr : SReq) : getHeader (initial sr).rc ceKey = sr.priorEncoding := by
  unfold getHeader initial
  cases hp : sr.priorEncoding with
  | nil => simp
  | cons a as => simp [-String.reduceToList]

theorem coding_name_cases (c : Coding) : c.name = "gzip".toList ∨ c.name = "deflate".toList := by
  cases c
  · exact Or.inl rfl
  · exact Or.inr rfl

/-- see the file header: `r₁` is the recorder of the run under scrutiny, `r₂` that of the run without codings -/
def Sim (K : Coding → Prop) (strict : Bool) (r₁ r₂ : Rec) : Prop :=
  r₂.comp = none ∧ (r₁.comp = none → r₁ = r₂) ∧
  ∀ c, r₁.comp = some c →
    (strict = true → c.closed = false) ∧ r₂.body = c.payload ∧ K c.coding ∧
      CeIs (some (ceKey, c.coding.name)) r₁

variable {K : Coding → Prop}

theorem Sim.lax {b : Bool} {r₁ r₂ : Rec} (h : Sim K b r₁ r₂) : Sim K false r₁ r₂ :=
  ⟨h.1, h.2.1, fun c hc => ⟨fun hh => absurd hh (by simp), ((h.2.2 c hc).2)⟩⟩

theorem Sim.same {b : Bool} {r : Rec} (h : r.comp = none) : Sim K b r r :=
  ⟨h, fun _ => rfl, fun c hc => absurd (h ▸ hc) (by simp)⟩

theorem Sim.baseWrite {r₁ r₂ : Rec} (h : Sim K true r₁ r₂) (b : Str) :
    Sim K true (baseWrite r₁ b) (baseWrite r₂ b) := by
  obtain ⟨h2, hn, hs⟩ := h
  cases hc : r₁.comp with
  | none =>
    have := hn hc; subst this
    exact Sim.same (by rw [baseWrite_none hc]; simpa using hc)
  | some c =>
    obtain ⟨hcl, hb, hk, hce⟩ := hs c hc
    have e₁ := baseWrite_open hc (hcl rfl) b
    have e₂ := baseWrite_none h2 b
    refine ⟨by rw [e₂]; simpa using h2, fun hh => absurd hh (by rw [e₁]; simp), ?_⟩
    intro c' hc'
    rw [e₁] at hc'
    simp only [Option.some.injEq] at hc'
    subst hc'
    refine ⟨fun _ => hcl rfl, ?_, hk, hce.baseWrite b⟩
    rw [e₂]; simp [hb]

theorem Sim.baseWriteHeader {r₁ r₂ : Rec} (h : Sim K true r₁ r₂) (c : Nat) :
    Sim K true (baseWriteHeader r₁ c) (baseWriteHeader r₂ c) := by
  obtain ⟨h2, hn, hs⟩ := h
  unfold Serve.baseWriteHeader
  refine ⟨by simpa using h2, fun hh => by rw [hn (by simpa using hh)], ?_⟩
  intro c' hc'
  rw [lockStatus_comp] at hc'
  obtain ⟨hcl, hb, hk, hce⟩ := hs c' hc'
  exact ⟨hcl, by simpa using hb, hk, hce.lockStatus c⟩

theorem Sim.addHeader {r₁ r₂ : Rec} (h : Sim K true r₁ r₂) (k v : Str) :
    Sim K true (addHeader r₁ k v) (addHeader r₂ k v) := by
  obtain ⟨h2, hn, hs⟩ := h
  refine ⟨h2, fun hh => by rw [hn hh], ?_⟩
  intro c' hc'
  obtain ⟨hcl, hb, hk, hce⟩ := hs c' hc'
  exact ⟨hcl, hb, hk, hce.addHeader k v (Or.inl rfl)⟩

theorem Sim.closeComp {b : Bool} {s₁ s₂ : St} (h : Sim K b s₁.rc s₂.rc) :
    Sim K false (closeComp s₁).rc (closeComp s₂).rc := by
  rw [closeComp_none h.1]
  obtain ⟨h2, hn, hs⟩ := h
  rcases closeComp_cases s₁ with ⟨hc, e⟩ | ⟨c, hc, _, e⟩ | ⟨c, hc, _, e⟩ <;> rw [e]
  · exact ⟨h2, hn, fun c hc' => absurd (hc ▸ hc') (by simp)⟩
  · obtain ⟨_, hb, hk, hce⟩ := hs c hc
    refine ⟨h2, fun hh => absurd (hc ▸ hh) (by simp), fun c' hc' => ?_⟩
    cases hc.symm.trans hc'
    exact ⟨fun hh => absurd hh (by simp), hb, hk, hce.congr rfl rfl⟩
  · obtain ⟨_, hb, hk, hce⟩ := hs c hc
    refine ⟨h2, fun hh => absurd hh (by simp), fun c' hc' => ?_⟩
    cases hc'
    exact ⟨fun hh => absurd hh (by simp), hb, hk, (hce.lockStatus 200).congr rfl rfl⟩

theorem Sim.install (sr : SReq) {c : Coding} (hK : K c) :
    Sim K true (install (initial sr) c).rc (initial sr).rc := by
  have e : (Serve.install (initial sr) c).rc.comp = some { coding := c } := rfl
  refine ⟨rfl, fun hh => (by rw [e] at hh; cases hh), ?_⟩
  intro c' hc'
  rw [e, Option.some.injEq] at hc'
  subst hc'
  have e' : (Serve.install (initial sr) c).rc.sent = none := rfl
  refine ⟨fun _ => rfl, rfl, hK, ?_, fun h hh => (by rw [e'] at hh; cases hh)⟩
  show (List.filter _ _ ++ [(ceKey, c.name)]).find? isCE = _
  rw [List.find?_append]
  have : (List.filter (fun kv : Str × Str => decide (kv.1 ≠ "Content-Encoding".toList)) (initial sr).rc.headers).find? isCE = none := by
    rw [List.find?_eq_none]
    intro x hx
    have := (List.mem_filter.mp hx).2
    simpa [-String.reduceToList] using this
  have hf : isCE (ceKey, c.name) = true := decide_eq_true rfl
  rw [this]
  simp only [List.find?_cons, hf, Option.none_or]

theorem Sim.stable : Stable (Sim K true) (fun _ => True) :=
  ⟨fun b h => h.baseWrite b, fun c h => h.baseWriteHeader c, fun k v _ h => h.addHeader k v⟩

/-- the state is the one the request arrived with, unless a compressing writer was installed -/
def Pristine (sr : SReq) (s : St) : Prop := s.rc.comp = none → s = initial sr

theorem maybeInstall_sim (sr : SReq) (en : Bool) {s₁ s₂ : St}
    (hK : ∀ c, en = true → wants (initial sr).rc sr.acceptEncoding = some c → K c)
    (h : Sim K true s₁.rc s₂.rc) (hp : Pristine sr s₁) :
    Sim K true (maybeInstall en s₁ sr.acceptEncoding).rc s₂.rc ∧
      Pristine sr (maybeInstall en s₁ sr.acceptEncoding) := by
  unfold maybeInstall
  split
  · exact ⟨h, hp⟩
  · rename_i hcond
    have hen : en = true := by
      cases en
      · simp at hcond
      · rfl
    have hnone : s₁.rc.comp = none := by
      cases hc : s₁.rc.comp
      · rfl
      · simp [hc] at hcond
    have hs₁ := hp hnone
    have hs₂ : s₂.rc = (initial sr).rc := by rw [← h.2.1 hnone, hs₁]
    split
    · rename_i c hw
      rw [hs₁] at hw ⊢
      rw [hs₂]
      exact ⟨Sim.install sr (hK c hen hw), fun hh => by cases hh⟩
    · exact ⟨h, hp⟩

theorem finishDispatch_sim (cfg : Cfg) (p : Option Str) {s₁ s₂ : St} (h : Sim K true s₁.rc s₂.rc) :
    Sim K false (finishDispatch cfg s₁ p).1.rc (finishDispatch (Spec.noCoding cfg) s₂ p).1.rc := by
  unfold finishDispatch
  cases p with
  | none => exact h.closeComp
  | some v =>
    have e₁ : (Spec.noCoding cfg).recover = cfg.recover := rfl
    have e₂ : runRecover (Spec.noCoding cfg) s₂ = runRecover cfg s₂ := rfl
    simp only [e₁, e₂]
    cases cfg.recover
    · exact h.closeComp
    · exact (runRecover_rel Sim.stable cfg (CfgOk.trivial cfg).recover h).closeComp

theorem finish_of_chain (cfg : Cfg) (fs : List (Stage × Filter)) (t : Target) (cx : Ctx) {s₁ s₂ : St}
    (h : Sim K true s₁.rc s₂.rc) :
    Sim K false (finishDispatch cfg (runChain fs t cx s₁).2.1 (runChain fs t cx s₁).2.2).1.rc
      (finishDispatch (Spec.noCoding cfg) (runChain fs t cx s₂).2.1 (runChain fs t cx s₂).2.2).1.rc := by
  rw [runChain_panic, runChain_panic]
  exact finishDispatch_sim cfg _ (runChain_rel Sim.stable fs t cx (ChainOk.trivial fs t) h).2

theorem dispatch_sim (E : ReEnv) (cfg : Cfg) (sr : SReq) {s₁ s₂ : St}
    (hK : ∀ c, Spec.enabledFor E cfg .dispatch sr = true → wants (initial sr).rc sr.acceptEncoding = some c → K c)
    (h : Sim K true s₁.rc s₂.rc) (hp : Pristine sr s₁) :
    Sim K false (dispatch E cfg sr s₁).1.rc (dispatch E (Spec.noCoding cfg) (plainReq sr) s₂).1.rc := by
  unfold dispatch
  simp only
  cases hc : sr.condPanic with
  | some v => exact finishDispatch_sim cfg _ h
  | none =>
    simp only
    have er : (Spec.noCoding cfg).routing = cfg.routing := rfl
    rw [er]
    rcases hr : routeTagged E cfg.routing sr.req with ⟨o, tag⟩
    cases o with
    | panic w => exact finishDispatch_sim cfg _ h
    | error code allow =>
      exact finish_of_chain cfg _ _ _ h
    | selected svc rid ps =>
      simp only
      rw [allFilters_noCoding, routeX_noCoding, maybeInstall_nil]
      have hen : Spec.enabledFor E cfg .dispatch sr = (match (routeX cfg rid).enc with
          | some b => b
          | none => cfg.encoding) := by
        unfold Spec.enabledFor Spec.selectedRoute
        rw [hc, hr]
        rfl
      have hmi := maybeInstall_sim sr _ (fun c he hw => hK c (hen ▸ he) hw) h hp
      exact finish_of_chain cfg _ _ _ hmi.1

theorem Sim.closeLeft {b : Bool} {s₁ : St} {r₂ : Rec} (h : Sim K b s₁.rc r₂) :
    Sim K false (Serve.closeComp s₁).rc r₂ := by
  have := Sim.closeComp (s₁ := s₁) (s₂ := { rc := r₂ }) h
  rwa [closeComp_none (s := { rc := r₂ }) h.1] at this

theorem plainBody_sim (cfg : Cfg) {s₁ s₂ : St} (h : Sim K true s₁.rc s₂.rc) :
    Sim K true (plainBody cfg s₁).1.rc (plainBody (Spec.noCoding cfg) s₂).1.rc :=
  plainBody_rel Sim.stable cfg (CfgOk.trivial cfg).plain h

theorem plainFilteredBody_sim (cfg : Cfg) {s₁ s₂ : St} (h : Sim K true s₁.rc s₂.rc) :
    Sim K true (plainFilteredBody cfg s₁).1.rc (plainFilteredBody (Spec.noCoding cfg) s₂).1.rc :=
  plainFilteredBody_rel Sim.stable cfg (CfgOk.trivial cfg) h

theorem handleWrapper_sim (cfg : Cfg) (sr : SReq) {b₁ b₂ : St → St × Option Str × Nat}
    (hb : ∀ {s₁ s₂ : St}, Sim K true s₁.rc s₂.rc → Sim K true (b₁ s₁).1.rc (b₂ s₂).1.rc)
    (hK : ∀ c, cfg.encoding = true → wants (initial sr).rc sr.acceptEncoding = some c → K c)
    {s₁ s₂ : St} (h : Sim K true s₁.rc s₂.rc) (hp : Pristine sr s₁) :
    Sim K false (handleWrapper cfg sr s₁ b₁).1.rc
      (handleWrapper (Spec.noCoding cfg) (plainReq sr) s₂ b₂).1.rc := by
  rw [handleWrapper_plain _ sr h.1]
  unfold handleWrapper
  split
  · have := hb h
    rw [closeComp_none this.1]
    exact this.lax
  · exact (hb (maybeInstall_sim sr cfg.encoding hK h hp).1).closeComp

theorem serveWrapper_sim (cfg : Cfg) (sr : SReq) {i₁ i₂ : St → St × Option Str × Nat}
    (hi : ∀ {s₁ s₂ : St}, Sim K true s₁.rc s₂.rc → Pristine sr s₁ → Sim K false (i₁ s₁).1.rc (i₂ s₂).1.rc)
    (hK : ∀ c, cfg.encoding = true → wants (initial sr).rc sr.acceptEncoding = some c → K c)
    {s₁ s₂ : St} (h : Sim K true s₁.rc s₂.rc) (hp : Pristine sr s₁) :
    Sim K false (serveWrapper cfg sr s₁ i₁).1.rc
      (serveWrapper (Spec.noCoding cfg) (plainReq sr) s₂ i₂).1.rc := by
  have e₂ : serveWrapper (Spec.noCoding cfg) (plainReq sr) s₂ i₂ = i₂ s₂ := rfl
  rw [e₂]
  unfold serveWrapper
  split
  · exact hi h hp
  · rename_i hcond
    have hmi := maybeInstall_sim sr cfg.encoding hK h hp
    unfold maybeInstall at hmi
    rw [if_neg hcond] at hmi
    exact (hi hmi.1 hmi.2).closeLeft

/-- where the coding of a response comes from: it is what `wantsCompressedResponse` says about the
    request as it arrived, and encoding is enabled for the request -/
def Origin (E : ReEnv) (cfg : Cfg) (e : Entry) (sr : SReq) (c : Coding) : Prop :=
  wants (initial sr).rc sr.acceptEncoding = some c ∧
    (Spec.f09Class E cfg e sr = false → Spec.enabledFor E cfg e sr = true)

theorem enabledFor_serveDispatch {E : ReEnv} {cfg : Cfg} {sr : SReq}
    (h09 : Spec.f09Class E cfg .serveDispatch sr = false) (he : cfg.encoding = true) :
    Spec.enabledFor E cfg .serveDispatch sr = true := by
  unfold Spec.f09Class at h09
  unfold Spec.enabledFor
  cases hs : Spec.selectedRoute E cfg sr with
  | none => exact he
  | some rid =>
    rw [hs, he] at h09
    simp only
    cases hx : (routeX cfg rid).enc with
    | none => exact he
    | some b =>
      cases b
      · simp [hx] at h09
      · rfl

/-- the relation between the response and the response of the same request without codings -/
theorem serve_sim (E : ReEnv) (cfg : Cfg) (e : Entry) (sr : SReq) (w w' : World) :
    Sim (Origin E cfg e sr) false (serve E cfg e w sr).rc
      (serve E (Spec.noCoding cfg) e w' (plainReq sr)).rc := by
  rw [serve_rc, serve_rc]
  have hp : Pristine sr (initial sr) := fun _ => rfl
  have h0 : Sim (Origin E cfg e sr) true (initial sr).rc (initial (plainReq sr)).rc := Sim.same rfl
  have hH : ∀ {e}, Spec.enabledFor E cfg e sr = cfg.encoding →
      ∀ c, cfg.encoding = true → wants (initial sr).rc sr.acceptEncoding = some c → Origin E cfg e sr c :=
    fun h c he hw => ⟨hw, fun _ => h ▸ he⟩
  cases e with
  | dispatch =>
    exact dispatch_sim E cfg sr (fun c he hw => ⟨hw, fun _ => he⟩) h0 hp
  | serveDispatch =>
    exact serveWrapper_sim cfg sr
      (dispatch_sim E cfg sr (fun c he hw => ⟨hw, fun _ => he⟩))
      (fun c he hw => ⟨hw, fun h09 => enabledFor_serveDispatch h09 he⟩) h0 hp
  | muxHandle => exact handleWrapper_sim cfg sr (plainBody_sim cfg) (hH rfl) h0 hp
  | serveHandle =>
    exact serveWrapper_sim cfg sr (handleWrapper_sim cfg sr (plainBody_sim cfg) (hH rfl)) (hH rfl) h0 hp
  | muxHandleF => exact handleWrapper_sim cfg sr (plainFilteredBody_sim cfg) (hH rfl) h0 hp
  | serveHandleF =>
    exact serveWrapper_sim cfg sr (handleWrapper_sim cfg sr (plainFilteredBody_sim cfg) (hH rfl)) (hH rfl)
      h0 hp

/-- the `Content-Encoding` sent -/
def ceOf (r : Rec) : Str :=
  match (r.sent.getD r.headers).find? isCE with
  | some kv => kv.2
  | none => []

theorem obsOf_ce (R : Result) : (Spec.obsOf R).ce = ceOf R.rc := rfl

theorem CeIs.ceOf {x : Option (Str × Str)} {r : Rec} (h : CeIs x r) :
    ceOf r = (x.map (·.2)).getD [] := by
  unfold Enc.ceOf; rw [h.sent]; cases x <;> rfl

/-- what is known about a response that was encoded: the stream is complete, it decodes to the body
    of the same request without codings, the coding is the one `wantsCompressedResponse` names for
    the request as it arrived, encoding was enabled (outside F09), the label sent is the coding's -/
theorem coded_facts {E : ReEnv} {cfg : Cfg} {e : Entry} {sr : SReq} {w : World} (w' : World) {c : Comp}
    (hc : (serve E cfg e w sr).rc.comp = some c) :
    c.closed = true ∧ (serve E (Spec.noCoding cfg) e w' (plainReq sr)).rc.body = c.payload ∧
      wants (initial sr).rc sr.acceptEncoding = some c.coding ∧
      (Spec.f09Class E cfg e sr = false → Spec.enabledFor E cfg e sr = true) ∧
      ceOf (serve E cfg e w sr).rc = c.coding.name := by
  obtain ⟨_, hb, ⟨hw, hen⟩, hce⟩ := (serve_sim E cfg e sr w w').2.2 c hc
  exact ⟨serve_closed E cfg e w sr c hc, hb, hw, hen, hce.ceOf⟩

theorem uncoded_facts {E : ReEnv} {cfg : Cfg} {e : Entry} {sr : SReq} {w : World} (w' : World)
    (hc : (serve E cfg e w sr).rc.comp = none) :
    (serve E cfg e w sr).rc = (serve E (Spec.noCoding cfg) e w' (plainReq sr)).rc :=
  (serve_sim E cfg e sr w w').2.1 hc

theorem obsOf_rel (R : Result) : (Spec.obsOf R).rel = R.world.released := rfl

/-! ### the `Content-Encoding` of a response that is not encoded

Without Accept-Encoding nothing is ever installed; the first `Content-Encoding` entry of the header
map stays what it was on arrival as long as no script adds one to a map that has none. -/

/-- the script step adds a `Content-Encoding` header -/
def setsCE : Act → Bool
  | .addHeader k _ => decide (k = "Content-Encoding".toList)
  | _ => false

def scriptCE (l : List Act) : Bool := l.any setsCE
def filterCE (f : Filter) : Bool := scriptCE f.pre || scriptCE f.post

/-- some user code of the configuration (filter, route function, recover handler, plain handler)
    sets a `Content-Encoding` header itself -/
def userCE (cfg : Cfg) : Bool :=
  cfg.cfilters.any filterCE || cfg.svcs.any (fun sv => sv.filters.any filterCE) ||
    cfg.routes.any (fun r => r.filters.any filterCE || scriptCE r.script) ||
    (match cfg.recoverScript with
     | some sc => scriptCE sc
     | none => false) || scriptCE cfg.plainScript

/-- the `Content-Encoding` entry the writer carries on arrival -/
def arrived (sr : SReq) : Option (Str × Str) :=
  if sr.priorEncoding.isEmpty then none else some (ceKey, sr.priorEncoding)

/-- a header named `k` may be added without changing the first `Content-Encoding` entry `x` -/
def okKey (x : Option (Str × Str)) (k : Str) : Prop := x.isSome = true ∨ k ≠ ceKey

/-- no compressor, and the first `Content-Encoding` entry is `x` -/
def Inv (x : Option (Str × Str)) (r : Rec) : Prop := r.comp = none ∧ CeIs x r

theorem Inv.stable (x : Option (Str × Str)) : Stable (fun r _ => Inv x r) (okKey x) := by
  refine ⟨?_, ?_, ?_⟩
  · intro r _ b h
    exact ⟨by rw [baseWrite_none h.1]; simpa using h.1, h.2.baseWrite b⟩
  · intro r _ c h
    exact ⟨by unfold baseWriteHeader; simpa using h.1, h.2.lockStatus c⟩
  · intro r _ k v hk h
    exact ⟨h.1, h.2.addHeader k v hk⟩

theorem scriptOk_of {x : Option (Str × Str)} {acts : List Act} (h : x.isSome = true ∨ scriptCE acts = false) :
    ScriptOk (okKey x) acts := by
  intro k v hm
  rcases h with h | h
  · exact Or.inl h
  · refine Or.inr (fun hk => ?_)
    unfold scriptCE at h
    rw [List.any_eq_false] at h
    exact h _ hm (decide_eq_true hk)

theorem filterOk_of {x : Option (Str × Str)} {f : Filter} (h : x.isSome = true ∨ filterCE f = false) :
    FilterOk (okKey x) f := by
  rcases h with h | h
  · exact ⟨scriptOk_of (Or.inl h), scriptOk_of (Or.inl h)⟩
  · unfold filterCE at h
    rw [Bool.or_eq_false_iff] at h
    exact ⟨scriptOk_of (Or.inr h.1), scriptOk_of (Or.inr h.2)⟩

theorem cfgOk_of {x : Option (Str × Str)} {cfg : Cfg} (h : x.isSome = true ∨ userCE cfg = false) :
    CfgOk (okKey x) cfg := by
  rcases h with h | h
  · have hs : ∀ acts, ScriptOk (okKey x) acts := fun acts => scriptOk_of (Or.inl h)
    have hf : ∀ f, FilterOk (okKey x) f := fun f => ⟨hs _, hs _⟩
    exact ⟨fun f _ => hf f, fun _ _ f _ => hf f, fun r _ => ⟨fun f _ => hf f, hs _⟩, fun sc _ => hs sc, hs _⟩
  · unfold userCE at h
    simp only [Bool.or_eq_false_iff, List.any_eq_false, Bool.not_eq_true] at h
    obtain ⟨⟨⟨⟨h1, h2⟩, h3⟩, h4⟩, h5⟩ := h
    refine ⟨fun f hf => filterOk_of (Or.inr (h1 f hf)), fun sv hsv f hf => filterOk_of (Or.inr (h2 sv hsv f hf)),
      fun r hr => ⟨fun f hf => filterOk_of (Or.inr ((h3 r hr).1 f hf)), scriptOk_of (Or.inr (h3 r hr).2)⟩,
      ?_, scriptOk_of (Or.inr h5)⟩
    intro sc hsc
    rw [hsc] at h4
    exact scriptOk_of (Or.inr h4)

theorem cfgOk_noCoding {ok : Str → Prop} {cfg : Cfg} (h : CfgOk ok cfg) : CfgOk ok (Spec.noCoding cfg) := by
  refine ⟨h.cfilters, h.svcs, ?_, h.recover, h.plain⟩
  intro r hr
  obtain ⟨r', hr', rfl⟩ := List.mem_map.mp hr
  exact h.routes r' hr'

theorem allow_ne_ce : "Allow".toList ≠ ceKey := by
  show "Allow".toList ≠ "Content-Encoding".toList
  simp

theorem scriptOk_errorScript (x : Option (Str × Str)) (code : Nat) (allow : Option (List Str)) (msg : Str) :
    ScriptOk (okKey x) (errorScript code allow msg) := by
  intro k v hm
  unfold errorScript at hm
  cases allow with
  | none => simp at hm
  | some al =>
    simp only [List.cons_append, List.nil_append, List.mem_cons, Act.addHeader.injEq, reduceCtorEq,
      List.not_mem_nil, or_false] at hm
    rw [hm.1]
    exact Or.inr allow_ne_ce

section inv
variable {x : Option (Str × Str)}

theorem dispatch_inv (E : ReEnv) {cfg : Cfg} (hc : CfgOk (okKey x) cfg) (sr : SReq) {s : St} (h : Inv x s.rc) :
    Inv x (dispatch E cfg (plainReq sr) s).1.rc :=
  dispatch_pres (Inv.stable x) (fun s h => by rw [closeComp_none h.1]; exact h) hc E (scriptOk_errorScript x) _ h
    (fun en => by rw [maybeInstall_nil]; exact h)

theorem handleWrapper_inv (cfg : Cfg) (sr : SReq) {b : St → St × Option Str × Nat}
    (hb : ∀ {s : St}, Inv x s.rc → Inv x (b s).1.rc) {s : St} (h : Inv x s.rc) :
    Inv x (handleWrapper cfg (plainReq sr) s b).1.rc := by
  have := hb h
  rw [handleWrapper_plain cfg sr h.1, closeComp_none this.1]
  exact this

theorem serveWrapper_inv (cfg : Cfg) (sr : SReq) {i : St → St × Option Str × Nat}
    (hi : ∀ {s : St}, Inv x s.rc → Inv x (i s).1.rc) {s : St} (h : Inv x s.rc) :
    Inv x (serveWrapper cfg (plainReq sr) s i).1.rc := by
  unfold serveWrapper
  simp only [wants_nil]
  have := hi h
  split
  · exact this
  · show Inv x (closeComp (i s).1).rc
    rw [closeComp_none this.1]; exact this

theorem initial_inv (sr : SReq) : Inv (arrived sr) (initial sr).rc := by
  refine ⟨rfl, ?_, fun h hh => by cases hh⟩
  unfold arrived initial
  cases sr.priorEncoding with
  | nil => rfl
  | cons a as =>
    have hf : isCE (ceKey, a :: as) = true := decide_eq_true rfl
    simp only [List.isEmpty_cons, Bool.false_eq_true, if_false, List.find?_cons, hf]

theorem serveCore_inv (E : ReEnv) {cfg : Cfg} (e : Entry) (sr : SReq) (hc : CfgOk (okKey (arrived sr)) cfg) :
    Inv (arrived sr) (serveCore E cfg e (plainReq sr)).1.rc := by
  have h0 : Inv (arrived sr) (initial (plainReq sr)).rc := initial_inv sr
  cases e with
  | dispatch => exact dispatch_inv E hc sr h0
  | serveDispatch => exact serveWrapper_inv cfg sr (fun h => dispatch_inv E hc sr h) h0
  | muxHandle => exact handleWrapper_inv cfg sr (plainBody_pres (Inv.stable _) cfg _ hc) h0
  | serveHandle => exact serveWrapper_inv cfg sr (fun h => handleWrapper_inv cfg sr (plainBody_pres (Inv.stable _) cfg _ hc) h) h0
  | muxHandleF => exact handleWrapper_inv cfg sr (plainFilteredBody_pres (Inv.stable _) cfg _ hc) h0
  | serveHandleF =>
    exact serveWrapper_inv cfg sr (fun h => handleWrapper_inv cfg sr (plainFilteredBody_pres (Inv.stable _) cfg _ hc) h) h0

end inv

theorem arrived_value (sr : SReq) : ((arrived sr).map (·.2)).getD [] = sr.priorEncoding := by
  unfold arrived
  cases h : sr.priorEncoding <;> rfl

theorem arrived_isSome (sr : SReq) : (arrived sr).isSome = !sr.priorEncoding.isEmpty := by
  unfold arrived
  cases h : sr.priorEncoding <;> rfl

/-- without codings the response leaves with the `Content-Encoding` it arrived with, provided the
    writer carried one or no user code sets one -/
theorem plain_ce (E : ReEnv) (cfg : Cfg) (e : Entry) (w : World) (sr : SReq)
    (h : sr.priorEncoding.isEmpty = false ∨ userCE cfg = false) :
    ceOf (serve E (Spec.noCoding cfg) e w (plainReq sr)).rc = sr.priorEncoding := by
  have hc : CfgOk (okKey (arrived sr)) (Spec.noCoding cfg) := by
    refine cfgOk_noCoding (cfgOk_of ?_)
    rcases h with h | h
    · left; rw [arrived_isSome, h]; rfl
    · exact Or.inr h
  rw [serve_rc, (serveCore_inv E e sr hc).2.ceOf, arrived_value]

theorem uncoded_ce {E : ReEnv} {cfg : Cfg} {e : Entry} {w : World} {sr : SReq}
    (h : sr.priorEncoding.isEmpty = false ∨ userCE cfg = false)
    (hc : (serve E cfg e w sr).rc.comp = none) :
    ceOf (serve E cfg e w sr).rc = sr.priorEncoding := by
  rw [uncoded_facts {} hc]; exact plain_ce E cfg e {} sr h

end Serve.Enc
end Restful
