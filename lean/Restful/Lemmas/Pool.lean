/-
C13: the bounded compressor cache (`NewBoundedCachedCompressors`) never hands one object to two
requests and never makes a request wait.

The cache is a buffered Go channel.  Every provider call is ONE atomic step on the channel:

  acquire:  `select { case o = <-chan: default: o = new() }`
  release:  `select { case chan <- o: default: }`

so an execution of any number of goroutines is exactly a finite list of such steps (a *schedule*),
taken by arbitrary threads in arbitrary order.  Nothing below bounds the capacity, the number of
threads or the length of the schedule.

-/
import Restful.Lemmas.Nodup
namespace Restful.Pool

abbrev Obj := Nat
abbrev Tid := Nat

/-- channel content (oldest first), objects in use by some request, and the supply of fresh objects
    (`next`, `next+1`, … have never been handed out) -/
structure St where
  cap  : Nat
  chan : List Obj
  held : List (Tid × Obj)
  next : Obj
  deriving Repr, DecidableEq

/-- the atomic steps; any thread may attempt any of them at any time -/
inductive Step where
  | acquire (t : Tid)
  | release (t : Tid) (o : Obj)
  deriving Repr, DecidableEq

/-- `select { case o = <-chan: default: o = new() }`: the new state and the object returned -/
def acquire (σ : St) (t : Tid) : St × Obj :=
  match σ.chan with
  | o :: rest => ({ σ with chan := rest, held := (t, o) :: σ.held }, o)
  | [] => ({ σ with held := (t, σ.next) :: σ.held, next := σ.next + 1 }, σ.next)

/-- `select { case chan <- o: default: }`: append when there is room, otherwise drop -/
def release (σ : St) (t : Tid) (o : Obj) : St :=
  if σ.chan.length < σ.cap then { σ with chan := σ.chan ++ [o], held := σ.held.erase (t, o) }
  else { σ with held := σ.held.erase (t, o) }

/-- one step; `none` = not enabled.  The only side condition is that a thread can release only
    what it holds – a condition on the *caller*, not something a thread can wait for. -/
def step (σ : St) : Step → Option St
  | .acquire t => some (acquire σ t).1
  | .release t o => if (t, o) ∈ σ.held then some (release σ t o) else none

/-- run a schedule; steps that are not enabled are skipped -/
def run (σ : St) : List Step → St
  | [] => σ
  | s :: rest => run ((step σ s).getD σ) rest

/-- `NewBoundedCachedCompressors`: the channel is filled with `cap` distinct objects -/
def init (cap : Nat) : St := { cap := cap, chan := List.range cap, held := [], next := cap }

inductive Reachable (cap : Nat) : St → Prop
  | init : Reachable cap (init cap)
  | step {σ σ' : St} (s : Step) : Reachable cap σ → step σ s = some σ' → Reachable cap σ'

def Inv (σ : St) : Prop :=
  σ.chan.length ≤ σ.cap ∧ (σ.chan ++ σ.held.map (·.2)).Nodup ∧
    ∀ o ∈ σ.chan ++ σ.held.map (·.2), o < σ.next

theorem release_held (σ : St) (t : Tid) (o : Obj) : (release σ t o).held = σ.held.erase (t, o) := by
  unfold release; split <;> rfl

/-! ### the invariant -/

theorem init_inv (cap : Nat) : Inv (init cap) := by
  refine ⟨by simp [init], by simp [init, List.nodup_range], ?_⟩
  intro o ho
  simpa [init] using ho

theorem acquire_inv (σ : St) (t : Tid) (h : Inv σ) : Inv (acquire σ t).1 := by
  obtain ⟨hc, hn, hl⟩ := h
  unfold acquire
  split
  · rename_i o rest heq
    rw [heq] at hc hn hl
    have hp : (o :: rest ++ σ.held.map (·.2)).Perm (rest ++ o :: σ.held.map (·.2)) := by
      simpa using (List.perm_middle (a := o) (l₁ := rest) (l₂ := σ.held.map (·.2))).symm
    refine ⟨?_, hp.nodup_iff.mp hn, fun x hx => hl x (hp.mem_iff.mpr hx)⟩
    simp only [List.length_cons] at hc ⊢
    omega
  · rename_i heq
    simp only [heq, List.nil_append] at hn hl
    refine ⟨hc, ?_, ?_⟩
    · simp only [heq, List.nil_append, List.map_cons, List.nodup_cons]
      exact ⟨fun hm => Nat.lt_irrefl _ (hl _ hm), hn⟩
    · simp only [heq, List.nil_append, List.map_cons, List.mem_cons, forall_eq_or_imp]
      exact ⟨Nat.lt_succ_self _, fun x hx => Nat.lt_succ_of_lt (hl x hx)⟩

theorem release_inv (σ : St) (t : Tid) (o : Obj) (hm : (t, o) ∈ σ.held) (h : Inv σ) :
    Inv (release σ t o) := by
  obtain ⟨hc, hn, hl⟩ := h
  have hp : σ.held.Perm ((t, o) :: σ.held.erase (t, o)) := List.perm_cons_erase hm
  have hp2 : (σ.held.map (·.2)).Perm (o :: (σ.held.erase (t, o)).map (·.2)) := by
    simpa using hp.map (·.2)
  have hsub : ((σ.held.erase (t, o)).map (·.2)).Sublist (σ.held.map (·.2)) :=
    (List.erase_sublist).map _
  unfold release
  split
  · rename_i hlt
    have hp3 : (σ.chan ++ σ.held.map (·.2)).Perm
        ((σ.chan ++ [o]) ++ (σ.held.erase (t, o)).map (·.2)) := by
      have := hp2.append_left σ.chan
      simpa [List.append_assoc] using this
    refine ⟨?_, hp3.nodup_iff.mp hn, ?_⟩
    · simp only [List.length_append, List.length_cons, List.length_nil]; omega
    · intro x hx
      exact hl x (hp3.mem_iff.mpr hx)
  · have hsub' := (List.Sublist.refl σ.chan).append hsub
    exact ⟨hc, hn.sublist hsub', fun x hx => hl x (hsub'.subset hx)⟩

theorem step_cases {σ σ' : St} {s : Step} (hs : step σ s = some σ') :
    (∃ t, σ' = (acquire σ t).1) ∨ ∃ t o, (t, o) ∈ σ.held ∧ σ' = release σ t o := by
  cases s with
  | acquire t => cases hs; exact .inl ⟨t, rfl⟩
  | release t o =>
    simp only [step] at hs
    split at hs
    · rename_i hm
      cases hs; exact .inr ⟨t, o, hm, rfl⟩
    · cases hs

theorem step_inv {σ σ' : St} (s : Step) (h : Inv σ) (hs : step σ s = some σ') : Inv σ' := by
  rcases step_cases hs with ⟨t, rfl⟩ | ⟨t, o, hm, rfl⟩
  · exact acquire_inv σ t h
  · exact release_inv σ t o hm h

theorem reachable_inv {cap : Nat} {σ : St} (h : Reachable cap σ) : Inv σ := by
  induction h with
  | init => exact init_inv cap
  | step s _ hs ih => exact step_inv s ih hs

/-- schedules and `Reachable` describe the same states -/
theorem reachable_iff_run (cap : Nat) (σ : St) :
    Reachable cap σ ↔ ∃ sched, run (init cap) sched = σ := by
  constructor
  · intro h
    induction h with
    | init => exact ⟨[], rfl⟩
    | @step σ₁ σ₂ s _ hs ih =>
      obtain ⟨sched, rfl⟩ := ih
      refine ⟨sched ++ [s], ?_⟩
      have hrun : ∀ (τ : St) (l₁ l₂ : List Step), run τ (l₁ ++ l₂) = run (run τ l₁) l₂ := by
        intro τ l₁
        induction l₁ generalizing τ with
        | nil => intro l₂; rfl
        | cons a l₁ ih => intro l₂; exact ih _ l₂
      rw [hrun]
      simp [run, hs]
  · rintro ⟨sched, rfl⟩
    have : ∀ (τ : St), Reachable cap τ → Reachable cap (run τ sched) := by
      induction sched with
      | nil => intro τ h; exact h
      | cons s rest ih =>
        intro τ h
        apply ih
        cases hs : step τ s with
        | none => simpa using h
        | some τ' => simpa using Reachable.step s h hs
    exact this _ Reachable.init

/-- **C13, exclusivity.**  After every schedule – any capacity (0 and 1 included), any number of
    threads, any interleaving – the objects in the channel and the objects in use are pairwise
    distinct, the channel is within its capacity, and all of them are older than the fresh supply. -/
theorem C13_exclusive (cap : Nat) : ∀ sched : List Step, Inv (run (init cap) sched) :=
  fun sched => reachable_inv ((reachable_iff_run cap _).mpr ⟨sched, rfl⟩)

/-- the list of objects in use has no duplicate at all (not even for one thread) … -/
theorem held_nodup {σ : St} (h : Inv σ) : (σ.held.map (·.2)).Nodup :=
  (List.nodup_append.mp h.2.1).2.1

/-- … so an object is never in use by two entries at once: in particular never by two threads -/
theorem held_unique {σ : St} (h : Inv σ) {t t' : Tid} {o : Obj}
    (h1 : (t, o) ∈ σ.held) (h2 : (t', o) ∈ σ.held) : t = t' :=
  congrArg Prod.fst (Registry.nodup_map_inj (held_nodup h) h1 h2 rfl)

/-- an object in use is not simultaneously waiting in the channel -/
theorem held_not_cached {σ : St} (h : Inv σ) {t : Tid} {o : Obj} (h1 : (t, o) ∈ σ.held) :
    o ∉ σ.chan := by
  intro hc
  exact (List.nodup_append.mp h.2.1).2.2 o hc o (List.mem_map.mpr ⟨(t, o), h1, rfl⟩) rfl

/-- **C13, what `acquire` returns.**  The returned object is either the oldest cached one (it left
    the channel and does not occur in it any more) or a fresh one (no smaller than the old supply
    counter, hence different from everything ever handed out); it is never an object that is in use,
    and afterwards the acquiring thread – and only it – holds it. -/
theorem C13_acquire_fresh_or_cached {σ : St} (h : Inv σ) (t : Tid) :
    let σ' := (acquire σ t).1
    let o := (acquire σ t).2
    ((σ.chan = o :: σ'.chan ∧ o ∉ σ'.chan ∧ σ'.next = σ.next) ∨
      (σ.chan = [] ∧ σ'.chan = [] ∧ σ.next ≤ o ∧ σ'.next = o + 1)) ∧
    o ∉ σ.held.map (·.2) ∧
    σ'.held = (t, o) :: σ.held ∧
    (∀ t', (t', o) ∈ σ'.held → t' = t) := by
  obtain ⟨_, hn, hl⟩ := h
  -- the acquiring thread is the only holder, because the object was not in use
  have only : ∀ o ∉ σ.held.map (·.2), ∀ t', (t', o) ∈ (t, o) :: σ.held → t' = t := fun o ho t' ht' =>
    (List.mem_cons.mp ht').elim (fun e => (Prod.mk.inj e).1)
      fun hm => absurd (List.mem_map.mpr ⟨_, hm, rfl⟩) ho
  unfold acquire
  split
  · rename_i o rest heq
    rw [heq] at hn
    simp only [List.cons_append, List.nodup_cons, List.mem_append, not_or] at hn
    exact ⟨.inl ⟨heq, hn.1.1, rfl⟩, hn.1.2, rfl, only o hn.1.2⟩
  · rename_i heq
    have hf : σ.next ∉ σ.held.map (·.2) := fun hm => Nat.lt_irrefl _ (hl _ (List.mem_append_right _ hm))
    exact ⟨.inr ⟨heq, heq, Nat.le_refl _, rfl⟩, hf, rfl, only _ hf⟩

/-- **C13, nobody ever waits.**  In every reachable state every thread can acquire, and every
    thread holding an object can release it: each provider call is a single, always enabled step
    (`select` with a `default` branch), so no schedule can leave a thread blocked inside the
    provider.  (This holds in every state; the hypothesis only places the theorem among the
    protocol's reachable states.) -/
theorem C13_nonblocking (cap : Nat) (σ : St) (_hreach : Reachable cap σ) :
    (∀ t, ∃ σ', step σ (.acquire t) = some σ') ∧
    (∀ t o, (t, o) ∈ σ.held → ∃ σ', step σ (.release t o) = some σ') := by
  refine ⟨fun t => ⟨_, rfl⟩, fun t o hm => ⟨release σ t o, ?_⟩⟩
  simp [step, hm]

/-- after a release the thread no longer holds the object, and nobody else does -/
theorem release_not_held {σ : St} (h : Inv σ) {t : Tid} {o : Obj} (hm : (t, o) ∈ σ.held) :
    ∀ t', (t', o) ∉ (release σ t o).held := by
  intro t' hm'
  rw [release_held] at hm'
  have hp : σ.held.Perm ((t, o) :: σ.held.erase (t, o)) := List.perm_cons_erase hm
  have hn : (((t, o) :: σ.held.erase (t, o)).map (·.2)).Nodup :=
    (hp.map (·.2)).nodup_iff.mp (held_nodup h)
  simp only [List.map_cons, List.nodup_cons, List.mem_map, not_exists, not_and] at hn
  exact hn.1 _ hm' rfl

/-! ### the provider contract (covers `sync.Pool` and custom providers)

Any provider – whatever its internal state `S` – whose `acquire` returns an object that is not in
use and whose `release` only takes objects out of use (caching or dropping them) keeps "no object
is in use twice".  `held` is the ghost list of objects in use. -/

inductive RTC {S : Type} (R : S → S → Prop) : S → S → Prop
  | refl (σ : S) : RTC R σ σ
  | tail {σ σ' σ'' : S} : RTC R σ σ' → R σ' σ'' → RTC R σ σ''

theorem sync_pool_contract {S : Type} (held : S → List (Tid × Obj)) (R : S → S → Prop)
    (hstep : ∀ σ σ', R σ σ' →
      (∃ t o, o ∉ (held σ).map (·.2) ∧ (held σ').Perm ((t, o) :: held σ)) ∨   -- acquire
      (held σ').Sublist (held σ))                                               -- release
    (σ σ' : S) (hreach : RTC R σ σ') (h : ((held σ).map (·.2)).Nodup) :
    ((held σ').map (·.2)).Nodup ∧
      ∀ t t' o, (t, o) ∈ held σ' → (t', o) ∈ held σ' → t = t' := by
  have hnd : ((held σ').map (·.2)).Nodup := by
    induction hreach with
    | refl => exact h
    | tail _ hR ih =>
      rcases hstep _ _ hR with ⟨t, o, hfresh, hp⟩ | hsub
      · have := (hp.map (·.2)).nodup_iff.mpr
        apply this
        simp only [List.map_cons, List.nodup_cons]
        exact ⟨hfresh, ih⟩
      · exact ih.sublist (hsub.map _)
  exact ⟨hnd, fun t t' o h1 h2 => congrArg Prod.fst (Registry.nodup_map_inj hnd h1 h2 rfl)⟩

/-- the bounded cache itself satisfies the contract -/
theorem bounded_cache_meets_contract (σ σ' : St) (hi : Inv σ) (hs : ∃ s, step σ s = some σ') :
    (∃ t o, o ∉ σ.held.map (·.2) ∧ σ'.held.Perm ((t, o) :: σ.held)) ∨ σ'.held.Sublist σ.held := by
  obtain ⟨s, hs⟩ := hs
  rcases step_cases hs with ⟨t, rfl⟩ | ⟨t, o, _, rfl⟩
  · have := C13_acquire_fresh_or_cached hi t
    exact .inl ⟨t, (acquire σ t).2, this.2.1, by rw [this.2.2.1]⟩
  · exact .inr (release_held σ t o ▸ List.erase_sublist)

/-! ### payloads: every response is written through its own object only

The objects are buffers.  A request (thread) `t` has a payload `pay t`; after acquiring an
object it `Reset`s it (compress.go:125/130, request.go:86: the buffer starts empty) and writes its
payload through it byte by byte — any number of other threads doing the same in between, in any
order —; at `Close` the content of the buffer is what `t`'s client receives (`out`), and the object
goes back to the provider.  `sent t o` is the thread's own view: the bytes it has handed to `o`
since it acquired it.  `buf o` is what is really in the object.  That the two agree — no byte of
another request ever shows up in `t`'s object, none of `t`'s bytes is lost — is not a property of
the buffers: it holds because no object is ever held twice (`C13_exclusive`); `own_payload_needs_exclusive`
below shows what happens otherwise. -/

abbrev Byte := Nat

structure BSt where
  core : St
  /-- content of each object since its last `Reset` -/
  buf  : Obj → List Byte
  /-- ghost: what thread `t` has written through `o` since it acquired it -/
  sent : Tid → Obj → List Byte
  /-- responses delivered, newest first: at `Close` the buffer is what `t`'s client gets -/
  out  : List (Tid × List Byte)

inductive BStep where
  | acquire (t : Tid)               -- provider call + `Reset`
  | write (t : Tid) (o : Obj)       -- `t` writes the next byte of its payload through `o`
  | release (t : Tid) (o : Obj)     -- `Close`: deliver, then the provider call
  deriving Repr, DecidableEq

def upd {β : Type} (f : Obj → β) (o : Obj) (v : β) : Obj → β := fun x => if x = o then v else f x

def upd2 {β : Type} (f : Tid → Obj → β) (t : Tid) (o : Obj) (v : β) : Tid → Obj → β :=
  fun t' x => if t' = t ∧ x = o then v else f t' x

/-- one step; `none` = not enabled (a thread can write through and release only what it holds) -/
def bstep (pay : Tid → List Byte) (σ : BSt) : BStep → Option BSt
  | .acquire t =>
    let r := acquire σ.core t
    some { σ with core := r.1, buf := upd σ.buf r.2 [], sent := upd2 σ.sent t r.2 [] }
  | .write t o =>
    if (t, o) ∈ σ.core.held then
      match (pay t)[(σ.sent t o).length]? with
      | none => some σ                                   -- payload complete: nothing left to write
      | some b => some { σ with buf := upd σ.buf o (σ.buf o ++ [b]), sent := upd2 σ.sent t o (σ.sent t o ++ [b]) }
    else none
  | .release t o =>
    if (t, o) ∈ σ.core.held then
      some { σ with core := release σ.core t o, out := (t, σ.buf o) :: σ.out }
    else none

def brun (pay : Tid → List Byte) (σ : BSt) : List BStep → BSt
  | [] => σ
  | s :: rest => brun pay ((bstep pay σ s).getD σ) rest

def binit (cap : Nat) : BSt := { core := init cap, buf := fun _ => [], sent := fun _ _ => [], out := [] }

inductive BReachable (pay : Tid → List Byte) (cap : Nat) : BSt → Prop
  | init : BReachable pay cap (binit cap)
  | step {σ σ' : BSt} (s : BStep) : BReachable pay cap σ → bstep pay σ s = some σ' → BReachable pay cap σ'

/-- the provider underneath does exactly what the protocol model says: writes do not touch it -/
theorem breachable_core {pay : Tid → List Byte} {cap : Nat} {σ : BSt} (h : BReachable pay cap σ) :
    Reachable cap σ.core := by
  induction h with
  | init => exact Reachable.init
  | @step σ₁ σ₂ s _ hs ih =>
    cases s with
    | acquire t => cases hs; exact Reachable.step (.acquire t) ih rfl
    | write t o =>
      simp only [bstep] at hs
      split at hs
      · split at hs <;> (cases hs; exact ih)
      · cases hs
    | release t o =>
      simp only [bstep] at hs
      split at hs
      · rename_i hm
        cases hs
        exact Reachable.step (.release t o) ih (if_pos hm)
      · cases hs

/-- exclusivity in every reachable state of the buffer model: that of the provider calls that led
    there -/
theorem breachable_exclusive {pay : Tid → List Byte} {cap : Nat} {σ : BSt} (h : BReachable pay cap σ) :
    Inv σ.core :=
  reachable_inv (breachable_core h)

/-- what `C13_own_payload` claims of a state -/
def Own (pay : Tid → List Byte) (σ : BSt) : Prop :=
  (∀ p ∈ σ.core.held, σ.buf p.2 = σ.sent p.1 p.2 ∧ σ.buf p.2 <+: pay p.1) ∧
  (∀ d ∈ σ.out, d.2 <+: pay d.1)

theorem prefix_snoc_getElem? {l p : List Byte} {b : Byte} (h : l <+: p) (hb : p[l.length]? = some b) :
    l ++ [b] <+: p := by
  obtain ⟨r, rfl⟩ := h
  cases r with
  | nil => simp at hb
  | cons x r =>
    have : x = b := by simpa using hb
    subst this
    exact ⟨r, by simp⟩

/-- one step keeps `Own` — GIVEN that the state before it is exclusive (`hex`) -/
theorem bstep_own {pay : Tid → List Byte} {σ σ' : BSt} (s : BStep) (hex : Inv σ.core) (h : Own pay σ)
    (hs : bstep pay σ s = some σ') : Own pay σ' := by
  obtain ⟨hh, ho⟩ := h
  cases s with
  | acquire t =>
    simp only [bstep, Option.some.injEq] at hs
    subst hs
    have hacq := C13_acquire_fresh_or_cached hex t
    simp only at hacq
    obtain ⟨_, hfresh, hheld, _⟩ := hacq
    refine ⟨?_, ho⟩
    intro p hp
    simp only [hheld, List.mem_cons] at hp
    rcases hp with rfl | hp
    · simp [upd, upd2]
    · -- an object somebody else holds is not the one just handed out: its buffer is not reset
      have hne : p.2 ≠ (acquire σ.core t).2 := by
        intro he
        exact hfresh (List.mem_map.mpr ⟨p, hp, he⟩)
      have := hh p hp
      simp only [upd, upd2, hne, if_false, and_false]
      exact this
  | write t o =>
    simp only [bstep] at hs
    split at hs
    · rename_i hm
      split at hs
      · cases hs; exact ⟨hh, ho⟩
      · rename_i b hb
        cases hs
        refine ⟨?_, ho⟩
        intro p hp
        have hp' : p ∈ σ.core.held := hp
        by_cases hpo : p.2 = o
        · -- the same object: then the same holder (exclusivity), and the byte is its own next byte
          have hpt : p.1 = t := held_unique hex (t := p.1) (t' := t) (o := o) (by rw [← hpo]; exact hp') hm
          obtain ⟨h1, h2⟩ := hh (t, o) hm
          simp only at h1 h2
          simp only [upd, upd2, hpo, hpt, if_true, and_self, h1, true_and]
          rw [h1] at h2
          exact prefix_snoc_getElem? h2 hb
        · have := hh p hp'
          simp only [upd, upd2, hpo, if_false, and_false]
          exact this
    · cases hs
  | release t o =>
    simp only [bstep] at hs
    split at hs
    · rename_i hm
      cases hs
      refine ⟨?_, ?_⟩
      · intro p hp
        rw [release_held] at hp
        exact hh p (List.mem_of_mem_erase hp)
      · intro d hd
        simp only [List.mem_cons] at hd
        rcases hd with rfl | hd
        · exact (hh (t, o) hm).2
        · exact ho d hd
    · cases hs

/-- **C13, concurrent responses carry their own payload.**  In every reachable state — any capacity
    (0 and 1 included), any number of requests in flight, every interleaving of acquisitions,
    single-byte writes and releases —: the buffer of an object a request holds contains exactly the
    bytes that request has written through it, a prefix of its own payload (no foreign byte, none
    lost), and every response delivered so far is a prefix of the payload of the request it was
    delivered to (all of it, when the request had written all of it: `own_payload_complete`).
    A consequence of `C13_exclusive` (`breachable_exclusive`) and of the `Reset` at acquisition. -/
theorem C13_own_payload (pay : Tid → List Byte) (cap : Nat) (σ : BSt) (h : BReachable pay cap σ) :
    (∀ t o, (t, o) ∈ σ.core.held → σ.buf o = σ.sent t o ∧ σ.buf o <+: pay t) ∧
    (∀ t b, (t, b) ∈ σ.out → b <+: pay t) := by
  have hown : Own pay σ := by
    induction h with
    | init => exact ⟨fun p hp => (by cases hp), fun d hd => (by cases hd)⟩
    | step s hprev hs ih => exact bstep_own s (breachable_exclusive hprev) ih hs
  exact ⟨fun t o hm => hown.1 (t, o) hm, fun t b hm => hown.2 (t, b) hm⟩

theorem breachable_brun (pay : Tid → List Byte) (cap : Nat) (sched : List BStep) :
    BReachable pay cap (brun pay (binit cap) sched) := by
  have : ∀ (τ : BSt), BReachable pay cap τ → BReachable pay cap (brun pay τ sched) := by
    induction sched with
    | nil => intro τ h; exact h
    | cons s rest ih =>
      intro τ h
      apply ih
      cases hs : bstep pay τ s with
      | none => simpa using h
      | some τ' => simpa using BReachable.step s h hs
  exact this _ BReachable.init

theorem C13_own_payload_run (pay : Tid → List Byte) (cap : Nat) (sched : List BStep) :
    let σ := brun pay (binit cap) sched
    (∀ t o, (t, o) ∈ σ.core.held → σ.buf o = σ.sent t o ∧ σ.buf o <+: pay t) ∧
    (∀ t b, (t, b) ∈ σ.out → b <+: pay t) :=
  C13_own_payload pay cap _ (breachable_brun pay cap sched)

/-- a delivered response that is as long as the payload IS the payload -/
theorem own_payload_complete {pay : Tid → List Byte} {cap : Nat} {σ : BSt} (h : BReachable pay cap σ)
    {t : Tid} {b : List Byte} (hm : (t, b) ∈ σ.out) (hl : b.length = (pay t).length) : b = pay t := by
  obtain ⟨r, hr⟩ := (C13_own_payload pay cap σ h).2 t b hm
  have : r = [] := by
    have := congrArg List.length hr
    simp only [List.length_append] at this
    exact List.eq_nil_of_length_eq_zero (by omega)
  simpa [this] using hr

/-- why exclusivity is the hypothesis: from a state in which two requests hold the SAME object (what
    a provider handing out an object in use produces) one write of each leaves a foreign byte in
    front of request 1's bytes and the buffer is not what either of them sent -/
theorem own_payload_needs_exclusive :
    let pay : Tid → List Byte := fun t => if t = 0 then [10, 11] else [20, 21]
    let bad : BSt := { core := { cap := 1, chan := [], held := [(0, 0), (1, 0)], next := 1 },
                       buf := fun _ => [], sent := fun _ _ => [], out := [] }
    let σ := brun pay bad [.write 0 0, .write 1 0, .release 1 0]
    ¬ Inv bad.core ∧ σ.out = [(1, [10, 20])] ∧ ¬ ([10, 20] <+: pay 1) := by
  refine ⟨?_, by decide +kernel, by decide +kernel⟩
  unfold Inv
  decide +kernel

/-! ### F13: `Release` as it stood before the repair 4ef17e6 of /repo could block

**This is NOT the current code.**  Before 4ef17e6 `Release` was

    if len(chan) < cap { chan <- o }

i.e. two atomic steps: the capacity check (`relCheck`), then an unconditional – hence BLOCKING –
channel send (`relSend`, enabled only while the buffer has room).  Between the two steps another
thread can fill the last slot.  The model below is that protocol; `F13_witness` exhibits, for
capacity 1 and two threads, a schedule after which one thread sits at `relSend` with the send
disabled: it waits until some later request happens to drain the channel (forever, if none comes).
`C13_nonblocking` above shows that the repaired, single-step `select/default` release cannot do
this. -/
namespace Old

inductive PC where
  | idle
  | relChecked (o : Obj)   -- passed `len(chan) < cap`, about to execute `chan <- o`
  deriving DecidableEq, Repr

structure OSt where
  cap  : Nat
  chan : List Obj
  held : List (Tid × Obj)
  pcs  : List (Tid × PC)      -- threads that are in the middle of `Release`
  next : Obj
  deriving Repr, DecidableEq

def acquire (σ : OSt) (t : Tid) : OSt :=
  match σ.chan with
  | o :: rest => { σ with chan := rest, held := (t, o) :: σ.held }
  | [] => { σ with held := (t, σ.next) :: σ.held, next := σ.next + 1 }

/-- first half of that `Release`: `if len(chan) < cap` -/
def relCheck (σ : OSt) (t : Tid) (o : Obj) : OSt :=
  if σ.chan.length < σ.cap then
    { σ with pcs := (t, .relChecked o) :: σ.pcs, held := σ.held.erase (t, o) }
  else { σ with held := σ.held.erase (t, o) }

def sendEnabled (σ : OSt) : Bool := σ.chan.length < σ.cap

/-- second half: the blocking send -/
def relSend (σ : OSt) (t : Tid) (o : Obj) : Option OSt :=
  if sendEnabled σ ∧ (t, PC.relChecked o) ∈ σ.pcs then
    some { σ with chan := σ.chan ++ [o], pcs := σ.pcs.erase (t, .relChecked o) }
  else none

def init1 : OSt := { cap := 1, chan := [0], held := [], pcs := [], next := 1 }

/-- capacity 1, threads 1 and 2: thread 1 takes the cached object, thread 2 gets a fresh one, both
    pass the capacity check, thread 1's send fills the only slot -/
def blocked : Option OSt :=
  let σ1 := acquire init1 1
  let σ2 := acquire σ1 2
  let σ3 := relCheck σ2 1 0
  let σ4 := relCheck σ3 2 1
  relSend σ4 1 0

end Old

/-- **F13 (the protocol before 4ef17e6 only – not the current code).**  The schedule is executable; afterwards
    thread 2 is at its `relSend`, the send is not enabled, and no step of thread 2 is possible. -/
theorem F13_witness :
    ∃ σ, Old.blocked = some σ ∧ σ.pcs = [(2, .relChecked 1)] ∧ Old.sendEnabled σ = false ∧
      Old.relSend σ 2 1 = none := by
  refine ⟨{ cap := 1, chan := [0], held := [], pcs := [(2, .relChecked 1)], next := 2 }, ?_⟩
  decide +kernel

end Restful.Pool
