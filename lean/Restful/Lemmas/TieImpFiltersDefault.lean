/- cors_filter.go `CrossOriginResourceSharing.Filter` of a filter value without a container of its own: the methods
   come from the package variable `DefaultContainer`. -/
import Restful.Lemmas.TieImpFilters
namespace Restful
namespace TieImp
open Imp

/-- the same as `cors_filter` for a filter value WITHOUT its own container (`Container == nil`): the methods
    are computed on `DefaultContainer` (a package variable, uninterpreted in the translation: `hdc`) -/
theorem cors_filter_default_container (lower : Str → Str) (E : ReEnv)
    (mk : RouteDecl → Option ImpGen.GoPathExpression → ImpGen.GoRoute)
    (hmk : ∀ rt pe, (mk rt pe).Method = rt.method ∧ (mk rt pe).pathExpr = pe)
    (X : ImpGen.Ext) (hlower : X.strings_ToLower = lower) (hitoa : X.strconv_Itoa = Cors.itoa)
    (cc : Cors.CorsCfg) (tbl : Config) (hdc : X.DefaultContainer = some (genCont E mk tbl))
    (rq : Cors.CorsReq) (resp0 : RespLog) (chain0 : ChainLog) :
    ImpGen.CrossOriginResourceSharing_Filter X (genCors cc none) (some (genCorsReq rq)) resp0 chain0
      = (Cors.corsOut lower E cc tbl rq).map (corsView resp0 chain0) := by
  subst hlower
  exact T11.filter_tie_gen X hitoa E mk hmk (genCors cc none) tbl (Or.inr ⟨rfl, hdc⟩)
    (genCorsReq rq).Request rq (reqOf_genCorsReq rq) resp0 chain0

#print axioms cors_filter_default_container

end TieImp
end Restful
