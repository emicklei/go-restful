/-
C03 as a predicate on one declaration: the clause of `Spec.c03Holds` (`Spec.c03At`) holds of the
route object the router returned (`RouteRan.c03At`), for both routers.
-/
import Restful.Lemmas.Order
import Restful.Lemmas.OrderJsr
import Restful.Lemmas.RouteUnique
namespace Restful
open Str

variable (E : ReEnv)

/-- route level: no candidate route of the detected service is more specific than the selected one -/
theorem curlyRouteOK_of_max {svc : Service} {rt : Route} (hrt : rt ∈ svc.built) {req : Req} {ts : List TTok}
    (hts : readTemplate rt.path = some ts) (hbest : Curly.Best E svc.built (tokenize req.path) req rt) :
    Spec.curlyRouteOK E svc rt req = true := by
  unfold Spec.curlyRouteOK
  rw [hts]
  simp only [List.all_eq_true, Bool.not_eq_true']
  intro rt' hrt'
  unfold Spec.curlyRouteBeats
  cases hts' : readTemplate rt'.path with
  | none => rfl
  | some ts' =>
    rw [Bool.eq_false_iff]
    intro h
    simp only [Bool.and_eq_true] at h
    cases (hbest.not_beaten E hrt hrt' hts hts' h.1.1 h.1.2).symm.trans h.2

/-- root level: no WebService whose root claims the URL has a more specific root than the detected one -/
theorem curlyRootOK_of_detect {cfg : Config} {req : Req} {svc : Service} {sc : Nat}
    (h : Curly.detectWebService E (tokenize req.path) cfg.services none = some (some (svc, sc))) :
    Spec.curlyRootOK E cfg svc req = true := by
  obtain ⟨hsc, hmax⟩ := Curly.detectWebService_max E _ _ _ _ h
  unfold Spec.curlyRootOK
  simp only [List.all_eq_true, Bool.not_eq_true']
  intro s' hs'
  unfold Spec.curlyRootBeats Spec.rootClaims
  cases hsc' : Curly.wsScoreE E (tokenize req.path) (tokenize s'.rootPath) with
  | no => rfl
  | panic => rfl
  | yes sc' =>
    have hle := hmax s' hs' sc' hsc'
    simp only [Bool.true_and]
    cases hms : Spec.rootMoreSpecific (tokenize s'.rootPath) (tokenize svc.rootPath) with
    | true =>
      have := C03_root_literal_beats_variable_claimed _ _ _ hms sc' sc (Curly.wsScore_of_wsScoreE E hsc')
        (Curly.wsScore_of_wsScoreE E hsc)
      omega
    | false =>
      cases hpe : Spec.rootProperExtension (tokenize s'.rootPath) (tokenize svc.rootPath) with
      | false => rfl
      | true =>
        unfold Spec.rootProperExtension at hpe
        simp only [Bool.and_eq_true, List.isPrefixOf_iff_prefix, bne_iff_ne, ne_eq] at hpe
        have := C03_rootE_longer_beats_prefix E _ _ _ hpe.1 (fun e => hpe.2 e.symm) sc' sc hsc' hsc
        omega

/-- CurlyRouter: the route object that ran is beaten neither at route level nor at root level -/
theorem RouteRan.c03_curly {cfg : Config} {req : Req} {svc : Service} {rt : Route} (hwf : cfg.wfTemplates = true)
    (hk : cfg.router = .curly) (h : RouteRan E cfg req svc rt) :
    Spec.curlyRouteOK E svc rt req = true ∧ Spec.curlyRootOK E cfg svc req = true := by
  obtain ⟨sc, cands, hdet, hsel, hok⟩ := (RouteRan.curly_iff hk).mp h
  obtain ⟨hsvc, hrt, _⟩ := h.stages E
  obtain ⟨ts, hts⟩ := Config.template_of_wf hwf hsvc hrt
  rw [hk] at hts
  exact ⟨curlyRouteOK_of_max E hrt hts (Curly.selectRoutes_max E hsel hok), curlyRootOK_of_detect E hdet⟩

theorem Spec.jsrTok_eq : Spec.jsrTok = Jsr.ofTTok := by
  funext t
  obtain ⟨base, verb⟩ := t
  cases base <;> rfl

theorem Spec.relTemplateJ_eq_some {rel : Str} {ts : List TTok} :
    Spec.relTemplateJ rel = some ts ↔
      readToks (Spec.nonEmptyToks rel) = some ts ∧ ∀ t ∈ ts, Spec.tokJsrOK t = true := by
  unfold Spec.relTemplateJ
  cases readToks (Spec.nonEmptyToks rel) with
  | none => simp
  | some ts' =>
    simp only [Option.ite_none_right_eq_some, Option.some.injEq, List.all_eq_true]
    constructor
    · rintro ⟨h, rfl⟩
      exact ⟨rfl, h⟩
    · rintro ⟨rfl, h⟩
      exact ⟨h, rfl⟩

theorem relTemplateJ_of_wf {cfg : Config} (hwf : cfg.wfTemplates = true) (hk : cfg.router = .jsr) {svc : Service}
    (hsvc : svc ∈ cfg.services) {rt : Route} (hrt : rt ∈ svc.built) :
    ∃ ts, Spec.relTemplateJ rt.relPath = some ts := by
  obtain ⟨ts, hts⟩ := Config.template_of_wf hwf hsvc hrt
  rw [hk] at hts
  obtain ⟨a, b, _, hb, _, _, hjsr, _⟩ := Jsr.readTemplateJ_spec hts
  exact ⟨b, Spec.relTemplateJ_eq_some.mpr ⟨hb, fun t ht => hjsr t (List.mem_append_right _ ht)⟩⟩

/-- route level: no candidate route of the dispatched service is more specific than the selected one -/
theorem jsrRouteOK_of_max {svc : Service} {rt : Route} {req : Req} {final : Str} {wex : Jsr.Expr} {wc : List Str}
    (hwex : Jsr.compile svc.rootPath = some wex) (hwm : Jsr.matchExpr E wex.toks req.path = some (wc, final))
    {ts : List TTok} (hts : Spec.relTemplateJ rt.relPath = some ts) (hbest : Jsr.Best E svc.built final req rt) :
    Spec.jsrRouteOK E svc rt req = true := by
  have hfin : Spec.jsrFinalGroup E svc req.path = some final := by
    simp [Spec.jsrFinalGroup, hwex, hwm]
  unfold Spec.jsrRouteOK
  rw [hfin, hts]
  simp only [List.all_eq_true, Bool.not_eq_true']
  intro rt' hrt'
  unfold Spec.jsrRouteBeats
  cases hts' : Spec.relTemplateJ rt'.relPath with
  | none => rfl
  | some ts' =>
    obtain ⟨hr, hj⟩ := Spec.relTemplateJ_eq_some.mp hts
    obtain ⟨hr', hj'⟩ := Spec.relTemplateJ_eq_some.mp hts'
    rw [Bool.eq_false_iff]
    intro h
    simp only [Bool.and_eq_true, Spec.jsrMatchesFinal, Spec.jsrTok_eq] at h
    obtain ⟨⟨hmf, hel⟩, hms⟩ := h
    cases hm' : Jsr.matchExpr E (ts'.map Jsr.ofTTok) final with
    | none => simp [hm'] at hmf
    | some cf =>
      simp only [hm', Bool.or_eq_true, List.isEmpty_iff, beq_iff_eq] at hmf
      cases (hbest.not_beaten E hrt' hr hr' hj hj' hm' hmf hel).symm.trans hms

theorem Spec.jsrLiteralRoot_some {s : Service} {ex : Jsr.Expr} (h : Spec.jsrLiteralRoot s = some ex) :
    Jsr.compile s.rootPath = some ex ∧ ∀ t ∈ ex.toks, ∃ l, t = .lit l := by
  unfold Spec.jsrLiteralRoot at h
  split at h
  · rename_i ex' hc
    split at h
    · rename_i hall
      simp only [Option.some.injEq] at h
      subst h
      refine ⟨hc, ?_⟩
      intro t ht
      have := List.all_eq_true.mp hall t ht
      cases t with
      | lit l => exact ⟨l, rfl⟩
      | _ => simp at this
    · simp at h
  · simp at h

/-- root level: among literal roots, none that matches the URL has more literal characters than
    the one dispatched to -/
theorem jsrRootOK_of_detect {cfg : Config} {req : Req} {svc : Service} {final : Str}
    (h : Jsr.detectDispatcher E cfg.services req.path = some (some (svc, final))) :
    Spec.jsrRootOK E cfg svc req = true := by
  unfold Spec.jsrRootOK
  cases hlr : Spec.jsrLiteralRoot svc with
  | none => rfl
  | some ex =>
    simp only [List.all_eq_true]
    intro s' hs'
    cases hlr' : Spec.jsrLiteralRoot s' with
    | none => rfl
    | some ex' =>
      simp only [Bool.not_eq_true', Bool.and_eq_false_iff, decide_eq_false_iff_not]
      obtain ⟨hex, hlit⟩ := Spec.jsrLiteralRoot_some hlr
      obtain ⟨hex', hlit'⟩ := Spec.jsrLiteralRoot_some hlr'
      cases hm' : Jsr.matchExpr E ex'.toks req.path with
      | none => left; rfl
      | some cf =>
        right
        obtain ⟨caps', f'⟩ := cf
        have := jsr_literal_root_le E h hex hlit hs' hex' hlit' hm'
        omega

/-- RouterJSR311: the route object that ran is not beaten at route level, and among literal roots
    its WebService's root is the longest that matches -/
theorem RouteRan.c03_jsr {cfg : Config} {req : Req} {svc : Service} {rt : Route} (hwf : cfg.wfTemplates = true)
    (hk : cfg.router = .jsr) (h : RouteRan E cfg req svc rt) :
    Spec.jsrRouteOK E svc rt req = true ∧ Spec.jsrRootOK E cfg svc req = true := by
  obtain ⟨final, cands, hdisp, hsel, hok⟩ := (RouteRan.jsr_iff hk).mp h
  obtain ⟨hsvc, hrt, _⟩ := h.stages E
  obtain ⟨_, wex, wc, hwex, hwm⟩ := Jsr.detectDispatcher_mem E hdisp
  obtain ⟨ts, hts⟩ := relTemplateJ_of_wf hwf hk hsvc hrt
  exact ⟨jsrRouteOK_of_max E hwex hwm hts (Jsr.selectRoutes_max E hsel hok), jsrRootOK_of_detect E hdisp⟩

/-- **C03 of the route that ran** (both routers, no hypothesis on the ids) -/
theorem RouteRan.c03At {cfg : Config} {req : Req} {svc : Service} {rt : Route} (hwf : cfg.wfTemplates = true)
    (h : RouteRan E cfg req svc rt) : Spec.c03At E cfg req svc rt = true := by
  unfold Spec.c03At
  cases hk : cfg.router with
  | curly => simpa using h.c03_curly E hwf hk
  | jsr => simpa using h.c03_jsr E hwf hk

end Restful
