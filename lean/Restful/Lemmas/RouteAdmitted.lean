/-
The route object the router returned (`RouteRan`) is admitted by its own template, and what the path
processor extracts for it are the expected parameters: the path clause of C01 and all of C04, for
both routers, said of the object and not of its ids.
-/
import Restful.Lemmas.RouteUnique
import Restful.Lemmas.CurlyParams
import Restful.Lemmas.ReadTemplate
import Restful.Lemmas.JsrMatch
import Restful.Lemmas.JsrSlash
namespace Restful
variable (E : ReEnv)

theorem Spec.templateOf_facts {k : RouterKind} {rt : Route} {ts : List TTok} (h : Spec.templateOf k rt = some ts) :
    shapeOK ts = true ∧ (varNames ts).Nodup := by
  cases k with
  | curly =>
    obtain ⟨_, _, hshape, _, hnd⟩ := readTemplate_facts h
    exact ⟨hshape, hnd⟩
  | jsr =>
    obtain ⟨a, b, _, _, rfl, hshape, _, hnd⟩ := Jsr.readTemplateJ_spec h
    exact ⟨hshape, hnd⟩

theorem Spec.rawSegments_noSlash {p : Str} {raw : List Str} (h : Spec.rawSegments p = some raw) :
    ∀ q ∈ raw, '/' ∉ q := by
  rcases Spec.rawSegments_some h with ⟨_, rfl⟩ | ⟨r, _, rfl⟩
  · simp
  · exact Str.not_mem_of_mem_split '/' r

theorem Spec.admittedSegments_facts (k : RouterKind) (ts : List TTok) (p : Str) (segs : List Str)
    (h : Spec.admittedSegments E k ts p = some segs) :
    Spec.admits E k ts segs = true ∧ ∀ q ∈ segs, '/' ∉ q := by
  cases k with
  | curly =>
    unfold Spec.admittedSegments at h
    simp only at h
    split at h
    · cases h
      exact ⟨‹_›, Jsr.not_mem_of_mem_tokenize p⟩
    · cases h
  | jsr =>
    obtain ⟨ha, extra, hraw, _⟩ := (Spec.admittedSegments_jsr_iff E).1 h
    exact ⟨ha, fun q hq => Spec.rawSegments_noSlash hraw q (List.mem_append_left _ hq)⟩

/-- the three clauses of `c04Holds`, of the expected parameters themselves -/
theorem Spec.expectedParams_clauses (k : RouterKind) (ts : List TTok) (hshape : shapeOK ts = true)
    (hnd : (varNames ts).Nodup) (segs : List Str) (hslash : ∀ q ∈ segs, '/' ∉ q)
    (hadm : Spec.admits E k ts segs = true) :
    ((Spec.expectedParams ts segs).map (·.1)).Perm (varNames ts) ∧
      (∀ kv ∈ Spec.expectedParams ts segs, Spec.lookup (Spec.expectedParams ts segs) kv.1 = some kv.2) ∧
      Spec.substitute (Spec.expectedParams ts segs) ts = some segs :=
  ⟨by rw [Spec.expectedParams_names E k ts hshape segs hadm],
    Spec.lookup_expectedParams E k ts hshape hnd segs hadm,
    Spec.substitute_expected E k ts hshape hnd segs hslash hadm⟩

/-- **the route that ran is admitted, with the expected parameters** (both routers): on a table in
    the grammar the template of the object the router returned admits the request's path under the
    router's segmentation, and the parameters extracted for it are `Spec.expectedParams` -/
theorem RouteRan.admitted {cfg : Config} (hwf : cfg.wfTemplates = true) {req : Req} {svc : Service} {rt : Route}
    (h : RouteRan E cfg req svc rt) :
    ∃ ts segs, Spec.templateOf cfg.router rt = some ts ∧ Spec.admittedSegments E cfg.router ts req.path = some segs ∧
      ∀ ps, paramsOf E cfg req svc rt = some ps → ps = Spec.expectedParams ts segs := by
  obtain ⟨hsvc, hrt, _⟩ := h.stages E
  obtain ⟨ts, hts⟩ := Config.template_of_wf hwf hsvc hrt
  cases hk : cfg.router with
  | curly =>
    rw [hk] at hts
    obtain ⟨hrender, htwf, hshape, hverb, hnd⟩ := readTemplate_facts hts
    obtain ⟨hparts, hhv⟩ := built_pathParts svc hrt
    obtain ⟨_, cands, _, hsel, hdet⟩ := (RouteRan.curly_iff hk).mp h
    obtain ⟨p, st, hmatch⟩ := (Curly.selectRoutes_mem E hsel (detectRoute_ok hdet).1).2
    rw [hparts, hhv, ← hrender, hverb] at hmatch
    have hadm := Curly.admits_of_matchTokens E htwf hshape hmatch
    refine ⟨ts, tokenize req.path, hts, by simp only [Spec.admittedSegments, hadm, if_true], fun ps hps => ?_⟩
    rw [paramsOf_curly hk, Params.extract, hparts, hhv, ← hrender, hverb,
      Params.extractWalk_spec E ts htwf hshape hnd _ hadm] at hps
    exact (Option.some.inj hps).symm
  | jsr =>
    rw [hk, Spec.templateOf, Service.built_root svc hrt] at hts
    obtain ⟨final, cands, hdisp, hsel, hdet⟩ := (RouteRan.jsr_iff hk).mp h
    obtain ⟨_, wex, wc, hwex, hwm⟩ := Jsr.detectDispatcher_mem E hdisp
    obtain ⟨_, rex, rc, f, hrex, hrm, hf⟩ := Jsr.selectRoutes_mem E hsel (detectRoute_ok hdet).1
    obtain ⟨segs, hseg, hbind⟩ :=
      Jsr.match_sound E svc.rootPath rt.relPath req.path ts hts wex rex hwex hrex wc rc final f hwm hrm hf
    refine ⟨ts, segs, by rw [Spec.templateOf, Service.built_root svc hrt, hts], hseg, fun ps hps => ?_⟩
    rw [paramsOf_jsr hk, Jsr.extract] at hps
    simp only [hwex, hrex, hwm, hrm, Option.some.injEq] at hps
    rw [← hps, hbind]

end Restful
