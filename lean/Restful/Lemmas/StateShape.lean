/-
The shape of the state, read off the sources on every run (tools/gofacts → Gen/Facts.lean):
package-level variables, the fields of every struct type, and the header / media-type constants.

The models carry one component per entry below (Container: services, mux patterns, root flag,
filters, recovery switch and handler, error handler, router, encoding switch; WebService: root,
routes, filters, dynamic switch; Response: status, length, Accept, Produces, …); the correspondence
streams validate what the code does WITH this state.  What they cannot see is state the model has
no component for: a cache, a pool or a memo added as a new variable or field changes no answer
until the history, the interleaving or the fault that makes it stale comes along.  The obligation
`state_shape` is the frame condition: the code has exactly the state the model accounts for.  A
change to it is reported by every property whose model owns that state; the check then still
searches for a failing input (histories, concurrent replays, fault traffic) and names this theorem
when it finds none.  (A harmless new field breaks it too: then the expectation below is what has
to be brought up to date, together with the model.)
-/
import Restful.Gen.Facts
namespace Restful
namespace StateShape
open Gen

def expectedPkgVars : List (String × String) := [("DefaultContainer", "*Container"), ("DefaultResponseMimeType", "string"), ("DoNotRecover", "false"), ("EnableContentEncoding", "false"), ("MarshalIndent", "json.MarshalIndent"), ("NewDecoder", "json.NewDecoder"), ("NewEncoder", "json.NewEncoder"), ("PrettyPrintResponses", "true"), ("TrimRightSlashEnabled", "true"), ("anonymousFuncCount", "int32"), ("currentCompressorProvider", "CompressorProvider"), ("customVerbReg", "regexp.MustCompile(\":([A-Za-z]+)$\")"), ("defaultRequestContentType", "string"), ("entityAccessRegistry", "&entityReaderWriters{ protection: new(sync.RWMutex), accessors: map[string]EntityReaderWriter{}, }"), ("jsr311Router", "RouterJSR311{}"), ("trace", "bool = false"), ("traceLogger", "log.StdLogger")]

/-- every struct type of the package, by name -/
def expectedStructNames : List String := ["BoundedCachedCompressors", "CompressingResponseWriter", "Container", "CrossOriginResourceSharing", "CurlyRouter", "ExtensionProperties", "FilterChain", "Header", "Items", "Parameter", "ParameterData", "Request", "Response", "ResponseError", "Route", "RouteBuilder", "RouterJSR311", "ServiceError", "SyncPoolCompessors", "WebService", "curlyRoute", "defaultPathProcessor", "dispatcherCandidate", "entityJSONAccess", "entityReaderWriters", "entityXMLAccess", "mime", "pathExpression", "routeAccessor", "routeCandidate", "sortableDispatcherCandidates", "sortableRouteCandidates"]

/-- documentation-only structs (Swagger-style descriptions): their fields are not state -/
def docStructs : List String := ["ExtensionProperties", "Header", "Items", "Parameter", "ParameterData", "ResponseError", "RouteBuilder"]

def expectedStructFields : List (String × List String) := [
  ("BoundedCachedCompressors", ["gzipWriters chan *gzip.Writer", "gzipReaders chan *gzip.Reader", "zlibWriters chan *zlib.Writer", "writersCapacity int", "readersCapacity int"]),
  ("CompressingResponseWriter", ["writer http.ResponseWriter", "compressor io.WriteCloser", "encoding string"]),
  ("Container", ["webServicesLock sync.RWMutex", "webServices []*WebService", "ServeMux *http.ServeMux", "isRegisteredOnRoot bool", "containerFilters []FilterFunction", "doNotRecover bool", "recoverHandleFunc RecoverHandleFunction", "serviceErrorHandleFunc ServiceErrorHandleFunction", "router RouteSelector", "contentEncodingEnabled bool"]),
  ("CrossOriginResourceSharing", ["ExposeHeaders []string", "AllowedHeaders []string", "AllowedDomains []string", "AllowedDomainFunc func(origin string) bool", "AllowedMethods []string", "MaxAge int", "CookiesAllowed bool", "Container *Container", "allowedOriginPatterns []*regexp.Regexp"]),
  ("CurlyRouter", []),
  ("FilterChain", ["Filters []FilterFunction", "Index int", "Target RouteFunction", "ParameterDocs []*Parameter", "Operation string"]),
  ("Request", ["Request *http.Request", "pathParameters map[string]string", "attributes map[string]interface{}", "selectedRoute *Route"]),
  ("Response", ["(embedded) http.ResponseWriter", "requestAccept string", "routeProduces []string", "statusCode int", "contentLength int", "prettyPrint bool", "err error", "hijacker http.Hijacker"]),
  ("Route", ["(embedded) ExtensionProperties", "Method string", "Produces []string", "Consumes []string", "Path string", "Function RouteFunction", "Filters []FilterFunction", "If []RouteSelectionConditionFunction", "relativePath string", "pathParts []string", "pathExpr *pathExpression", "Doc string", "Notes string", "Operation string", "ParameterDocs []*Parameter", "ResponseErrors map[int]ResponseError", "DefaultResponse *ResponseError", "ReadSample interface{}", "WriteSample interface{}", "WriteSamples []interface{}", "Metadata map[string]interface{}", "Deprecated bool", "contentEncodingEnabled *bool", "hasCustomVerb bool", "allowedMethodsWithoutContentType []string"]),
  ("RouterJSR311", []),
  ("ServiceError", ["Code int", "Message string", "Header http.Header"]),
  ("SyncPoolCompessors", ["GzipWriterPool *sync.Pool", "GzipReaderPool *sync.Pool", "ZlibWriterPool *sync.Pool"]),
  ("WebService", ["rootPath string", "pathExpr *pathExpression", "routes []Route", "produces []string", "consumes []string", "pathParameters []*Parameter", "filters []FilterFunction", "documentation string", "apiVersion string", "typeNameHandleFunc TypeNameHandleFunction", "dynamicRoutes bool", "routesLock sync.RWMutex"]),
  ("curlyRoute", ["route Route", "paramCount int", "staticCount int"]),
  ("defaultPathProcessor", []),
  ("dispatcherCandidate", ["dispatcher *WebService", "finalMatch string", "matchesCount int", "literalCount int", "nonDefaultCount int"]),
  ("entityJSONAccess", ["ContentType string"]),
  ("entityReaderWriters", ["protection *sync.RWMutex", "accessors map[string]EntityReaderWriter"]),
  ("entityXMLAccess", ["ContentType string"]),
  ("mime", ["media string", "quality float64"]),
  ("pathExpression", ["LiteralCount int", "VarNames []string", "VarCount int", "Matcher *regexp.Regexp", "Source string", "tokens []string"]),
  ("routeAccessor", ["route *Route"]),
  ("routeCandidate", ["route Route", "matchesCount int", "literalCount int", "nonDefaultCount int"]),
  ("sortableDispatcherCandidates", ["candidates []dispatcherCandidate"]),
  ("sortableRouteCandidates", ["candidates []routeCandidate"])]

/-- constants whose values the models use as literals -/
def expectedConsts : List (String × String) := [("ENCODING_DEFLATE", "\"deflate\""), ("ENCODING_GZIP", "\"gzip\""), ("HEADER_Accept", "\"Accept\""), ("HEADER_AcceptEncoding", "\"Accept-Encoding\""), ("HEADER_AccessControlAllowCredentials", "\"Access-Control-Allow-Credentials\""), ("HEADER_AccessControlAllowHeaders", "\"Access-Control-Allow-Headers\""), ("HEADER_AccessControlAllowMethods", "\"Access-Control-Allow-Methods\""), ("HEADER_AccessControlAllowOrigin", "\"Access-Control-Allow-Origin\""), ("HEADER_AccessControlExposeHeaders", "\"Access-Control-Expose-Headers\""), ("HEADER_AccessControlMaxAge", "\"Access-Control-Max-Age\""), ("HEADER_AccessControlRequestHeaders", "\"Access-Control-Request-Headers\""), ("HEADER_AccessControlRequestMethod", "\"Access-Control-Request-Method\""), ("HEADER_Allow", "\"Allow\""), ("HEADER_ContentDisposition", "\"Content-Disposition\""), ("HEADER_ContentEncoding", "\"Content-Encoding\""), ("HEADER_ContentType", "\"Content-Type\""), ("HEADER_LastModified", "\"Last-Modified\""), ("HEADER_Origin", "\"Origin\""), ("MIME_JSON", "\"application/json\""), ("MIME_OCTET", "\"application/octet-stream\""), ("MIME_XML", "\"application/xml\""), ("MIME_ZIP", "\"application/zip\"")]

/-- the expected fields of the named structs are the generated ones -/
def fieldsAgree (names : List String) : Bool :=
  names.all (fun n => structFields.lookup n == expectedStructFields.lookup n && (structFields.lookup n).isSome)

/-- All of the state's shape in one kernel evaluation: a string literal is decoded once per
    declaration that compares it, and the slices below share most of theirs. -/
theorem shape_evaluated :
    (pkgVars = expectedPkgVars ∧ structFields.map (·.1) = expectedStructNames ∧
      structFields.filter (fun p => !docStructs.contains p.1) = expectedStructFields) ∧
    fieldsAgree ["Container", "WebService", "Route", "FilterChain", "Request", "ServiceError"] = true ∧
    fieldsAgree ["WebService", "Route", "pathExpression", "curlyRoute", "routeCandidate",
      "dispatcherCandidate", "sortableRouteCandidates", "sortableDispatcherCandidates", "CurlyRouter", "RouterJSR311",
      "defaultPathProcessor", "Request"] = true ∧
    fieldsAgree ["Response", "CompressingResponseWriter", "mime"] = true ∧
    fieldsAgree ["entityReaderWriters", "entityJSONAccess", "entityXMLAccess", "Request"] = true ∧
    fieldsAgree ["CrossOriginResourceSharing"] = true ∧
    fieldsAgree ["BoundedCachedCompressors", "SyncPoolCompessors", "CompressingResponseWriter"] = true := by
  decide +kernel

theorem state_shape :
    pkgVars = expectedPkgVars ∧ structFields.map (·.1) = expectedStructNames ∧
      structFields.filter (fun p => !docStructs.contains p.1) = expectedStructFields :=
  shape_evaluated.1

/-- no package-level variable and no struct type beyond the expected ones (audited by every property:
    a new variable or type may be state of anything) -/
theorem globals_shape : pkgVars = expectedPkgVars ∧ structFields.map (·.1) = expectedStructNames :=
  ⟨state_shape.1, state_shape.2.1⟩

/-- registration and serving state: C06, C07, C10, C11, C12, C17, C19 -/
theorem container_shape : fieldsAgree ["Container", "WebService", "Route", "FilterChain", "Request", "ServiceError"] = true :=
  shape_evaluated.2.1

/-- routing working data: C01–C04, C14, C18 -/
theorem routing_shape : fieldsAgree ["WebService", "Route", "pathExpression", "curlyRoute", "routeCandidate",
    "dispatcherCandidate", "sortableRouteCandidates", "sortableDispatcherCandidates", "CurlyRouter", "RouterJSR311",
    "defaultPathProcessor", "Request"] = true :=
  shape_evaluated.2.2.1

/-- the Response and the writer that encodes: C05, C07, C15 -/
theorem response_shape : fieldsAgree ["Response", "CompressingResponseWriter", "mime"] = true :=
  shape_evaluated.2.2.2.1

/-- the entity accessor registry: C05, C16 -/
theorem entity_shape : fieldsAgree ["entityReaderWriters", "entityJSONAccess", "entityXMLAccess", "Request"] = true :=
  shape_evaluated.2.2.2.2.1

/-- the CORS filter value: C08, C09 -/
theorem cors_shape : fieldsAgree ["CrossOriginResourceSharing"] = true :=
  shape_evaluated.2.2.2.2.2.1

/-- compressor providers: C13 (and C07, C16 through them) -/
theorem compress_shape : fieldsAgree ["BoundedCachedCompressors", "SyncPoolCompessors", "CompressingResponseWriter"] = true :=
  shape_evaluated.2.2.2.2.2.2

theorem consts_shape : expectedConsts.all (fun p => consts.lookup p.1 == some p.2) = true := by
  decide +kernel

end StateShape
end Restful
