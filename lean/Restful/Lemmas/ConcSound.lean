/-
Soundness of the analysis of Model/Conc.lean w.r.t. the execution semantics of the facts
(Lemmas/ConcSem.lean), for ARBITRARY facts:

  `analysis_sound`        report.unguarded = [] ∧ report.reentrant = [] ∧ fixpoint ∧ bracketed
                          ⇒ every complete trace of every entry point is `Lockset.Disciplined guardOf`
  `analysis_sound_order`  … ∧ every reported acquired-while-holding edge goes up in `rank`
                          ⇒ … is `Lockset.Ordered rank`
  `analysis_no_unguarded_access`, `analysis_no_deadlock`
                          the compositions with `Lockset.lockset_sound` / `Lockset.no_deadlock` for
                          the derived system (any number of threads, each running any trace of any
                          entry point)
  `check_alone_not_sound` the hypothesis `bracketed` (Model/Conc.lean; `check` never looks at
                          releases) cannot be dropped
  `genTrace_traces`       the executable trace generator produces traces (non-vacuity)

The proof covers the whole analysis, not a lexical fragment:
* `check_spec`: a report of `check` (a fold that only ever adds findings) without unguarded access
  and re-entrant acquisition says, item by item, that the three tests of `check` (`unguardedAt`,
  `reentrantAt`, `edgesAt`) came out well;
* `Flow.propagate_call` for either data-flow + the fixpoint flags: the must-context of a callee is
  weaker than (context of the caller ∪ locks held at the call site), the may-context contains it —
  for every call edge, so for call chains of every length (`rounds` plays no role);
* `exec_sound`: induction over an execution; the invariant is that the real held-set is exactly
  `pairs hs ++ H₀` — `hs` the lexical held-set `annotate` computes, `H₀` the held-set at function
  entry, which satisfies the function's must-context and is covered by its may-context.
  `bracketed` is what makes `annotate`'s bookkeeping (drop at the end of a func literal, erase on
  release) the truth about deferred and explicit releases.
-/
import Restful.Lemmas.ConcSem
namespace Restful.Conc
open Gen
open Lockset (Action okNow ordNow after Disciplined Ordered)

/-! ### running a trace against a held-set -/
section RunOK

/-- the order condition the analysis establishes: whatever is held has an edge to the lock that is
    acquired in the acquired-while-holding relation `E` -/
def ordE (E : List (Nat × Nat)) (H : Lockset.Held) : Action → Bool
  | .acq l _ => H.all fun q => decide ((q.1, l) ∈ E)
  | _ => true

/-- run `tr` from the held-set `H`, checking `okNow guardOf` and `ordE E` at every event -/
def runOK (E : List (Nat × Nat)) : Lockset.Held → List Action → Option Lockset.Held
  | H, [] => some H
  | H, a :: tr => if okNow guardOf H a && ordE E H a then runOK E (after H a) tr else none

variable {E : List (Nat × Nat)} {H H' H₁ H₂ : Lockset.Held} {a : Action} {tr t₁ t₂ : List Action}

theorem runOK_cons (h : runOK E H (a :: tr) = some H') :
    okNow guardOf H a = true ∧ ordE E H a = true ∧ runOK E (after H a) tr = some H' := by
  simp only [runOK] at h
  split at h
  · rename_i hc
    exact ⟨(Bool.and_eq_true _ _ ▸ hc).1, (Bool.and_eq_true _ _ ▸ hc).2, h⟩
  · cases h

theorem runOK_seq (h₁ : runOK E H t₁ = some H₁) (h₂ : runOK E H₁ t₂ = some H₂) :
    runOK E H (t₁ ++ t₂) = some H₂ := by
  induction t₁ generalizing H with
  | nil => cases h₁; exact h₂
  | cons a t ih =>
    obtain ⟨ha, hb, h⟩ := runOK_cons h₁
    simp only [List.cons_append, runOK, ha, hb, Bool.and_self, if_true]
    exact ih h

theorem runOK_single (h₁ : okNow guardOf H a = true) (h₂ : ordE E H a = true) :
    runOK E H [a] = some (after H a) := by
  simp [runOK, h₁, h₂]

theorem runOK_disciplined (h : runOK E H tr = some []) : Disciplined guardOf H tr = true := by
  induction tr generalizing H with
  | nil => cases h; rfl
  | cons a t ih =>
    obtain ⟨h₁, _, h₃⟩ := runOK_cons h
    simp [Disciplined, h₁, ih h₃]

theorem runOK_ordered {rank : Nat → Nat} (hrank : ∀ e ∈ E, rank e.1 < rank e.2)
    (h : runOK E H tr = some H') : Ordered rank H tr = true := by
  induction tr generalizing H with
  | nil => rfl
  | cons a t ih =>
    obtain ⟨_, h₂, h₃⟩ := runOK_cons h
    have : ordNow rank H a = true := by
      cases a with
      | acq l m =>
        simp only [ordE, ordNow, List.all_eq_true, decide_eq_true_eq] at h₂ ⊢
        exact fun q hq => hrank _ (h₂ q hq)
      | _ => rfl
    simp [Ordered, this, ih h₃]

def pairs (hs : List Held) : Lockset.Held := hs.map (fun h => (h.lock, toL h.mode))

theorem runOK_rels (E : List (Nat × Nat)) (L : List Held) (K : Lockset.Held) :
    runOK E (pairs L ++ K) (relsOf L) = some K := by
  induction L with
  | nil => rfl
  | cons h L ih =>
    simp only [relsOf, List.map_cons, runOK, pairs, List.cons_append, okNow, ordE, after,
      List.mem_cons, true_or, decide_true, Bool.and_true, if_true, List.erase_cons_head]
    exact ih

end RunOK

/-! ### what a context guarantees -/

/-- the held-set `H` gives lock `p.1` in mode `p.2` at least (holding W gives R) -/
def covers (H : Lockset.Held) (p : Nat × Mode) : Prop :=
  (p.1, Lockset.Mode.W) ∈ H ∨ (p.2 = .R ∧ (p.1, Lockset.Mode.R) ∈ H)

def sat (H : Lockset.Held) (ls : List (Nat × Mode)) : Prop := ∀ p ∈ ls, covers H p

theorem covers_mono {H H' : Lockset.Held} (hsub : ∀ q ∈ H, q ∈ H') {p : Nat × Mode}
    (h : covers H p) : covers H' p := by
  rcases h with h | ⟨hm, h⟩
  · exact .inl (hsub _ h)
  · exact .inr ⟨hm, hsub _ h⟩

theorem sat_mono {H H' : Lockset.Held} (hsub : ∀ q ∈ H, q ∈ H') {ls : List (Nat × Mode)}
    (h : sat H ls) : sat H' ls := fun p hp => covers_mono hsub (h p hp)

theorem covers_meetMode {H : Lockset.Held} {l : Nat} {m m' : Mode}
    (h : covers H (l, m) ∨ covers H (l, m')) : covers H (l, meetMode m m') := by
  rcases h with (h | ⟨hm, h⟩) | (h | ⟨hm, h⟩)
  · exact .inl h
  · simp only at hm
    subst hm
    exact .inr ⟨by simp [meetMode], h⟩
  · exact .inl h
  · simp only at hm
    subst hm
    exact .inr ⟨by cases m <;> simp [meetMode], h⟩

theorem mem_meet {a b : List (Nat × Mode)} {p : Nat × Mode} (h : p ∈ meet a b) :
    ∃ l m m', (l, m) ∈ a ∧ (l, m') ∈ b ∧ p = (l, meetMode m m') := by
  simp only [meet, List.mem_filterMap, Option.map_eq_some_iff] at h
  obtain ⟨⟨l, m⟩, ha, ⟨l', m'⟩, hf, rfl⟩ := h
  have hl : l' = l := by simpa using List.find?_some hf
  subst hl
  exact ⟨l', m, m', ha, List.mem_of_find?_eq_some hf, rfl⟩

theorem sat_meet {H : Lockset.Held} {a b : List (Nat × Mode)} (h : sat H a ∨ sat H b) : sat H (meet a b) := by
  intro p hp
  obtain ⟨l, m, m', ha, hb, rfl⟩ := mem_meet hp
  exact covers_meetMode (h.imp (· _ ha) (· _ hb))

/-! ### the two data-flows over the call graph

`propagate` pushes (context of the caller ∪ locks held at the call site) into every callee with
`ctxMeetAt` (must: intersection), `propagateMay` does the same with `ctxJoinAt` (may: union).  Both
are `propagateWith`, both updates are a `List.modify`, and `Flow` is what the soundness proof needs
of either: contexts only move down in an order `r`, and after a round the context of a callee is
below what every call site offers. -/

/-- an order on lock lists lifted to the context of a function; `none` (not reachable) is on top -/
def optRel (r : List (Nat × Mode) → List (Nat × Mode) → Prop) (x y : Option (List (Nat × Mode))) : Prop :=
  match x, y with
  | _, none => True
  | some a, some b => r a b
  | none, some _ => False

theorem optRel_some {r : List (Nat × Mode) → List (Nat × Mode) → Prop} {x : Option (List (Nat × Mode))}
    {b : List (Nat × Mode)} (h : optRel r x (some b)) : ∃ a, x = some a ∧ r a b := by
  cases x with
  | none => cases h
  | some a => exact ⟨a, rfl, h⟩

/-- the order of the must-contexts: whatever held-set gives `b` gives `a` -/
def mustLe (a b : List (Nat × Mode)) : Prop := ∀ H, sat H b → sat H a

def mayGe (a b : List (Nat × Mode)) : Prop := ∀ p ∈ b, p ∈ a

theorem ctxGet_nil (f : Nat) : ctxGet [] f = none := by simp [ctxGet]

theorem ctxGet_cons_zero (x : Option (List (Nat × Mode))) (xs : Ctx) : ctxGet (x :: xs) 0 = x := rfl

theorem ctxGet_cons_succ (x : Option (List (Nat × Mode))) (xs : Ctx) (f : Nat) :
    ctxGet (x :: xs) (f + 1) = ctxGet xs f := rfl

theorem ctxGet_eq (c : Ctx) (f : Nat) : ctxGet c f = c[f]?.getD none := List.getD_eq_getElem?_getD

structure Flow (r : List (Nat × Mode) → List (Nat × Mode) → Prop)
    (upd : Ctx → Nat → List (Nat × Mode) → Ctx) : Prop where
  refl : ∀ a, r a a
  trans : ∀ {a b c}, r a b → r b c → r a c
  length : ∀ c g ls, (upd c g ls).length = c.length
  down : ∀ c g ls f, optRel r (ctxGet (upd c g ls) f) (ctxGet c f)
  hit : ∀ c g ls, g < c.length → optRel r (ctxGet (upd c g ls) g) (some ls)

def Down {α : Type} (r : List (Nat × Mode) → List (Nat × Mode) → Prop) (s : Ctx → α → Ctx) : Prop :=
  ∀ acc x, (s acc x).length = acc.length ∧ ∀ f, optRel r (ctxGet (s acc x) f) (ctxGet acc f)

/-- the step of `propagateWith` for one annotated item (`c` = the contexts of the previous round) -/
def propStep (upd : Ctx → Nat → List (Nat × Mode) → Ctx) (c : Ctx) (acc : Ctx) (x : Item × List Held) : Ctx :=
  match x.1.op, ctxGet c x.1.fn with
  | .call fns, some ctx => fns.foldl (fun acc2 g => upd acc2 g (joinCtx ctx x.2)) acc
  | _, _ => acc

def propagateWith (upd : Ctx → Nat → List (Nat × Mode) → Ctx) (ann : List (Item × List Held)) (c : Ctx) : Ctx :=
  ann.foldl (propStep upd c) c

theorem propagate_eq (ann : List (Item × List Held)) (c : Ctx) :
    propagate ann c = propagateWith ctxMeetAt ann c := rfl

theorem propagateMay_eq (ann : List (Item × List Held)) (c : Ctx) :
    propagateMay ann c = propagateWith ctxJoinAt ann c := rfl

namespace Flow
variable {r : List (Nat × Mode) → List (Nat × Mode) → Prop} {upd : Ctx → Nat → List (Nat × Mode) → Ctx}
  (F : Flow r upd)
include F

theorem orefl (x : Option (List (Nat × Mode))) : optRel r x x := by
  cases x with
  | none => trivial
  | some a => exact F.refl a

theorem otrans {x y z : Option (List (Nat × Mode))} (h₁ : optRel r x y) (h₂ : optRel r y z) : optRel r x z := by
  cases z with
  | none => cases x <;> trivial
  | some c =>
    obtain ⟨b, rfl, hbc⟩ := optRel_some h₂
    obtain ⟨a, rfl, hab⟩ := optRel_some h₁
    exact F.trans hab hbc

theorem down_foldl {α : Type} {s : Ctx → α → Ctx} (h : Down r s) :
    Down r (fun acc (xs : List α) => xs.foldl s acc) := by
  intro acc xs
  induction xs generalizing acc with
  | nil => exact ⟨rfl, fun _ => F.orefl _⟩
  | cons x xs ih =>
    exact ⟨(ih _).1.trans (h acc x).1, fun f => F.otrans ((ih _).2 f) ((h acc x).2 f)⟩

theorem foldl_hit {α : Type} {s : Ctx → α → Ctx} (h : Down r s) {n g : Nat} {y : Option (List (Nat × Mode))}
    {x : α} (hx : ∀ acc, acc.length = n → optRel r (ctxGet (s acc x) g) y) {xs : List α} (hmem : x ∈ xs)
    (acc : Ctx) (hacc : acc.length = n) : optRel r (ctxGet (xs.foldl s acc) g) y := by
  induction xs generalizing acc with
  | nil => cases hmem
  | cons x' xs ih =>
    rcases List.mem_cons.mp hmem with rfl | hmem
    · exact F.otrans ((F.down_foldl h _ xs).2 g) (hx acc hacc)
    · exact ih hmem _ (by rw [(h acc x').1, hacc])

theorem down_upd (ls : List (Nat × Mode)) : Down r (fun acc g => upd acc g ls) :=
  fun acc g => ⟨F.length acc g ls, F.down acc g ls⟩

theorem down_propStep (c : Ctx) : Down r (propStep upd c) := by
  intro acc x
  unfold propStep
  split
  · exact F.down_foldl (F.down_upd _) acc _
  · exact ⟨rfl, fun _ => F.orefl _⟩

/-- any number of rounds (`it` is `iterate ann` or `iterateMay ann`) -/
theorem down_iter (ann : List (Item × List Held)) {it : Nat → Ctx → Ctx} (h0 : ∀ c, it 0 c = c)
    (hs : ∀ n c, it (n + 1) c = it n (propagateWith upd ann c)) (n : Nat) (c : Ctx) :
    (it n c).length = c.length ∧ ∀ f, optRel r (ctxGet (it n c) f) (ctxGet c f) := by
  induction n generalizing c with
  | zero =>
    rw [h0]
    exact ⟨rfl, fun _ => F.orefl _⟩
  | succ n ih =>
    have h := F.down_foldl (F.down_propStep c) c ann
    rw [hs]
    exact ⟨(ih _).1.trans h.1, fun f => F.otrans ((ih _).2 f) (h.2 f)⟩

/-- after one round, the context of a callee is below (context of the caller ∪ locks held at the
    call site), for every call item of a reachable caller -/
theorem propagate_call {ann : List (Item × List Held)} {c : Ctx} {it : Item} {hs : List Held}
    (hmem : (it, hs) ∈ ann) {fns : List Nat} (hop : it.op = .call fns) {ctx : List (Nat × Mode)}
    (hctx : ctxGet c it.fn = some ctx) {g : Nat} (hg : g ∈ fns) (hlt : g < c.length) :
    optRel r (ctxGet (propagateWith upd ann c) g) (some (joinCtx ctx hs)) := by
  refine F.foldl_hit (F.down_propStep c) (fun acc hacc => ?_) hmem c rfl
  simp only [propStep, hop, hctx]
  exact F.foldl_hit (F.down_upd _) (fun a ha => F.hit a g _ (by rw [ha]; exact hlt)) hg acc hacc

end Flow

theorem flow_modify {r : List (Nat × Mode) → List (Nat × Mode) → Prop} (hrefl : ∀ a, r a a)
    (htrans : ∀ {a b c}, r a b → r b c → r a c) {upd : Ctx → Nat → List (Nat × Mode) → Ctx}
    {ψ : List (Nat × Mode) → Option (List (Nat × Mode)) → Option (List (Nat × Mode))}
    (hupd : ∀ c g ls, upd c g ls = c.modify g (ψ ls))
    (hold : ∀ ls x, optRel r (ψ ls x) x) (hnew : ∀ ls x, optRel r (ψ ls x) (some ls)) : Flow r upd := by
  refine ⟨hrefl, htrans, fun c g ls => ?_, fun c g ls f => ?_, fun c g ls hg => ?_⟩
  · rw [hupd, List.length_modify]
  · rw [hupd, ctxGet_eq, ctxGet_eq, List.getElem?_modify]
    cases c[f]? with
    | none => trivial
    | some x =>
      by_cases h : g = f
      · simpa [h] using hold ls x
      · cases x <;> simp [h, optRel, hrefl]
  · rw [hupd, ctxGet_eq, List.getElem?_modify, List.getElem?_eq_getElem hg]
    simpa using hnew ls _

theorem ctxMeetAt_eq_modify (c : Ctx) (g : Nat) (ls : List (Nat × Mode)) :
    ctxMeetAt c g ls = c.modify g (fun x => match x with
      | none => some ls
      | some old => some (meet old ls)) := by
  induction c generalizing g with
  | nil => simp [ctxMeetAt]
  | cons x xs ih =>
    cases g with
    | zero => cases x <;> rfl
    | succ g => simp [ctxMeetAt, ih]

theorem ctxJoinAt_eq_modify (c : Ctx) (g : Nat) (ls : List (Nat × Mode)) :
    ctxJoinAt c g ls = c.modify g (fun x => match x with
      | none => some (ls.eraseDups)
      | some old => some ((old ++ ls).eraseDups)) := by
  induction c generalizing g with
  | nil => simp [ctxJoinAt]
  | cons x xs ih =>
    cases g with
    | zero => cases x <;> rfl
    | succ g => simp [ctxJoinAt, ih]

theorem mustFlow : Flow mustLe ctxMeetAt :=
  flow_modify (fun _ _ h => h) (fun h₁ h₂ H h => h₁ H (h₂ H h)) ctxMeetAt_eq_modify
    (fun _ x => match x with
      | none => trivial
      | some _ => fun _ h => sat_meet (.inl h))
    (fun _ x => match x with
      | none => fun _ h => h
      | some _ => fun _ h => sat_meet (.inr h))

theorem mayFlow : Flow mayGe ctxJoinAt :=
  flow_modify (fun _ _ h => h) (fun h₁ h₂ p h => h₁ p (h₂ p h)) ctxJoinAt_eq_modify
    (fun _ x => match x with
      | none => trivial
      | some _ => fun _ h => List.mem_eraseDups.mpr (List.mem_append_left _ h))
    (fun _ x => match x with
      | none => fun _ h => List.mem_eraseDups.mpr h
      | some _ => fun _ h => List.mem_eraseDups.mpr (List.mem_append_right _ h))

theorem initCtx_length (n : Nat) (entries : List Nat) : (initCtx n entries).length = n := by
  simp [initCtx]

theorem initCtx_entry (n : Nat) (entries : List Nat) (e : Nat) (he : e ∈ entries) (hlt : e < n) :
    ctxGet (initCtx n entries) e = some [] := by
  simp [ctxGet, initCtx, List.getD, hlt, he]

/-! ### what a clean report says about every single item -/

def hasLock (all : List (Nat × Mode)) (l : Nat) (w : Bool) : Bool :=
  all.any (fun (l', m) => l' == l && (!w || m == .W))

/-- the locks that may be held when `x` executes -/
def mayAt (cMay : Ctx) (x : Item × List Held) : List (Nat × Mode) :=
  joinCtx ((ctxGet cMay x.1.fn).getD []) x.2

def checkStep (c cMay : Ctx) (r : Report) (x : Item × List Held) : Report :=
  match ctxGet c x.1.fn with
  | none => r
  | some ctx =>
    match x.1.op with
    | .unknown _ => { r with unknowns := x.1 :: r.unknowns }
    | .goStmt _ => { r with unknowns := x.1 :: r.unknowns }
    | .read f =>
      if x.1.nonDynamic || hasLock (joinCtx ctx x.2) (guardOf f) false then r
      else { r with unguarded := x.1 :: r.unguarded }
    | .write f =>
      if hasLock (joinCtx ctx x.2) (guardOf f) true then r else { r with unguarded := x.1 :: r.unguarded }
    | .acq l _ =>
      let r := if (mayAt cMay x).any (fun (l', _) => l' == l) then { r with reentrant := x.1 :: r.reentrant } else r
      { r with orderEdges := (((mayAt cMay x).map (fun (l', _) => (l', l))).eraseDups).filter (fun e => !r.orderEdges.contains e) ++ r.orderEdges }
    | _ => r

theorem check_eq (ann : List (Item × List Held)) (c cMay : Ctx) :
    check ann c cMay = ann.foldl (checkStep c cMay) {} := rfl

def unguardedAt (c : Ctx) (x : Item × List Held) : Bool :=
  match ctxGet c x.1.fn with
  | none => false
  | some ctx =>
    match x.1.op with
    | .read f => !(x.1.nonDynamic || hasLock (joinCtx ctx x.2) (guardOf f) false)
    | .write f => !hasLock (joinCtx ctx x.2) (guardOf f) true
    | _ => false

def reentrantAt (c cMay : Ctx) (x : Item × List Held) : Bool :=
  match ctxGet c x.1.fn, x.1.op with
  | some _, .acq l _ => (mayAt cMay x).any (fun (l', _) => l' == l)
  | _, _ => false

def edgesAt (c cMay : Ctx) (x : Item × List Held) : List (Nat × Nat) :=
  match ctxGet c x.1.fn, x.1.op with
  | some _, .acq l _ => (mayAt cMay x).map (fun (l', _) => (l', l))
  | _, _ => []

theorem checkStep_spec (c cMay : Ctx) (r : Report) (x : Item × List Held) :
    ((checkStep c cMay r x).unguarded = [] ↔ r.unguarded = [] ∧ unguardedAt c x = false) ∧
    ((checkStep c cMay r x).reentrant = [] ↔ r.reentrant = [] ∧ reentrantAt c cMay x = false) ∧
    (∀ e ∈ r.orderEdges, e ∈ (checkStep c cMay r x).orderEdges) ∧
    ∀ e ∈ edgesAt c cMay x, e ∈ (checkStep c cMay r x).orderEdges := by
  simp only [checkStep, unguardedAt, reentrantAt, edgesAt]
  cases ctxGet c x.1.fn with
  | none => simp
  | some ctx =>
    cases x.1.op with
    | read f =>
      dsimp only
      generalize (x.1.nonDynamic || hasLock (joinCtx ctx x.2) (guardOf f) false) = b
      cases b <;> simp
    | write f =>
      dsimp only
      generalize hasLock (joinCtx ctx x.2) (guardOf f) true = b
      cases b <;> simp
    | acq l m =>
      dsimp only
      generalize (mayAt cMay x).any (fun (l', _) => l' == l) = b
      refine ⟨?_, ?_, fun e he => List.mem_append_right _ ?_, fun e he => ?_⟩
      · cases b <;> simp
      · cases b <;> simp
      · cases b <;> exact he
      by_cases hin : e ∈ r.orderEdges
      · exact List.mem_append_right _ (by cases b <;> exact hin)
      · exact List.mem_append_left _
          (List.mem_filter.mpr ⟨List.mem_eraseDups.mpr he, by cases b <;> simpa using hin⟩)
    | _ => dsimp only; simp

/-- what a report of `check` says: the tests that failed nowhere, and the edges it contains -/
theorem check_spec (c cMay : Ctx) (xs : List (Item × List Held)) (r : Report) :
    ((xs.foldl (checkStep c cMay) r).unguarded = [] ↔ r.unguarded = [] ∧ ∀ x ∈ xs, unguardedAt c x = false) ∧
    ((xs.foldl (checkStep c cMay) r).reentrant = [] ↔
      r.reentrant = [] ∧ ∀ x ∈ xs, reentrantAt c cMay x = false) ∧
    (∀ e ∈ r.orderEdges, e ∈ (xs.foldl (checkStep c cMay) r).orderEdges) ∧
    ∀ x ∈ xs, ∀ e ∈ edgesAt c cMay x, e ∈ (xs.foldl (checkStep c cMay) r).orderEdges := by
  induction xs generalizing r with
  | nil => simp
  | cons x xs ih =>
    obtain ⟨hu, hr, hE, hX⟩ := ih (checkStep c cMay r x)
    obtain ⟨su, sr, sE, sX⟩ := checkStep_spec c cMay r x
    simp only [List.foldl_cons, List.mem_cons, forall_eq_or_imp]
    exact ⟨by rw [hu, su, and_assoc], by rw [hr, sr, and_assoc], fun e he => hE e (sE e he),
      fun e he => hE e (sX e he), hX⟩

/-- `check` reports every unguarded access; the may-contexts play no role -/
theorem check_reports {ann : List (Item × List Held)} {c : Ctx} (cMay : Ctx)
    (h : ann.any (unguardedAt c) = true) : (check ann c cMay).unguarded ≠ [] := by
  intro he
  rw [check_eq] at he
  obtain ⟨x, hx, hux⟩ := List.any_eq_true.mp h
  rw [((check_spec c cMay ann {}).1.mp he).2 x hx] at hux
  cases hux

/-! ### the annotation and the held-set -/

theorem annotate_cons (hs : List Held) (it : Item) (rest : List Item) (hd : detached it = false) :
    annotate hs (it :: rest) =
      (it, hs.filter (fun h => h.depth ≤ it.depth)) :: annotate (stepHeld hs it) rest := by
  simp only [detached] at hd
  simp only [annotate, hd]
  rfl

theorem mem_annotateAll {n : Nat} {items : List Item} {g : Nat} (hg : g < n) {x : Item × List Held}
    (hx : x ∈ annotate [] (itemsOf items g)) : x ∈ annotateAll n items :=
  List.mem_flatMap.mpr ⟨g, List.mem_range.mpr hg, hx⟩

theorem itemsOf_fn {items : List Item} {f : Nat} {it : Item} (h : it ∈ itemsOf items f) : it.fn = f :=
  eq_of_beq (List.mem_filter.mp h).2

theorem bracketed_fn {n : Nat} {items : List Item} {must : Ctx} (h : bracketed n items must = true)
    {g : Nat} (hg : g < n) {c : List (Nat × Mode)} (hc : ctxGet must g = some c) :
    bracketedFrom [] [] (itemsOf items g) = true := by
  simpa [hc] using List.all_eq_true.mp h g (List.mem_range.mpr hg)

theorem exit_ok {E : List (Nat × Nat)} {hs ds cur : List Held} {it : Item} {H₀ : Lockset.Held}
    (h : hs = ds.filter (fun h => it.depth < h.depth) ++ cur) :
    runOK E (pairs hs ++ H₀) (exitRels ds it) = some (pairs cur ++ H₀) := by
  subst h
  rw [pairs, List.map_append, List.append_assoc]
  exact runOK_rels E _ _

theorem pairs_erase (cur : List Held) (l : Nat) (m : Mode) (h : Held)
    (hf : cur.find? (fun h => h.lock == l) = some h) (hm : h.mode = m) (K : Lockset.Held) :
    (l, toL m) ∈ pairs cur ++ K ∧
    (pairs cur ++ K).erase (l, toL m) = pairs (cur.eraseP (fun h => h.lock == l)) ++ K := by
  induction cur with
  | nil => cases hf
  | cons x xs ih =>
    by_cases hx : x.lock = l
    · have : x = h := by simpa [List.find?_cons, hx] using hf
      subst this
      subst hm
      subst hx
      simp [pairs]
    · have hf' : xs.find? (fun h => h.lock == l) = some h := by simpa [List.find?_cons, hx] using hf
      obtain ⟨h1, h2⟩ := ih hf'
      refine ⟨?_, ?_⟩
      · simp only [pairs, List.map_cons, List.cons_append, List.mem_cons]
        exact .inr h1
      · have hne : ((x.lock, toL x.mode) == (l, toL m)) = false := by simp [hx]
        simp only [pairs, List.map_cons, List.cons_append, List.erase_cons, hne]
        simp only [pairs] at h2
        simp [hx, h2]

theorem toL_W {m : Mode} : toL m = Lockset.Mode.W ↔ m = .W := by cases m <;> simp [toL]

theorem sat_join {H₀ : Lockset.Held} {ctx : List (Nat × Mode)} (h : sat H₀ ctx) (cur : List Held) :
    sat (pairs cur ++ H₀) (joinCtx ctx cur) := by
  intro p hp
  simp only [joinCtx, List.mem_append, List.mem_map] at hp
  rcases hp with ⟨x, hx, rfl⟩ | hp
  · have : (x.lock, toL x.mode) ∈ pairs cur ++ H₀ := List.mem_append_left H₀ (List.mem_map.mpr ⟨x, hx, rfl⟩)
    cases hm : x.mode with
    | R => exact .inr ⟨by simp, by simpa [hm, toL] using this⟩
    | W => exact .inl (by simpa [hm, toL] using this)
  · exact covers_mono (fun q hq => List.mem_append_right _ hq) (h p hp)

theorem may_join {H₀ : Lockset.Held} {cm : List (Nat × Mode)} (h : ∀ q ∈ H₀, ∃ m, (q.1, m) ∈ cm)
    (cur : List Held) : ∀ q ∈ pairs cur ++ H₀, ∃ m, (q.1, m) ∈ joinCtx cm cur := by
  intro q hq
  simp only [List.mem_append, pairs, List.mem_map] at hq
  rcases hq with ⟨x, hx, rfl⟩ | hq
  · exact ⟨x.mode, by simp only [joinCtx, List.mem_append, List.mem_map]; exact .inl ⟨x, hx, rfl⟩⟩
  · obtain ⟨m, hm⟩ := h q hq
    exact ⟨m, by simp only [joinCtx, List.mem_append]; exact .inr hm⟩

theorem hasLock_covers {H : Lockset.Held} {all : List (Nat × Mode)} (hsat : sat H all) {l : Nat} {w : Bool}
    (h : hasLock all l w = true) :
    (l, Lockset.Mode.W) ∈ H ∨ (w = false ∧ (l, Lockset.Mode.R) ∈ H) := by
  simp only [hasLock, List.any_eq_true, Bool.and_eq_true, beq_iff_eq, Bool.or_eq_true,
    Bool.not_eq_true'] at h
  obtain ⟨⟨l', m⟩, hmem, hl, hw⟩ := h
  simp only at hl hw
  subst hl
  rcases hsat _ hmem with hc | ⟨hm, hc⟩
  · exact .inl hc
  · simp only at hm hc
    subst hm
    rcases hw with hw | hw
    · exact .inr ⟨hw, hc⟩
    · simp at hw

/-- the conjunct of `bracketedFrom` about an explicit release -/
def relOK (cur : List Held) : Op → Bool
  | .rel l m =>
    (match cur.find? (fun h => h.lock == l) with
     | some h => h.mode == m
     | none => false)
  | _ => true

/-- the events of an item that executes are allowed, and move the held-set as `stepHeld` says -/
theorem prim_ok {E : List (Nat × Nat)} {must may : Ctx} {cur : List Held} {it : Item} {ctx cm : List (Nat × Mode)}
    {H₀ : Lockset.Held} (hd : detached it = false)
    (hc : ctxGet must it.fn = some ctx) (hcm : ctxGet may it.fn = some cm)
    (hok : unguardedAt must (it, cur) = false ∧ reentrantAt must may (it, cur) = false ∧
      ∀ e ∈ edgesAt must may (it, cur), e ∈ E)
    (hrel : relOK cur it.op = true) (hsat : sat H₀ ctx) (hmay : ∀ q ∈ H₀, ∃ m, (q.1, m) ∈ cm) :
    runOK E (pairs cur ++ H₀) (primEv it) =
      some (pairs (match it.op with
        | .acq l m => ⟨l, m, it.depth⟩ :: cur
        | .rel l _ => cur.eraseP (fun h => h.lock == l)
        | _ => cur) ++ H₀) := by
  obtain ⟨hu, hr, hE⟩ := hok
  have hS := sat_join hsat cur
  have hM := may_join hmay cur
  simp only [primEv, hd, Bool.false_eq_true, ↓reduceIte]
  simp only [unguardedAt, reentrantAt, edgesAt, mayAt, hc, hcm, Option.getD_some] at hu hr hE
  cases hop : it.op with
  | acq l m =>
    simp only [hop] at hr hE ⊢
    refine runOK_single ?_ (List.all_eq_true.mpr fun q hq => decide_eq_true
      ((hM _ hq).elim fun m' hm => hE _ (List.mem_map.mpr ⟨(q.1, m'), hm, rfl⟩)))
    have h1 : ∀ m', (l, m') ∉ pairs cur ++ H₀ := fun m' hin => (hM _ hin).elim fun m'' hm =>
      Bool.false_ne_true (hr ▸ List.any_eq_true.mpr ⟨(l, m''), hm, beq_self_eq_true l⟩)
    simp only [okNow, h1, decide_false, Bool.not_false, Bool.and_self]
  | rel l m =>
    simp only [hop, relOK] at hrel ⊢
    split at hrel
    · rename_i h hf
      obtain ⟨e1, e2⟩ := pairs_erase cur l m h hf (by simpa using hrel) H₀
      exact e2 ▸ runOK_single (by simp only [okNow, e1, decide_true]) rfl
    · cases hrel
  | read x =>
    simp only [hop] at hu ⊢
    by_cases hnd : it.nonDynamic = true
    · simp only [hnd, if_true]
      exact runOK_single (a := .other) rfl rfl
    · simp only [hnd, Bool.false_eq_true, ↓reduceIte]
      refine runOK_single ?_ rfl
      simp only [okNow, Bool.or_eq_true, decide_eq_true_eq]
      exact (hasLock_covers (w := false) hS (by simpa [hnd] using hu)).elim .inr (fun h => .inl h.2)
  | write x =>
    simp only [hop] at hu ⊢
    refine runOK_single ?_ rfl
    simp only [okNow, decide_eq_true_eq]
    exact (hasLock_covers (w := true) hS (by simpa using hu)).elim id (fun h => nomatch h.1)
  | deferRel l m => rfl
  | call fns => rfl
  | _ => exact runOK_single (a := .other) rfl rfl

/-- what the soundness proof uses of an analysis result -/
structure Certified (n : Nat) (items : List Item) (must may : Ctx) (E : List (Nat × Nat)) : Prop where
  lenMust : must.length = n
  lenMay : may.length = n
  fixMust : propagate (annotateAll n items) must = must
  fixMay : propagateMay (annotateAll n items) may = may
  itemsOK : ∀ x ∈ annotateAll n items, unguardedAt must x = false ∧ reentrantAt must may x = false ∧
    ∀ e ∈ edgesAt must may x, e ∈ E
  brack : bracketed n items must = true

theorem stepHeld_pairs_of_not_lock (hs : List Held) (it : Item) (h : isLockOp it.op = false) :
    stepHeld hs it = hs.filter (fun h => h.depth ≤ it.depth) := by
  simp only [stepHeld]
  cases hop : it.op with
  | acq => rw [hop] at h; cases h
  | rel => rw [hop] at h; cases h
  | _ => rfl

/-! ### the lexical walk of a function body -/

theorem deferNext_of_not_lock (ds : List Held) (it : Item) (h : isLockOp it.op = false) :
    deferNext ds it = ds.filter (fun h => h.depth ≤ it.depth) := by
  simp only [deferNext]
  split
  · rfl
  · cases hop : it.op with
    | deferRel => rw [hop] at h; cases h
    | _ => rfl

theorem relOK_of_not_lock (cur : List Held) {op : Op} (h : isLockOp op = false) : relOK cur op = true := by
  cases op with
  | rel => cases h
  | _ => rfl

/-- what `exec_sound` assumes of the remaining items `its` of function `f`, walked with the lexical
    held-set `hs` and the pending deferred releases `ds` -/
structure Walk (n : Nat) (items : List Item) (f : Nat) (hs ds : List Held) (its : List Item) : Prop where
  ann : ∀ x ∈ annotate hs its, x ∈ annotateAll n items
  brack : bracketedFrom hs ds its = true
  fn : ∀ it ∈ its, it.fn = f

section
variable {n : Nat} {items : List Item} {f : Nat} {hs ds : List Held} {it : Item} {rest : List Item}

theorem Walk.cons :
    Walk n items f hs ds (it :: rest) ↔
    detached it = false ∧ (it, hs.filter (fun h => h.depth ≤ it.depth)) ∈ annotateAll n items ∧ it.fn = f ∧
    hs = ds.filter (fun h => it.depth < h.depth) ++ hs.filter (fun h => h.depth ≤ it.depth) ∧
    relOK (hs.filter (fun h => h.depth ≤ it.depth)) it.op = true ∧
    Walk n items f (stepHeld hs it) (deferNext ds it) rest := by
  constructor
  · intro w
    have hb := w.brack
    simp only [bracketedFrom, Bool.and_eq_true, Bool.not_eq_true', beq_iff_eq] at hb
    obtain ⟨⟨⟨hd, hsplit⟩, hrel⟩, hb'⟩ := hb
    have hann := w.ann
    rw [annotate_cons hs it rest hd] at hann
    exact ⟨hd, hann _ List.mem_cons_self, w.fn it List.mem_cons_self, hsplit, hrel,
      fun x hx => hann x (List.mem_cons_of_mem _ hx), hb', fun i hi => w.fn i (List.mem_cons_of_mem _ hi)⟩
  · rintro ⟨hd, hmem, hfn, hsplit, hrel, w⟩
    refine ⟨fun x hx => ?_, ?_, fun i hi => (List.mem_cons.mp hi).elim (· ▸ hfn) (w.fn i)⟩
    · rw [annotate_cons hs it rest hd] at hx
      exact (List.mem_cons.mp hx).elim (· ▸ hmem) (w.ann x)
    · simp only [bracketedFrom, Bool.and_eq_true, Bool.not_eq_true', beq_iff_eq]
      exact ⟨⟨⟨hd, hsplit⟩, hrel⟩, w.brack⟩

/-! Loops: a stretch of non-lock items of one depth `d` leaves a walk state in which nothing is
deeper than `d` where it is, so the stretch can be walked once more. -/

def closedAt (d : Nat) (hs : List Held) : Prop := hs.filter (fun h => h.depth ≤ d) = hs

theorem closedAt_filter (d : Nat) (hs : List Held) : closedAt d (hs.filter (fun h => h.depth ≤ d)) := by
  simp [closedAt, List.filter_filter]

theorem closedAt_deeper {d : Nat} {hs : List Held} (h : closedAt d hs) :
    hs.filter (fun h => d < h.depth) = [] := by
  rw [List.filter_eq_nil_iff]
  intro x hx
  have := (List.filter_eq_self.mp h) x hx
  simp only [decide_eq_true_eq] at this ⊢
  omega

theorem Walk.cons_closed {d : Nat} (hc : closedAt d hs) (hcd : closedAt d ds)
    (hit : isLockOp it.op = false ∧ it.depth = d) :
    Walk n items f hs ds (it :: rest) ↔
    (detached it = false ∧ (it, hs) ∈ annotateAll n items ∧ it.fn = f) ∧ Walk n items f hs ds rest := by
  obtain ⟨hnl, rfl⟩ := hit
  rw [Walk.cons, stepHeld_pairs_of_not_lock hs it hnl, deferNext_of_not_lock ds it hnl, hc, hcd,
    closedAt_deeper hcd, relOK_of_not_lock hs hnl]
  simp only [List.nil_append, true_and, and_assoc]

theorem Walk.block {d : Nat} (hc : closedAt d hs) (hcd : closedAt d ds) {blk : List Item}
    (hblk : ∀ it ∈ blk, isLockOp it.op = false ∧ it.depth = d) :
    Walk n items f hs ds (blk ++ rest) ↔
    (∀ it ∈ blk, detached it = false ∧ (it, hs) ∈ annotateAll n items ∧ it.fn = f) ∧
      Walk n items f hs ds rest := by
  induction blk with
  | nil => simp
  | cons b bs ih =>
    rw [List.cons_append, Walk.cons_closed hc hcd (hblk b List.mem_cons_self),
      ih fun i hi => hblk i (List.mem_cons_of_mem _ hi)]
    simp only [List.mem_cons, forall_eq_or_imp, and_assoc]

theorem Walk.loop {blk : List Item} {d : Nat}
    (w : Walk n items f hs ds (blk ++ rest)) (hblk : ∀ it ∈ blk, isLockOp it.op = false ∧ it.depth = d) :
    Walk n items f hs ds (blk ++ (blk ++ rest)) := by
  cases blk with
  | nil => exact w
  | cons b bs =>
    obtain ⟨hnl, hd⟩ := hblk b List.mem_cons_self
    have hbs : ∀ it ∈ bs, isLockOp it.op = false ∧ it.depth = d := fun i hi => hblk i (List.mem_cons_of_mem _ hi)
    have hc := closedAt_filter d hs
    have hcd := closedAt_filter d ds
    rw [List.cons_append, Walk.cons, stepHeld_pairs_of_not_lock hs b hnl, deferNext_of_not_lock ds b hnl, hd] at w ⊢
    obtain ⟨hdet, hmem, hfn, hsplit, hrel, w'⟩ := w
    refine ⟨hdet, hmem, hfn, hsplit, hrel, ?_⟩
    have hw := (Walk.block hc hcd hbs).mp w'
    exact (Walk.block hc hcd hbs).mpr ⟨hw.1, (Walk.block hc hcd hblk).mpr
      ⟨List.forall_mem_cons.mpr ⟨⟨hdet, hmem, hfn⟩, hw.1⟩, hw.2⟩⟩

theorem Walk.entry {must : Ctx} (hbr : bracketed n items must = true)
    {g : Nat} (hg : g < n) {c : List (Nat × Mode)} (hc : ctxGet must g = some c) :
    Walk n items g [] [] (itemsOf items g) :=
  ⟨fun _ => mem_annotateAll hg, bracketed_fn hbr hg hc, fun _ => itemsOf_fn⟩

end

theorem exec_sound {n : Nat} {items : List Item} {must may : Ctx} {E : List (Nat × Nat)}
    (S : Certified n items must may E) {ds : List Held} {its : List Item} {tr : List Action}
    (hex : Exec n items ds its tr) {hs : List Held} {f : Nat} {c cm : List (Nat × Mode)} {H₀ : Lockset.Held}
    (w : Walk n items f hs ds its) (hc : ctxGet must f = some c) (hcm : ctxGet may f = some cm)
    (hsat : sat H₀ c) (hmay : ∀ q ∈ H₀, ∃ m, (q.1, m) ∈ cm) :
    runOK E (pairs hs ++ H₀) tr = some H₀ := by
  induction hex generalizing hs f c cm H₀ with
  | nil ds =>
    have : hs = ds := by simpa [bracketedFrom] using w.brack
    subst this
    exact runOK_rels E _ _
  | prim ds it rest tr _ ih =>
    obtain ⟨hd, hmem, hitfn, hsplit, hrel, w'⟩ := Walk.cons.mp w
    exact runOK_seq (exit_ok hsplit) (runOK_seq
      (prim_ok hd (hitfn ▸ hc) (hitfn ▸ hcm) (S.itemsOK _ hmem) hrel hsat hmay) (ih w' hc hcm hsat hmay))
  | skip ds it rest tr hnl _ ih =>
    obtain ⟨_, _, _, hsplit, _, w'⟩ := Walk.cons.mp w
    refine runOK_seq (exit_ok hsplit) ?_
    rw [← stepHeld_pairs_of_not_lock hs it hnl]
    exact ih w' hc hcm hsat hmay
  | call ds it rest fns g tr₁ tr₂ hop hd hg hlt _ _ ih₁ ih₂ =>
    obtain ⟨_, hmem, hitfn, hsplit, _, w'⟩ := Walk.cons.mp w
    have hnl : isLockOp it.op = false := by rw [hop]; rfl
    -- the callee's contexts, from the two fixpoints
    have h1 := mustFlow.propagate_call hmem hop (hitfn ▸ hc) hg (S.lenMust ▸ hlt)
    have h2 := mayFlow.propagate_call hmem hop (hitfn ▸ hcm) hg (S.lenMay ▸ hlt)
    rw [← propagate_eq, S.fixMust] at h1
    rw [← propagateMay_eq, S.fixMay] at h2
    obtain ⟨cg, hcg, h1⟩ := optRel_some h1
    obtain ⟨cmg, hcmg, h2⟩ := optRel_some h2
    refine runOK_seq (exit_ok hsplit)
      (runOK_seq (H₁ := pairs (hs.filter (fun h => h.depth ≤ it.depth)) ++ H₀) ?_ ?_)
    · exact ih₁ (Walk.entry S.brack hlt hcg) hcg hcmg (h1 _ (sat_join hsat _))
        (fun q hq => (may_join hmay _ q hq).imp fun _ hm => h2 _ hm)
    · rw [← stepHeld_pairs_of_not_lock hs it hnl]
      exact ih₂ w' hc hcm hsat hmay
  | loop ds blk rest d tr hblk _ ih => exact ih (w.loop hblk) hc hcm hsat hmay

/-! ### from the verdicts of the analysis to the certificate -/

theorem fnId_lt {names : List String} {e : String} (h : e ∈ names) : fnId names e < names.length := by
  unfold fnId
  cases hi : names.idxOf? e with
  | none => exact absurd h (List.idxOf?_eq_none_iff.mp hi)
  | some i =>
    obtain ⟨hlt, _⟩ := List.idxOf?_eq_some_iff.mp hi
    exact hlt

/-- every complete trace of an entry point runs, from the empty held-set back to the empty held-set,
    through `okNow` and the order condition -/
theorem entry_runOK (names : List String) (items : List Item) (entries : List String)
    (hu : (analysis names items entries).report.unguarded = [])
    (hr : (analysis names items entries).report.reentrant = [])
    (hfix : (analysis names items entries).fixpoint = true)
    (hbr : (analysis names items entries).bracketed names items = true)
    (p : Lockset.Prog) (hp : EntryProg names items entries p) :
    runOK (analysis names items entries).report.orderEdges [] p = some [] := by
  obtain ⟨e, he, hn, htr⟩ := hp
  simp only [Analysis.fixpoint, stable, stableMay, Bool.and_eq_true, beq_iff_eq] at hfix
  have hm := mustFlow.down_iter (annotateAll names.length items) (it := iterate _) (fun _ => rfl) (fun _ _ => rfl)
    rounds (initCtx names.length (entries.map (fnId names)))
  have hM := mayFlow.down_iter (annotateAll names.length items) (it := iterateMay _) (fun _ => rfl) (fun _ _ => rfl)
    rounds (initCtx names.length (entries.map (fnId names)))
  have S : Certified names.length items _ _ _ :=
    ⟨hm.1.trans (initCtx_length _ _), hM.1.trans (initCtx_length _ _), hfix.1, hfix.2,
      fun x hx => ⟨((check_spec _ _ _ {}).1.mp hu).2 x hx, ((check_spec _ _ _ {}).2.1.mp hr).2 x hx,
        (check_spec _ _ _ {}).2.2.2 x hx⟩, hbr⟩
  -- an entry point starts with the empty context, in both data-flows
  have hinit := initCtx_entry names.length (entries.map (fnId names)) (fnId names e)
    (List.mem_map.mpr ⟨e, he, rfl⟩) (fnId_lt hn)
  obtain ⟨c, hc, h⟩ := optRel_some (hinit ▸ hm.2 (fnId names e))
  obtain ⟨cm, hcm, _⟩ := optRel_some (hinit ▸ hM.2 (fnId names e))
  exact exec_sound S htr (H₀ := []) (Walk.entry S.brack (fnId_lt hn) hc) hc hcm (h [] nofun) nofun

/-- **Soundness of the analysis, lock discipline.**  For ARBITRARY facts: if the report of `check`
    has no unguarded access and no re-entrant acquisition, both data-flows are at their fixpoint,
    and the reachable functions are bracketed (`Conc.bracketed`: releases match acquisitions; it
    cannot be dropped — `check_alone_not_sound`), then every complete trace of every entry point keeps
    the lock discipline w.r.t. `guardOf`: every read of a tracked field happens with its guard held,
    every write with the guard held exclusively, no lock is re-acquired while held, only held locks
    are released, and nothing is held at the end. -/
theorem analysis_sound (names : List String) (items : List Item) (entries : List String)
    (hu : (analysis names items entries).report.unguarded = [])
    (hr : (analysis names items entries).report.reentrant = [])
    (hfix : (analysis names items entries).fixpoint = true)
    (hbr : (analysis names items entries).bracketed names items = true)
    (p : Lockset.Prog) (hp : EntryProg names items entries p) :
    Disciplined guardOf [] p = true :=
  runOK_disciplined (entry_runOK names items entries hu hr hfix hbr p hp)

/-- **Soundness of the analysis, lock order.**  If moreover every edge of the reported
    acquired-while-holding relation goes up in `rank`, every trace acquires locks in strictly
    increasing rank. -/
theorem analysis_sound_order (names : List String) (items : List Item) (entries : List String)
    (rank : Nat → Nat)
    (hu : (analysis names items entries).report.unguarded = [])
    (hr : (analysis names items entries).report.reentrant = [])
    (hrank : ∀ e ∈ (analysis names items entries).report.orderEdges, rank e.1 < rank e.2)
    (hfix : (analysis names items entries).fixpoint = true)
    (hbr : (analysis names items entries).bracketed names items = true)
    (p : Lockset.Prog) (hp : EntryProg names items entries p) :
    Ordered rank [] p = true :=
  runOK_ordered hrank (entry_runOK names items entries hu hr hfix hbr p hp)

/-! ### the generated traces are traces -/

theorem genBody_exec (n : Nat) (items : List Item) (callee : Nat → List Action)
    (hcal : ∀ g, g < n → callee g = [] ∨ Exec n items [] (itemsOf items g) (callee g))
    (its : List Item) : ∀ ds, Exec n items ds its (genBody n callee ds its) := by
  induction its with
  | nil => exact fun ds => .nil ds
  | cons it rest ih =>
    intro ds
    have hprim : Exec n items ds (it :: rest) (exitRels ds it ++ (primEv it ++ genBody n callee (deferNext ds it) rest)) :=
      .prim ds it rest _ (ih _)
    simp only [genBody]
    split
    · rename_i g gs hop
      have hpe : primEv it = [] := by
        simp only [primEv, hop]; split <;> rfl
      rw [hpe] at hprim
      split
      · rename_i hcond
        rcases hcal g hcond.2 with h0 | hex
        · rw [h0]; exact hprim
        · exact .call ds it rest (g :: gs) g _ _ hop hcond.1 List.mem_cons_self hcond.2 hex (ih _)
      · exact hprim
    · exact hprim

theorem genTrace_traces (names : List String) (items : List Item) (fuel f : Nat) :
    Traces names items f (genTrace names.length items (fuel + 1) f) := by
  induction fuel generalizing f with
  | zero => exact genBody_exec _ items _ (fun _ _ => .inl rfl) _ _
  | succ k ih => exact genBody_exec _ items _ (fun g _ => .inr (ih g)) _ _

theorem genTrace_entryProg {names : List String} {entries : List String}
    (hpres : entriesPresent names entries = true) (items : List Item) {e : String} (he : e ∈ entries) (fuel : Nat) :
    EntryProg names items entries (genTrace names.length items (fuel + 1) (fnId names e)) :=
  ⟨e, he, List.contains_iff_mem.mp (List.all_eq_true.mp hpres e he), genTrace_traces names items fuel _⟩

/-- every entry point that exists has a trace: the derived system is never empty for a vacuous reason -/
theorem entryProg_exists (names : List String) (items : List Item) (entries : List String) (e : String)
    (he : e ∈ entries) (hn : e ∈ names) : ∃ p, EntryProg names items entries p :=
  ⟨_, e, he, hn, genTrace_traces names items 0 _⟩

/-! ### the derived system -/

/-- any number of threads, each running a complete trace of one of the entry points -/
def EntrySystem (names : List String) (items : List Item) (entries : List String) (progs : List Lockset.Prog) : Prop :=
  ∀ p ∈ progs, EntryProg names items entries p

/-- composition with `Lockset.lockset_sound`: in no reachable state of the derived system — any
    number of threads, each running any complete trace of any entry point, interleaved in any way —
    do two different threads have conflicting accesses to a tracked field (same field, at least one
    write) as their next events -/
theorem analysis_no_unguarded_access (names : List String) (items : List Item) (entries : List String)
    (hu : (analysis names items entries).report.unguarded = [])
    (hr : (analysis names items entries).report.reentrant = [])
    (hfix : (analysis names items entries).fixpoint = true)
    (hbr : (analysis names items entries).bracketed names items = true)
    (progs : List Lockset.Prog) (hsys : EntrySystem names items entries progs)
    (σ : Lockset.State) (hreach : Lockset.Reachable (Lockset.init progs) σ) (k k' : Lockset.Kind) :
    ¬ ∃ t t' x, t ≠ t' ∧ Lockset.nextIs σ t (Lockset.access x k) ∧ Lockset.nextIs σ t' (Lockset.access x k') ∧
        (k = Lockset.Kind.write ∨ k' = Lockset.Kind.write) :=
  Lockset.lockset_sound guardOf progs
    (fun p hp => analysis_sound names items entries hu hr hfix hbr p (hsys p hp)) σ hreach k k'

/-- composition with `Lockset.no_deadlock`: in every reachable state of the derived system in which
    some thread has not finished, some thread can move -/
theorem analysis_no_deadlock (names : List String) (items : List Item) (entries : List String)
    (rank : Nat → Nat)
    (hu : (analysis names items entries).report.unguarded = [])
    (hr : (analysis names items entries).report.reentrant = [])
    (hrank : ∀ e ∈ (analysis names items entries).report.orderEdges, rank e.1 < rank e.2)
    (hfix : (analysis names items entries).fixpoint = true)
    (hbr : (analysis names items entries).bracketed names items = true)
    (progs : List Lockset.Prog) (hsys : EntrySystem names items entries progs)
    (σ : Lockset.State) (hreach : Lockset.Reachable (Lockset.init progs) σ)
    (hunfinished : ∃ (t : Nat) (a : Action) (rest : Lockset.Prog), σ.threads[t]? = some (a :: rest)) :
    ∃ t σ', Lockset.step σ t = some σ' :=
  Lockset.no_deadlock guardOf rank progs
    (fun p hp => analysis_sound names items entries hu hr hfix hbr p (hsys p hp))
    (fun p hp => analysis_sound_order names items entries rank hu hr hrank hfix hbr p (hsys p hp))
    σ hreach hunfinished

def unfinishedAt (σ : Lockset.State) (t : Nat) : Bool :=
  match σ.threads[t]? with
  | some (_ :: _) => true
  | _ => false

theorem unfinished_of {σ : Lockset.State} {t : Nat} (h : unfinishedAt σ t = true) :
    ∃ (t : Nat) (a : Action) (rest : Lockset.Prog), σ.threads[t]? = some (a :: rest) := by
  unfold unfinishedAt at h
  split at h
  · rename_i a rest heq; exact ⟨t, a, rest, heq⟩
  · cases h

/-! ### `check` alone is not enough

The verdicts of `check` and the two fixpoint flags do not imply the discipline: `check` never looks
at how a lock is given back.  Two fact lists with a clean report at the fixpoint, and a complete
trace of the entry point that is not disciplined: (1) the lock is never released; (2) `Lock()` is
paired with `defer RUnlock()` — `panicSafe` accepts that one too (it compares the lock, not the
mode); in Go it is the fatal error "sync: RUnlock of unlocked RWMutex".  `bracketed` rejects both. -/

def unreleasedFacts : List Item := [⟨0, .acq 0 .W, 0, false, false⟩, ⟨0, .write 0, 0, false, false⟩]
def mismatchedFacts : List Item :=
  [⟨0, .acq 0 .W, 0, false, false⟩, ⟨0, .deferRel 0 .R, 0, false, false⟩, ⟨0, .write 0, 0, false, false⟩]

theorem check_alone_not_sound :
    (∃ p, (analysis ["f"] unreleasedFacts ["f"]).report = {} ∧
      (analysis ["f"] unreleasedFacts ["f"]).fixpoint = true ∧
      EntryProg ["f"] unreleasedFacts ["f"] p ∧ Disciplined guardOf [] p = false ∧
      (analysis ["f"] unreleasedFacts ["f"]).bracketed ["f"] unreleasedFacts = false) ∧
    (∃ p, (analysis ["f"] mismatchedFacts ["f"]).report = {} ∧
      (analysis ["f"] mismatchedFacts ["f"]).fixpoint = true ∧
      panicSafe 1 mismatchedFacts = true ∧
      EntryProg ["f"] mismatchedFacts ["f"] p ∧ Disciplined guardOf [] p = false ∧
      (analysis ["f"] mismatchedFacts ["f"]).bracketed ["f"] mismatchedFacts = false) :=
  ⟨⟨genTrace 1 unreleasedFacts 1 0, by decide +kernel, by decide +kernel,
      ⟨"f", by decide +kernel, by decide +kernel, genTrace_traces ["f"] unreleasedFacts 0 0⟩, by decide +kernel, by decide +kernel⟩,
   ⟨genTrace 1 mismatchedFacts 1 0, by decide +kernel, by decide +kernel, by decide +kernel,
      ⟨"f", by decide +kernel, by decide +kernel, genTrace_traces ["f"] mismatchedFacts 0 0⟩, by decide +kernel, by decide +kernel⟩⟩

/-- the semantics and the must-hold data-flow at work on a toy table: `g` writes field 0 without
    taking a lock, its only caller `f` holds the lock exclusively around the call.  The report is
    clean BECAUSE OF the callers' context, and the trace of `f` through `g` is disciplined … -/
def toyFacts : List Item :=
  [⟨0, .acq 0 .W, 0, false, false⟩, ⟨0, .deferRel 0 .W, 0, false, false⟩, ⟨0, .call [1], 0, false, false⟩,
   ⟨1, .write 0, 0, false, false⟩]

example : genTrace 2 toyFacts 2 0 = [.acq 0 .W, .write 0, .rel 0 .W] := by decide +kernel
example : (analysis ["f", "g"] toyFacts ["f"]).lexicallyGuarded = false := by decide +kernel
example : ∀ p, EntryProg ["f", "g"] toyFacts ["f"] p → Disciplined guardOf [] p = true :=
  analysis_sound ["f", "g"] toyFacts ["f"] (by decide +kernel) (by decide +kernel) (by decide +kernel) (by decide +kernel)
/-- … while with `g` as an entry point of its own the report is not clean, and `g`'s trace is not
    disciplined -/
example : (analysis ["f", "g"] toyFacts ["f", "g"]).report.unguarded ≠ [] ∧
    EntryProg ["f", "g"] toyFacts ["f", "g"] (genTrace 2 toyFacts 1 1) ∧
    Disciplined guardOf [] (genTrace 2 toyFacts 1 1) = false :=
  ⟨by decide +kernel, ⟨"g", by decide +kernel, by decide +kernel, genTrace_traces ["f", "g"] toyFacts 0 1⟩, by decide +kernel⟩

/-- a loop around the call: `g` runs twice inside `f`'s critical section -/
example : Traces ["f", "g"] toyFacts 0 [.acq 0 .W, .write 0, .write 0, .rel 0 .W] := by
  have hg : Exec 2 toyFacts [] (itemsOf toyFacts 1) [.write 0] := genTrace_traces ["f", "g"] toyFacts 0 1
  have h2 : Exec 2 toyFacts [⟨0, .W, 0⟩] ([⟨0, .call [1], 0, false, false⟩] ++ ([⟨0, .call [1], 0, false, false⟩] ++ []))
      [.write 0, .write 0, .rel 0 .W] :=
    .call _ _ _ [1] 1 [.write 0] _ rfl rfl (by decide +kernel) (by decide +kernel) hg
      (.call _ _ _ [1] 1 [.write 0] _ rfl rfl (by decide +kernel) (by decide +kernel) hg (.nil _))
  have h1 := Exec.loop (n := 2) (items := toyFacts) _ _ _ 0 _ (by decide +kernel) h2
  exact .prim _ _ _ _ (.prim _ _ _ _ h1)

end Restful.Conc
