/-
`templateToRegularExpression` reads a well-formed, JSR-documented structured token back as the
corresponding `JTok`; hence `Jsr.compile` of a path whose non-empty tokens read as `a : List TTok`
has `toks = a.map Jsr.ofTTok` and `varNames = varNames a`.
-/
import Restful.Lemmas.SplitOn
import Restful.Model.Jsr
import Restful.Spec.Admits
namespace Restful
open Str

namespace Jsr

/-- the `JTok` a structured token compiles to (`.suf` is not a JSR token; the value there is junk) -/
def ofTok : Tok → JTok
  | .lit s => .lit s
  | .var n => .var n
  | .re n e => .re n e
  | .suf n _ => .var n
  | .wild n => .wild n

def ofTTok (t : TTok) : JTok := ofTok t.base

theorem nameOK_not_mem {n : Str} (h : nameOK n = true) :
    ':' ∉ n ∧ ' ' ∉ n := by
  unfold nameOK at h
  rw [List.all_eq_true] at h
  exact ⟨fun hm => by simpa [nameChar] using h _ hm, fun hm => by simpa [nameChar] using h _ hm⟩

theorem litOK_spec {s : Str} (h : litOK s = true) :
    s ≠ [] ∧ '/' ∉ s ∧ '{' ∉ s := by
  unfold litOK at h
  simp only [Bool.and_eq_true, Bool.not_eq_true', List.all_eq_true] at h
  refine ⟨?_, ?_, ?_⟩
  · intro hs; subst hs; simp at h
  · intro hm; have := h.2 _ hm; simp [litChar] at this
  · intro hm; have := h.2 _ hm; simp [litChar] at this

theorem trimSpace_name {n : Str} (h : nameOK n = true) : trimSpace n = n :=
  trim_id_of_not_mem (nameOK_not_mem h).2

theorem parseTok_lit {s : Str} (h : litOK s = true) : parseTok s = some (.lit s) := by
  obtain ⟨hne, _, hb⟩ := litOK_spec h
  unfold parseTok
  cases s with
  | nil => exact absurd rfl hne
  | cons c cs =>
    have hc : c ≠ '{' := fun hc => hb (by simp [hc])
    have : hasPrefix ['{'] (c :: cs) = false := by
      simp [hasPrefix, List.isPrefixOf, hc.symm]
    simp [this]

theorem parseTok_var {n : Str} (h : nameOK n = true) :
    parseTok ('{' :: n ++ ['}']) = some (.var n) := by
  have hc := (nameOK_not_mem h).1
  unfold parseTok
  have hp : hasPrefix ['{'] ('{' :: n ++ ['}']) = true := by simp [hasPrefix, List.isPrefixOf]
  have hi : index ':' ('{' :: n ++ ['}']) = none := by
    unfold index
    apply List.idxOf?_eq_none_iff.mpr
    simp [hc]
  have hs : slice? ('{' :: n ++ ['}']) 1 ((('{' :: n ++ ['}']).length : Int) - 1) = some n := by
    rw [slice?_eq_some ('{' :: n ++ ['}']) (i := 1) 1 (n.length + 1) (by omega) (by simp) (by omega) (by simp)]
    simp
  rw [if_pos hp, hi]
  simp only [hs, trimSpace_name h]

theorem parseTok_colon {n e : Str} (h : nameOK n = true) (he : e.head? ≠ some ' ') (he' : e.getLast? ≠ some ' ') :
    parseTok ('{' :: n ++ ':' :: e ++ ['}']) =
      if e = ['*'] then some (.wild n) else some (.re n e) := by
  have hc := (nameOK_not_mem h).1
  unfold parseTok
  have hp : hasPrefix ['{'] ('{' :: n ++ ':' :: e ++ ['}']) = true := by simp [hasPrefix, List.isPrefixOf]
  have hi : index ':' ('{' :: n ++ ':' :: e ++ ['}']) = some (n.length + 1) := by
    unfold index
    have : '{' :: n ++ ':' :: e ++ ['}'] = ('{' :: n) ++ ':' :: (e ++ ['}']) := by simp
    rw [this, idxOf?_append_cons (by simp [hc])]
    simp
  have hs1 : slice? ('{' :: n ++ ':' :: e ++ ['}']) 1 ((n.length + 1 : Nat) : Int) = some n := by
    rw [slice?_eq_some ('{' :: n ++ ':' :: e ++ ['}']) (i := 1) 1 (n.length + 1) (by omega) rfl (by omega) (by simp)]
    simp
  have hs2 : slice? ('{' :: n ++ ':' :: e ++ ['}']) ((n.length + 1 + 1 : Nat) : Int)
      ((('{' :: n ++ ':' :: e ++ ['}']).length : Int) - 1) = some e := by
    rw [slice?_eq_some ('{' :: n ++ ':' :: e ++ ['}']) (n.length + 2) (n.length + e.length + 2) rfl (by simp; omega) (by omega) (by simp; omega)]
    have : '{' :: n ++ ':' :: e ++ ['}'] = ('{' :: n ++ [':']) ++ (e ++ ['}']) := by simp
    rw [this, List.drop_left' (by simp)]
    simp
  rw [if_pos hp, hi]
  simp only [hs1, hs2, trimSpace_name h]
  have : trimSpace e = e := trim_id he he'
  rw [this]

theorem reOK_spec {e : Str} (h : reOK e = true) :
    e ≠ ['*'] ∧ e.head? ≠ some ' ' ∧ e.getLast? ≠ some ' ' := by
  unfold reOK at h
  simp only [Bool.and_eq_true, bne_iff_ne, ne_eq] at h
  exact ⟨h.1.1.1.1, h.1.2, h.2⟩

theorem parseTok_render {t : TTok} (hw : t.wf = true) (hj : Spec.tokJsrOK t = true) :
    parseTok t.render = some (ofTTok t) ∧ t.render.isEmpty = false := by
  obtain ⟨base, verb⟩ := t
  unfold Spec.tokJsrOK at hj
  simp only [Bool.and_eq_true, Option.isNone_iff_eq_none] at hj
  obtain ⟨hv, hb⟩ := hj
  subst hv
  unfold TTok.wf at hw
  simp only [Bool.and_true] at hw
  simp only [TTok.render, ofTTok]
  cases base with
  | lit s =>
    simp only [Tok.wf] at hw
    refine ⟨parseTok_lit hw, ?_⟩
    have := (litOK_spec hw).1
    cases s <;> simp_all [Tok.render]
  | var n =>
    simp only [Tok.wf] at hw
    exact ⟨parseTok_var hw, by simp [Tok.render]⟩
  | re n e =>
    simp only [Tok.wf, Bool.and_eq_true] at hw
    obtain ⟨h1, h2, h3⟩ := reOK_spec hw.2
    refine ⟨?_, by simp [Tok.render]⟩
    have := parseTok_colon (e := e) hw.1 h2 h3
    rw [if_neg h1] at this
    exact this
  | suf n s => simp at hb
  | wild n =>
    simp only [Tok.wf] at hw
    refine ⟨?_, by simp [Tok.render]⟩
    have := parseTok_colon (e := ['*']) hw (by decide) (by decide)
    simpa [Tok.render, ofTok] using this

theorem parseToks_filter : ∀ (l : List Str), parseToks l = parseToks (l.filter (fun t => !t.isEmpty))
  | [] => rfl
  | t :: ts => by
    by_cases h : t.isEmpty = true
    · rw [List.filter_cons_of_neg (by simp [h])]
      rw [parseToks.eq_2, if_pos h]
      exact parseToks_filter ts
    · rw [List.filter_cons_of_pos (by simp [h])]
      rw [parseToks.eq_2, parseToks.eq_2, if_neg h, if_neg h, parseToks_filter ts]

theorem parseToks_render : ∀ (a : List TTok), (∀ t ∈ a, t.wf = true) → (∀ t ∈ a, Spec.tokJsrOK t = true) →
    parseToks (a.map TTok.render) = some (a.map ofTTok)
  | [], _, _ => rfl
  | t :: ts, hw, hj => by
    have ⟨h1, h2⟩ := parseTok_render (hw t List.mem_cons_self) (hj t List.mem_cons_self)
    have ih := parseToks_render ts (fun x hx => hw x (List.mem_cons_of_mem _ hx))
      (fun x hx => hj x (List.mem_cons_of_mem _ hx))
    simp only [List.map_cons]
    rw [parseToks.eq_2, if_neg (by simp [h2]), h1, ih]

theorem varNameOf_ofTTok (t : TTok) : varNameOf (ofTTok t) = t.base.name? := by
  obtain ⟨base, verb⟩ := t
  cases base <;> simp [ofTTok, ofTok, varNameOf, Tok.name?]

theorem filterMap_varNameOf : ∀ (a : List TTok), (a.map ofTTok).filterMap varNameOf = varNames a
  | [] => rfl
  | t :: ts => by
    have ih := filterMap_varNameOf ts
    have h := varNameOf_ofTTok t
    unfold varNames at ih ⊢
    simp only [List.map_cons, List.filterMap_cons, h, ih]

theorem compile_of_readToks {p : Str} {a : List TTok} {ex : Expr}
    (hr : readToks (Spec.nonEmptyToks p) = some a) (hj : ∀ t ∈ a, Spec.tokJsrOK t = true)
    (hc : compile p = some ex) : ex.toks = a.map ofTTok ∧ ex.varNames = varNames a := by
  have ⟨hrender, hwf⟩ := readToks_render hr
  unfold compile at hc
  rw [parseToks_filter] at hc
  have : (tokenize p).filter (fun t => !t.isEmpty) = a.map TTok.render := by
    rw [hrender]; rfl
  rw [this, parseToks_render a hwf hj] at hc
  simp only [Option.map_some, Option.some.injEq] at hc
  subst hc
  exact ⟨rfl, filterMap_varNameOf a⟩

end Jsr
end Restful
