/- route.go `Route.matchesAccept` = `matchesAccept`, `Route.matchesContentType` = `matchesContentType`; the `for {}`
   loops end within their fuel (TieImpLoop). -/
import Restful.Lemmas.TieImp
import Restful.Model.Detect
import Restful.Lemmas.TieImpLoop
import Restful.Lemmas.TieImpTactic
namespace Restful
namespace TieImp
namespace T5
open Imp

set_option linter.unusedSimpArgs false  -- see TieImpTactic

open Lean.Parser.Tactic in
/-- one iteration of the translated loop body on a text whose cut positions (first comma, first semicolon)
    are given by the extra facts: the cuts are computed, the inner loop becomes `List.any`, and what is left
    are `if`s over the same Boolean tests on both sides -/
local macro "imp_step" "[" ts:simpLemma,* "]" : tactic =>
  `(tactic| (
    simp only [String.reduceToList, $ts,*, beq_self_eq_true, bne_self_eq_false, natCast_beq_neg_one,
      natCast_bne_neg_one, sliceTo_append, sliceFrom_append_cons, if_true, Bool.false_eq_true, if_false,
      Option.pure_def, Option.bind_eq_bind, Option.bind_some, any_loop, starStar, len_beq_zero',
      List.isEmpty_nil]
    -- by cases on the inner loop's answer; the tests that remain are the same on both sides
    generalize List.any _ _ = b
    cases b <;> simp only [Bool.false_eq_true, if_false, if_true, Bool.or_false, Bool.or_true, ite_self] <;>
      (repeat' split) <;> simp_all))

theorem matches_accept (X : ImpGen.Ext) (r : Route) (accept : Str) :
    ImpGen.Route_matchesAccept X accept r.produces = some (matchesAccept r accept) := by
  unfold ImpGen.Route_matchesAccept matchesAccept
  unfold_gen_helpers
  -- literals as characters at no cost: `simp` would evaluate `"…".toList` (UTF-8 decoding) at every test
  repeat rw [String.toList_ofList]
  rw [acceptLoop_eq]
  apply fuel_loop_once (fun mt => mt == starStar || r.produces.any fun p => p == starStar || p == mt)
  case main => exact fun hloop => hloop _ _ (by simp [range, len])
  case hk => intro b s'; rfl
  case h1 =>
    intro x s hs
    rcases cut_cases ';' s with ⟨l, r, rfl, hl⟩ | hs'
    · imp_step [index_of_not_mem hs, index_of_mem hl, mediaOf_append_cons hl]
    · imp_step [index_of_not_mem hs, index_of_not_mem hs', mediaOf_of_not_mem hs']
  case h2 =>
    intro x s t hs
    rcases cut_cases ';' s with ⟨l, r, rfl, hl⟩ | hs'
    · imp_step [index_of_mem hs, index_of_mem hl, mediaOf_append_cons hl]
    · imp_step [index_of_mem hs, index_of_not_mem hs', mediaOf_of_not_mem hs']

theorem matches_content_type (X : ImpGen.Ext) (r : Route) (ct : Str) :
    ImpGen.Route_matchesContentType X ct r.consumes r.method r.noct = some (matchesContentType r ct) := by
  unfold ImpGen.Route_matchesContentType matchesContentType mimeOctet
  unfold_gen_helpers
  repeat rw [String.toList_ofList]
  apply fuel_loop_once (fun mt => r.consumes.any fun p => p == starStar || p == mt)
  case main =>
    intro hloop
    have hfuel (s t : Str) : s.length < (range 0 (len s + len t + 1)).length := by
      simp [range, len]; omega
    dsimp only
    repeat rw [hloop _ _ (hfuel _ _)]
    simp only [consumeLoop_eq, len_beq_zero']
    cases hc : r.consumes.isEmpty
    · cases hm : ct.isEmpty
      · rfl
      · simp only [if_true, Bool.false_eq_true, if_false, len_pos', Option.pure_def, any_loop, List.any_beq,
          Option.bind_eq_bind, Option.bind_some]
        cases hn : r.noct.isEmpty
        · cases ha : r.noct.contains r.method <;> rfl
        · -- the default methods: a chain of `==` or a loop over a slice literal — both sides become the chain
          have hi : idempotentMethods.contains r.method =
              (r.method == "GET".toList || (r.method == "HEAD".toList || (r.method == "OPTIONS".toList ||
                (r.method == "DELETE".toList || r.method == "TRACE".toList)))) := by
            simp only [idempotentMethods, List.map_cons, List.map_nil, List.contains_cons, List.contains_nil,
              Bool.or_false, Bool.or_assoc]
          rw [hi]
          repeat rw [String.toList_ofList]
          try simp only [Bool.not_true, Bool.false_eq_true, if_false, if_true, List.contains_cons, List.contains_nil,
            Bool.or_false, Bool.or_assoc]
          generalize (r.method == _ || _) = b
          cases b <;> rfl
    · rfl
  case hk => intro b s'; rfl
  case h1 =>
    intro x s hs
    rcases cut_cases ';' s with ⟨l, r, rfl, hl⟩ | hs'
    · imp_step [index_of_not_mem hs, index_of_mem hl, mediaOf_append_cons hl]
    · imp_step [index_of_not_mem hs, index_of_not_mem hs', mediaOf_of_not_mem hs']
  case h2 =>
    intro x s t hs
    rcases cut_cases ';' s with ⟨l, r, rfl, hl⟩ | hs'
    · imp_step [index_of_mem hs, index_of_mem hl, mediaOf_append_cons hl]
    · imp_step [index_of_mem hs, index_of_not_mem hs', mediaOf_of_not_mem hs']

end T5
end TieImp
end Restful
