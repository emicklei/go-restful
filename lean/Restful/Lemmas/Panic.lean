/-
Lemmas for C10 (panic handling in the serve model) and, at the end, for C13.

* `raised`: the panic a request raises — a function of routing, the filter kinds and the scripts
  (`Plan`, `planD`, `dispatch_eq`: `dispatch` as "panic before the chain, or one chain with or without
  a compressor"); `serve_escaped`, `serve_recoverCalls`: what leaves the entry point, by `covered`.
* `Sim`: the real run against the run without coding and recovery — the real compressor is open,
  the real status is locked only if the other one is, and what the client will see after decoding
  (`visBody`) is what the other recorder holds.  It holds up to the panic (`runChain_rel`); then the
  recover handler runs on the real side only: `Recovered`, followed through `Close` and the wrappers
  to `serveCore_recovered`.
* bridge to the specification's `panicFromFilter`.
* (C13) `Clean`, `After`, `secondClose`, `serve_after`: no `Write` reaches a compressing writer after
  its `Close`, and a `Close` is refused exactly when `ServeHTTP`'s deferred `Close` follows `dispatch`'s.
-/
import Restful.Lemmas.Chain
namespace Restful
open Str
namespace Serve.Panic
open Enc (Stable ChainOk CfgOk)

/-- a relation between two recorders preserved by each writer operation (the bytes may differ:
    the two runs need not see the same wrappers) -/
structure ActStable (R : Rec → Rec → Prop) : Prop where
  write : ∀ r r' b b', R r r' → R (baseWrite r b) (baseWrite r' b')
  writeHeader : ∀ r r' c, R r r' → R (baseWriteHeader r c) (baseWriteHeader r' c)
  addHeader : ∀ r r' k v, R r r' → R (addHeader r k v) (addHeader r' k v)

structure ActStableEq (R : Rec → Rec → Prop) : Prop where
  write : ∀ r r' b, R r r' → R (baseWrite r b) (baseWrite r' b)
  writeHeader : ∀ r r' c, R r r' → R (baseWriteHeader r c) (baseWriteHeader r' c)
  addHeader : ∀ r r' k v, R r r' → R (addHeader r k v) (addHeader r' k v)

theorem ActStableEq.stable {R : Rec → Rec → Prop} (h : ActStableEq R) : Stable R (fun _ => True) :=
  ⟨fun b hr => h.write _ _ b hr, fun c hr => h.writeHeader _ _ c hr, fun k v _ hr => h.addHeader _ _ k v hr⟩

theorem ActStable.stable {R : Rec → Rec → Prop} (h : ActStable R) : Stable R (fun _ => True) :=
  ⟨fun b hr => h.write _ _ b b hr, fun c hr => h.writeHeader _ _ c hr, fun k v _ hr => h.addHeader _ _ k v hr⟩

theorem lockStatus_getD (r : Rec) : (lockStatus r 200).status.getD 200 = r.status.getD 200 := by
  cases h : r.status with
  | none => simp [lockStatus_of_none h]
  | some d => simp [lockStatus_of_some h]

def Open (r : Rec) : Prop := ∀ c, r.comp = some c → c.closed = false

/-- an open writer takes every `Write`: the status is locked and the bytes go to the recorder or, when
    there is a compressing writer, to it -/
theorem baseWrite_of_open {r : Rec} (h : Open r) (b : Str) :
    (r.comp = none ∧ baseWrite r b = { lockStatus r 200 with body := r.body ++ b }) ∨
      ∃ c, r.comp = some c ∧ c.closed = false ∧
        baseWrite r b = { lockStatus r 200 with comp := some { c with payload := c.payload ++ b } } := by
  cases hc : r.comp with
  | none => exact .inl ⟨rfl, baseWrite_none hc b⟩
  | some c => exact .inr ⟨c, rfl, h c hc, baseWrite_open hc (h c hc) b⟩

theorem open_baseWrite {r : Rec} (b : Str) (h : Open r) : Open (baseWrite r b) := by
  intro c0 h0
  rcases baseWrite_of_open h b with ⟨hc, e⟩ | ⟨c, _, hcl, e⟩ <;> rw [e] at h0
  · rw [lockStatus_comp, hc] at h0; cases h0
  · cases h0; exact hcl

theorem baseWrite_status_of_open {r : Rec} (b : Str) (h : Open r) : (baseWrite r b).status = (lockStatus r 200).status := by
  rcases baseWrite_of_open h b with ⟨_, e⟩ | ⟨_, _, _, e⟩ <;> rw [e]

theorem baseWrite_status_of_some {r : Rec} (b : Str) {d : Nat} (h : r.status = some d) : (baseWrite r b).status = some d := by
  unfold baseWrite
  cases hc : r.comp with
  | none => exact lockStatus_of_some h
  | some c0 =>
    by_cases hcl : c0.closed = true
    · simp [hcl, h]
    · simp only [hcl]
      exact lockStatus_of_some h

theorem status_stable (d : Nat) : ActStable (fun r _ => r.status = some d) :=
  ⟨fun _ _ b _ h => baseWrite_status_of_some b h, fun _ _ _ h => lockStatus_of_some h, fun _ _ _ _ h => h⟩

/-- the body as the client sees it after decoding: the bytes handed to the compressing writer when
    there is one, the recorder's bytes otherwise (what `Spec.obsOf` calls `body`) -/
def visBody (r : Rec) : Str :=
  match r.comp with
  | none => r.body
  | some c => c.payload

theorem obsOf_body (r : Result) : (Spec.obsOf r).body = visBody r.rc := rfl

theorem visBody_lockStatus (r : Rec) (c : Nat) : visBody (lockStatus r c) = visBody r := by
  unfold lockStatus; split <;> rfl

theorem open_lockStatus {r : Rec} (c : Nat) (h : Open r) : Open (lockStatus r c) := by
  intro c0
  rw [lockStatus_comp]
  exact h c0

theorem visBody_baseWrite {r : Rec} (b : Str) (h : Open r) : visBody (baseWrite r b) = visBody r ++ b := by
  rcases baseWrite_of_open h b with ⟨hc, e⟩ | ⟨c, hc, _, e⟩
  · rw [e]
    simp [visBody, hc]
  · rw [e]
    simp [visBody, hc]

/-- the real run `r` against the run without coding `r'`: the real compressor is not closed, the
    other run has none, the real status is locked only if the other one is, and the client of the
    real run will see (after decoding) exactly the bytes the other run's recorder holds -/
def Sim (r r' : Rec) : Prop :=
  Open r ∧ r'.comp = none ∧ (r'.status = none → r.status = none) ∧ visBody r = r'.body

theorem sim_stable : ActStableEq Sim := by
  refine ⟨?_, ?_, ?_⟩
  · rintro r r' b ⟨ho, hn, _, hb⟩
    refine ⟨open_baseWrite b ho, ?_, ?_, ?_⟩
    · simp [baseWrite_none hn, hn]
    · intro h'
      rw [baseWrite_none hn] at h'
      exact absurd h' (lockStatus_ne_none _ _)
    · rw [visBody_baseWrite b ho, hb, baseWrite_none hn]
  · rintro r r' c ⟨ho, hn, _, hb⟩
    refine ⟨open_lockStatus c ho, ?_, fun h' => absurd h' (lockStatus_ne_none _ _), ?_⟩
    · rw [baseWriteHeader, lockStatus_comp]
      exact hn
    · rw [baseWriteHeader, baseWriteHeader, visBody_lockStatus, lockStatus_body]
      exact hb
  · rintro r r' k v h
    exact h

theorem open_stable : ActStableEq (fun r _ => Open r) :=
  ⟨fun _ _ b h => open_baseWrite b h, fun _ _ c h => open_lockStatus c h, fun _ _ _ _ h => h⟩

theorem runActs_status_some {d : Nat} (as : List Act) (cx : Ctx) (s : St) (h : s.rc.status = some d) :
    (runActs as cx s).2.1.rc.status = some d :=
  (runActs_rel (status_stable d).stable as cx (s₂ := s) (Enc.ScriptOk.of_all (fun _ => trivial) as) h).2

theorem runActs_visBody (sc : List Act) (cx : Ctx) (s : St) (hw : cx.wrappers = []) (ho : Open s.rc) :
    visBody (runActs sc cx s).2.1.rc = visBody s.rc ++ Spec.scriptWrites sc := by
  induction sc generalizing cx s with
  | nil => simp [runActs, Spec.scriptWrites]
  | cons a as ih =>
    cases a with
    | write b =>
      simp only [runActs, Spec.scriptWrites]
      rw [ih cx _ hw (open_baseWrite _ ho)]
      simp only [hw, throughWrappers, List.foldl_nil]
      rw [visBody_baseWrite b ho, List.append_assoc]
    | writeHeader c =>
      simp only [runActs, Spec.scriptWrites]
      rw [ih cx _ hw (open_lockStatus c ho)]
      simp only [baseWriteHeader, visBody_lockStatus]
    | addHeader k v =>
      simp only [runActs, Spec.scriptWrites]
      rw [ih cx { s with rc := addHeader s.rc k v } hw ho]
      rfl
    | setAttr k v =>
      simp only [runActs, Spec.scriptWrites]
      exact ih _ s hw ho
    | panic v => simp [runActs, Spec.scriptWrites]

/-- the status a script produces on an unlocked, unclosed writer: its first `writeHeader`, or 200 -/
def scriptStatus (sc : List Act) : Nat :=
  match sc.find? (fun a => match a with | .writeHeader _ => true | .write _ => true | _ => false) with
  | some (.writeHeader c) => c
  | _ => 200

theorem recoverStatus_eq (cfg : Cfg) :
    Spec.recoverStatus cfg = (match cfg.recoverScript with
      | none => 500
      | some sc => scriptStatus sc) := by
  unfold Spec.recoverStatus scriptStatus
  cases cfg.recoverScript <;> rfl

/-- the script panics before its first `write`/`writeHeader` -/
def panicsBeforeWrite : List Act → Bool
  | [] => false
  | .panic _ :: _ => true
  | .write _ :: _ => false
  | .writeHeader _ :: _ => false
  | _ :: as => panicsBeforeWrite as

theorem runActs_scriptStatus (sc : List Act) (cx : Ctx) (s : St) (hs : s.rc.status = none) (ho : Open s.rc)
    (hp : panicsBeforeWrite sc = false) : (runActs sc cx s).2.1.rc.status.getD 200 = scriptStatus sc := by
  induction sc generalizing cx s with
  | nil => simp [runActs, hs, scriptStatus]
  | cons a as ih =>
    cases a with
    | write b =>
      have h1 : (baseWrite s.rc (throughWrappers cx.wrappers b)).status = some 200 := by
        rw [baseWrite_status_of_open _ ho]
        exact lockStatus_of_none hs
      simp only [runActs]
      rw [runActs_status_some as cx _ h1]
      simp [scriptStatus]
    | writeHeader c =>
      have h1 : (baseWriteHeader s.rc c).status = some c := lockStatus_of_none hs
      simp only [runActs]
      rw [runActs_status_some as cx _ h1]
      simp [scriptStatus]
    | addHeader k v =>
      simp only [runActs]
      rw [ih cx { s with rc := addHeader s.rc k v } hs ho hp]
      simp [scriptStatus]
    | setAttr k v =>
      simp only [runActs]
      rw [ih _ s hs ho hp]
      simp [scriptStatus]
    | panic v => simp [panicsBeforeWrite] at hp

end Serve.Panic

namespace Spec
open Serve Serve.Panic

/-- the custom recover handler itself panics before it wrote anything (the model drops a panic of the
    recover handler; `recoverStatus` looks past it) -/
def recoverPanicsEarly (cfg : Cfg) : Bool :=
  match cfg.recoverScript with
  | none => false
  | some sc => panicsBeforeWrite sc

end Spec

namespace Serve.Panic

theorem runRecover_status (cfg : Cfg) (s : St) (hs : s.rc.status = none) (ho : Open s.rc)
    (he : Spec.recoverPanicsEarly cfg = false) :
    (runRecover cfg s).rc.status.getD 200 = Spec.recoverStatus cfg := by
  rw [recoverStatus_eq]
  unfold runRecover
  unfold Spec.recoverPanicsEarly at he
  cases hsc : cfg.recoverScript with
  | none =>
    have h1 : (baseWriteHeader s.rc 500).status = some 500 := lockStatus_of_none hs
    simp [baseWrite_status_of_some _ h1]
  | some sc =>
    rw [hsc] at he
    exact runActs_scriptStatus sc {} _ hs ho he

/-- what the recover handler writes: the script's writes, or the library's stack text -/
def recoverWrites (cfg : Cfg) : Str :=
  match cfg.recoverScript with
  | some sc => Spec.scriptWrites sc
  | none => "<stack>".toList

theorem stack_ne_nil : "<stack>".toList ≠ [] := by decide

theorem runRecover_visBody (cfg : Cfg) (s : St) (ho : Open s.rc) :
    visBody (runRecover cfg s).rc = visBody s.rc ++ recoverWrites cfg := by
  unfold runRecover recoverWrites
  cases hsc : cfg.recoverScript with
  | none =>
    simp only []
    have ho' : Open (baseWriteHeader s.rc 500) := open_lockStatus 500 ho
    rw [visBody_baseWrite _ ho', baseWriteHeader, visBody_lockStatus]
  | some sc => exact runActs_visBody sc {} _ rfl ho

/-- what a recovered panic leaves in the real recorder `r`, against the recorder `r'` of the run
    without coding and recovery when the panic was raised: the client sees (decoded) what had been
    written followed by what the recover handler writes, and if nothing had been written the
    recover handler's status -/
def Recovered (cfg : Cfg) (r r' : Rec) : Prop :=
  visBody r = r'.body ++ recoverWrites cfg ∧
    (Spec.recoverPanicsEarly cfg = false → r'.status = none → r.status.getD 200 = Spec.recoverStatus cfg)

theorem runRecover_recovered (cfg : Cfg) {s : St} {r' : Rec} (h : Sim s.rc r') : Recovered cfg (runRecover cfg s).rc r' :=
  ⟨by rw [runRecover_visBody cfg s h.1, h.2.2.2], fun he hs => runRecover_status cfg s (h.2.2.1 hs) h.1 he⟩

theorem Recovered.closeComp {cfg : Cfg} {s : St} {r' : Rec} (h : Recovered cfg s.rc r') :
    Recovered cfg (closeComp s).rc r' := by
  rcases closeComp_cases s with ⟨_, e⟩ | ⟨_, _, _, e⟩ | ⟨c, hc, _, e⟩
  · rw [e]
    exact h
  · rw [e]
    exact h
  · rw [e]
    refine ⟨?_, fun he hs => ?_⟩
    · rw [← h.1]
      simp [visBody, hc]
    · rw [← h.2 he hs]
      exact lockStatus_getD _

/-- `Close` in the run without coding changes neither the body nor an open status -/
theorem Recovered.closeRight {cfg : Cfg} {r : Rec} {s' : St} (h : Recovered cfg r s'.rc) :
    Recovered cfg r (Serve.closeComp s').rc := by
  rcases closeComp_cases s' with ⟨_, e⟩ | ⟨_, _, _, e⟩ | ⟨_, _, _, e⟩
  · rw [e]
    exact h
  · rw [e]
    exact h
  · rw [e]
    exact ⟨by simpa using h.1, fun _ hs => absurd hs (lockStatus_ne_none _ _)⟩

/-- a request state nothing has been written to: status open, compressor (if any) not closed,
    nothing for the client to see yet -/
def Fresh (s : St) : Prop := s.rc.status = none ∧ Open s.rc ∧ visBody s.rc = []

theorem fresh_initial (sr : SReq) : Fresh (initial sr) := ⟨rfl, fun _ h => (nomatch h), rfl⟩

theorem fresh_install {s : St} (c : Coding) (h : Fresh s) : Fresh (install s c) := by
  refine ⟨h.1, ?_, rfl⟩
  intro c0 h0
  cases h0
  rfl

theorem fresh_maybeInstall {s : St} (b : Bool) (ae : Str) (h : Fresh s) : Fresh (maybeInstall b s ae) := by
  rcases maybeInstall_cases b s ae with h' | ⟨c, _, _, _, h'⟩ <;> rw [h']
  · exact h
  · exact fresh_install c h

theorem Fresh.sim {s s' : St} (h : Fresh s) (hc : s'.rc.comp = none) (hb : s'.rc.body = []) : Sim s.rc s'.rc :=
  ⟨h.2.1, hc, fun _ => h.1, by rw [h.2.2, hb]⟩

/-- what leaves a chain besides the state: where a panic is recovered nothing escapes and the recover
    handler is called once iff there was a panic; elsewhere the panic value is handed on unchanged -/
def outcome (recovered : Bool) (raised : Option Str) : Option Str × Nat :=
  if recovered then (none, if raised.isSome then 1 else 0) else (raised, 0)

theorem finishDispatch_snd (cfg : Cfg) (s : St) (p : Option Str) :
    (finishDispatch cfg s p).2 = outcome cfg.recover p := by
  unfold finishDispatch outcome
  cases p <;> cases cfg.recover <;> rfl

theorem finishDispatch_recovered (cfg cfg' : Cfg) {s s' : St} (v : Str) (p' : Option Str)
    (hr : cfg.recover = true) (hr' : cfg'.recover = false) (h : Sim s.rc s'.rc) :
    Recovered cfg (finishDispatch cfg s (some v)).1.rc (finishDispatch cfg' s' p').1.rc := by
  have e : (finishDispatch cfg' s' p').1 = closeComp s' := by
    unfold finishDispatch
    cases p' <;> simp [hr']
  rw [e]
  simp only [finishDispatch, hr, if_true]
  exact (runRecover_recovered cfg h).closeComp.closeRight

/-- what `dispatch` is going to do with a request: a panic before any chain is built (If-condition,
    router), or one chain run with (`enc = true`) or without the attempt to install a compressor -/
inductive Plan where
  | early (v : Str)
  | chain (fs : List (Stage × Filter)) (t : Target) (cx : Ctx) (enc : Bool)

def planD (E : ReEnv) (cfg : Cfg) (sr : SReq) : Plan :=
  match sr.condPanic with
  | some v => .early v
  | none =>
    match routeTagged E cfg.routing sr.req with
    | (.panic w, _) => .early w.toList
    | (.error code allow, tag) =>
      .chain (label .cfilter cfg.cfilters) ⟨.errorWriter, errorScript code allow (errMsg E cfg sr code tag)⟩ {} false
    | (.selected svc rid ps, _) =>
      .chain (allFilters cfg svc rid) ⟨.handler rid, (routeX cfg rid).script⟩
        { params := ps, selPath :=
            match (cfg.routing.services.flatMap (·.built)).find? (fun r => r.id == rid && r.svc == svc) with
            | some r => r.path
            | none => [] }
        (match (routeX cfg rid).enc with
          | some b => b
          | none => cfg.encoding)

def runPlan (cfg : Cfg) (sr : SReq) (s0 : St) : Plan → St × Option Str × Nat
  | .early v => finishDispatch cfg s0 (some v)
  | .chain fs t cx enc =>
    finishDispatch cfg (runChain fs t cx (maybeInstall enc s0 sr.acceptEncoding)).2.1
      (runChain fs t cx (maybeInstall enc s0 sr.acceptEncoding)).2.2

theorem dispatch_eq (E : ReEnv) (cfg : Cfg) (sr : SReq) (s0 : St) :
    dispatch E cfg sr s0 = runPlan cfg sr s0 (planD E cfg sr) := by
  unfold dispatch planD
  cases sr.condPanic with
  | some v => rfl
  | none =>
    simp only []
    generalize routeTagged E cfg.routing sr.req = o
    obtain ⟨o, tag⟩ := o
    cases o <;> rfl

/-- the panic a routed request raises -/
def Plan.raised : Plan → Option Str
  | .early v => some v
  | .chain fs t _ _ => chainPanic fs t.script

/-- the same plan with the compressor switched off -/
def Plan.raw : Plan → Plan
  | .early v => .early v
  | .chain fs t cx _ => .chain fs t cx false

theorem planD_raw (E : ReEnv) (cfg : Cfg) (sr : SReq) : planD E (rawCfg cfg) (plainReq sr) = (planD E cfg sr).raw := by
  simp only [planD, Spec.noCoding]
  cases sr.condPanic with
  | some v => rfl
  | none =>
    simp only []
    generalize routeTagged E cfg.routing sr.req = o
    obtain ⟨o, tag⟩ := o
    cases o with
    | panic w => rfl
    | error code allow => rfl
    | selected svc rid ps =>
      have h1 : routeX (rawCfg cfg) rid = { routeX cfg rid with enc := none } := routeX_noCoding cfg rid
      simp only [Plan.raw, h1]
      exact congrArg (Plan.chain · _ _ _) (allFilters_noCoding cfg svc rid)

theorem Plan.raised_raw (pl : Plan) : pl.raw.raised = pl.raised := by cases pl <;> rfl

theorem handleWrapper_snd {cfg : Cfg} {sr : SReq} {body : St → St × Option Str × Nat} {X : Option Str × Nat}
    (h : ∀ s, (body s).2 = X) (s0 : St) : (handleWrapper cfg sr s0 body).2 = X := by
  unfold handleWrapper
  split
  · exact h s0
  · exact h _

theorem serveWrapper_snd {cfg : Cfg} {sr : SReq} {inner : St → St × Option Str × Nat} {X : Option Str × Nat}
    (h : ∀ s, (inner s).2 = X) (s0 : St) : (serveWrapper cfg sr s0 inner).2 = X := by
  rcases serveWrapper_cases cfg sr s0 inner with h' | ⟨s1, _, _, _, h'⟩
  · rw [h']
    exact h _
  · rw [h']
    exact h _

theorem plainBody_snd (cfg : Cfg) (s : St) : (plainBody cfg s).2 = outcome false (firstPanic cfg.plainScript) := by
  show ((runStage (.plain 0) false cfg.plainScript {} s).2.2, 0) = _
  rw [runStage_panic]
  rfl

theorem plainFilteredBody_snd (cfg : Cfg) (s : St) :
    (plainFilteredBody cfg s).2 =
      outcome (!cfg.cfilters.isEmpty && cfg.recover) (chainPanic (label .cfilter cfg.cfilters) cfg.plainScript) := by
  cases hne : cfg.cfilters.isEmpty with
  | true =>
    rw [plainFilteredBody_nil cfg s hne, plainBody_snd, List.isEmpty_iff.mp hne]
    rfl
  | false =>
    rw [plainFilteredBody_eq cfg s hne]
    unfold outcome
    cases chainPanic (label .cfilter cfg.cfilters) cfg.plainScript <;> cases cfg.recover <;> rfl

theorem plainFilteredBody_recovered (cfg : Cfg) (s s' : St)
    (hr : cfg.recover = true) (hne : cfg.cfilters.isEmpty = false)
    (h0 : Fresh s) (h0' : s'.rc.comp = none) (hb' : s'.rc.body = [])
    (hp : (chainPanic (label .cfilter cfg.cfilters) cfg.plainScript).isSome = true) :
    Recovered cfg (plainFilteredBody cfg s).1.rc (plainFilteredBody (rawCfg cfg) s').1.rc := by
  obtain ⟨v, hv⟩ := Option.isSome_iff_exists.mp hp
  have hv' : chainPanic (label .cfilter (rawCfg cfg).cfilters) (rawCfg cfg).plainScript = some v := hv
  rw [plainFilteredBody_eq (rawCfg cfg) _ hne, hv', plainFilteredBody_eq _ _ hne, hv]
  simp only [hr, if_true, Bool.false_eq_true, if_false]
  exact runRecover_recovered cfg
    (runChain_rel sim_stable.stable _ ⟨.plain 0, cfg.plainScript⟩ {} (Enc.ChainOk.trivial _ _) (h0.sim h0' hb')).2

theorem handleWrapper_recovered (cfg : Cfg) (sr : SReq) {b b' : St → St × Option Str × Nat} {s0 s0' : St}
    (hb : ∀ s, Fresh s → Recovered cfg (b s).1.rc (b' s0').1.rc) (h0 : Fresh s0) (h0' : s0'.rc.comp = none) :
    Recovered cfg (handleWrapper cfg sr s0 b).1.rc (handleWrapper (rawCfg cfg) (plainReq sr) s0' b').1.rc := by
  rw [handleWrapper_plain _ sr h0']
  unfold handleWrapper
  split
  · exact (hb s0 h0).closeRight
  · exact (hb _ (fresh_maybeInstall _ _ h0)).closeComp.closeRight

theorem serveWrapper_recovered (cfg : Cfg) (sr : SReq) {i i' : St → St × Option Str × Nat} {s0 s0' : St}
    (hi : ∀ s, Fresh s → Recovered cfg (i s).1.rc (i' s0').1.rc) (h0 : Fresh s0) :
    Recovered cfg (serveWrapper cfg sr s0 i).1.rc (serveWrapper (rawCfg cfg) (plainReq sr) s0' i').1.rc := by
  rw [serveWrapper_off (rawCfg cfg) _ _ _ rfl]
  rcases serveWrapper_cases cfg sr s0 i with h | ⟨s1, hs1, _, _, h⟩ <;> rw [h]
  · exact hi s0 h0
  · refine (hi s1 ?_).closeComp
    rcases hs1 with rfl | ⟨c, _, rfl⟩
    · exact h0
    · exact fresh_install c h0

/-- the entry points whose chain goes through `dispatch` -/
def routed : Entry → Bool
  | .dispatch | .serveDispatch => true
  | _ => false

/-- the entry points recovery covers (with recovery on): the chains the framework builds — routed
    requests, and `HandleWithFilter` when there are container filters (container.go:393; without
    filters the handler is called directly, like one registered with `Handle`) -/
def covered (cfg : Cfg) (e : Entry) : Bool :=
  routed e || ((e == .muxHandleF || e == .serveHandleF) && !cfg.cfilters.isEmpty)

@[simp] theorem covered_dispatch (cfg : Cfg) : covered cfg .dispatch = true := rfl
@[simp] theorem covered_serveDispatch (cfg : Cfg) : covered cfg .serveDispatch = true := rfl
@[simp] theorem covered_muxHandle (cfg : Cfg) : covered cfg .muxHandle = false := rfl
@[simp] theorem covered_serveHandle (cfg : Cfg) : covered cfg .serveHandle = false := rfl
@[simp] theorem covered_muxHandleF (cfg : Cfg) : covered cfg .muxHandleF = !cfg.cfilters.isEmpty := by
  simp [covered, routed]
@[simp] theorem covered_serveHandleF (cfg : Cfg) : covered cfg .serveHandleF = !cfg.cfilters.isEmpty := by
  simp [covered, routed]

theorem covered_of_routed {cfg : Cfg} {e : Entry} (h : routed e = true) : covered cfg e = true := by
  simp [covered, h]

/-- the panic a request raises: a function of routing, the filters on its chain and the scripts;
    independent of the writer, of content coding and of the recovery switch -/
def raised (E : ReEnv) (cfg : Cfg) (e : Entry) (sr : SReq) : Option Str :=
  match e with
  | .dispatch | .serveDispatch => (planD E cfg sr).raised
  | .muxHandle | .serveHandle => firstPanic cfg.plainScript
  | .muxHandleF | .serveHandleF => chainPanic (label .cfilter cfg.cfilters) cfg.plainScript

theorem raised_raw (E : ReEnv) (cfg : Cfg) (e : Entry) (sr : SReq) :
    raised E (rawCfg cfg) e (plainReq sr) = raised E cfg e sr := by
  cases e with
  | dispatch | serveDispatch =>
    simp only [raised]
    rw [planD_raw, Plan.raised_raw]
  | _ => rfl

theorem dispatch_snd (E : ReEnv) (cfg : Cfg) (sr : SReq) (s : St) :
    (dispatch E cfg sr s).2 = outcome cfg.recover (planD E cfg sr).raised := by
  rw [dispatch_eq]
  cases planD E cfg sr with
  | early v => exact finishDispatch_snd _ _ _
  | chain fs t cx enc => rw [runPlan, finishDispatch_snd, runChain_panic]; rfl

theorem entryBody_snd (E : ReEnv) (cfg : Cfg) (e : Entry) (sr : SReq) (s : St) :
    (entryBody E cfg e sr s).2 = outcome (covered cfg e && cfg.recover) (raised E cfg e sr) := by
  cases e with
  | dispatch => exact dispatch_snd E cfg sr s
  | serveDispatch => exact serveWrapper_snd (dispatch_snd E cfg sr) s
  | muxHandle => exact handleWrapper_snd (plainBody_snd cfg) s
  | serveHandle => exact serveWrapper_snd (fun s => handleWrapper_snd (plainBody_snd cfg) s) s
  | muxHandleF => exact handleWrapper_snd (plainFilteredBody_snd cfg) s
  | serveHandleF => exact serveWrapper_snd (fun s => handleWrapper_snd (plainFilteredBody_snd cfg) s) s

theorem serve_escaped (E : ReEnv) (cfg : Cfg) (e : Entry) (w : World) (sr : SReq) :
    (serve E cfg e w sr).escaped = if cfg.recover && covered cfg e then none else raised E cfg e sr := by
  rw [serve_eq]
  simp only [entryBody_snd, outcome]
  cases cfg.recover <;> cases covered cfg e <;> rfl

theorem serve_recoverCalls (E : ReEnv) (cfg : Cfg) (e : Entry) (w : World) (sr : SReq) :
    (serve E cfg e w sr).recoverCalls =
      if cfg.recover && covered cfg e then (if (raised E cfg e sr).isSome then 1 else 0) else 0 := by
  rw [serve_eq]
  simp only [entryBody_snd, outcome]
  cases cfg.recover <;> cases covered cfg e <;> rfl

theorem ledger_closed (w : World) (r : Rec) (h : Closed r) :
    (ledger w r).acquired - w.acquired = (ledger w r).released - w.released ∧
      ((ledger w r).acquired = w.acquired + (if r.comp.isSome then 1 else 0)) ∧
      ((ledger w r).released = w.released + (if r.comp.isSome then 1 else 0)) := by
  unfold ledger
  cases hc : r.comp with
  | none => simp
  | some c => simp [h c hc]

theorem dispatch_recovered (E : ReEnv) (cfg : Cfg) (sr : SReq) (s0 : St)
    (hr : cfg.recover = true) (hp : (planD E cfg sr).raised.isSome = true) (h0 : Fresh s0) :
    Recovered cfg (dispatch E cfg sr s0).1.rc (dispatch E (rawCfg cfg) (plainReq sr) (initial (plainReq sr))).1.rc := by
  have hs : Sim s0.rc (initial (plainReq sr)).rc := h0.sim rfl rfl
  rw [dispatch_eq, dispatch_eq E (rawCfg cfg), planD_raw]
  cases hpl : planD E cfg sr with
  | early v => exact finishDispatch_recovered cfg (rawCfg cfg) v _ hr rfl hs
  | chain fs t cx enc =>
    rw [hpl] at hp
    obtain ⟨v, hv⟩ := Option.isSome_iff_exists.mp hp
    simp only [Plan.raised] at hv
    simp only [Plan.raw, runPlan, maybeInstall_false, runChain_panic, hv]
    exact finishDispatch_recovered cfg (rawCfg cfg) v _ hr rfl
      (runChain_rel sim_stable.stable fs t cx (Enc.ChainOk.trivial fs t)
        ((fresh_maybeInstall enc sr.acceptEncoding h0).sim rfl rfl)).2

/-- every covered entry point: after a recovered panic the client sees (decoded) what the run
    without coding and recovery had written when the panic was raised, followed by what the recover
    handler writes; if that run ends with the status still open, the status is the recover handler's -/
theorem serveCore_recovered (E : ReEnv) (cfg : Cfg) (e : Entry) (sr : SReq)
    (hr : cfg.recover = true) (hco : covered cfg e = true) (hp : (raised E cfg e sr).isSome = true) :
    Recovered cfg (serveCore E cfg e sr).1.rc (serveCore E (rawCfg cfg) e (plainReq sr)).1.rc := by
  have h0 := fresh_initial sr
  cases e with
  | dispatch => exact dispatch_recovered E cfg sr _ hr hp h0
  | serveDispatch => exact serveWrapper_recovered cfg sr (fun s hs => dispatch_recovered E cfg sr s hr hp hs) h0
  | muxHandle => simp at hco
  | serveHandle => simp at hco
  | muxHandleF =>
    have hne : cfg.cfilters.isEmpty = false := by simpa using hco
    exact handleWrapper_recovered cfg sr (fun s hs => plainFilteredBody_recovered cfg s _ hr hne hs rfl rfl hp) h0 rfl
  | serveHandleF =>
    have hne : cfg.cfilters.isEmpty = false := by simpa using hco
    exact serveWrapper_recovered cfg sr (fun s hs => handleWrapper_recovered cfg sr
      (fun s hs => plainFilteredBody_recovered cfg s _ hr hne hs rfl rfl hp) hs rfl) h0

theorem c10Body_of_eq (cfg : Cfg) (lib : Bool) (before : Str) (o : Spec.Obs)
    (h : o.body = before ++ recoverWrites cfg) : Spec.c10Body cfg lib before o = true := by
  unfold Spec.c10Body
  unfold recoverWrites at h
  cases hsc : cfg.recoverScript with
  | some sc =>
    rw [hsc] at h
    simp only [h]
    cases lib
    · simp
    · simp [List.suffix_append]
  | none =>
    rw [hsc] at h
    have hpos : 0 < "<stack>".toList.length := List.length_pos_iff.mpr stack_ne_nil
    simp only [h]
    cases lib
    · simp only [Bool.false_eq_true, if_false, Bool.and_eq_true, decide_eq_true_eq, List.length_append]
      exact ⟨List.isPrefixOf_iff_prefix.mpr (List.prefix_append _ _), by omega⟩
    · simp

theorem panicFromFilter_of_chain {fs : List (Stage × Filter)} {t : Target} {cx : Ctx}
    (h : (match Spec.chainLog fs t cx with
      | (evs, _, p) => p && (match evs.getLast? with
        | some ev => (match ev.stage with
          | .cfilter _ => true
          | .sfilter _ => true
          | .rfilter _ => true
          | _ => false)
        | none => false)) = true) : (chainPanic fs t.script).isSome = true := by
  rw [← Chain.chainLog_panic fs t cx]
  revert h
  generalize Spec.chainLog fs t cx = r
  obtain ⟨evs, cx', p⟩ := r
  cases p <;> simp

theorem raised_of_panicFromFilter (E : ReEnv) (cfg : Cfg) (e : Entry) (sr : SReq)
    (h : Spec.panicFromFilter E cfg e sr = true) : (raised E cfg e sr).isSome = true := by
  unfold Spec.panicFromFilter at h
  cases e with
  | dispatch | serveDispatch =>
    unfold Spec.chainOf at h
    simp only [raised, planD]
    cases hc : sr.condPanic with
    | some v => rfl
    | none =>
      simp only [hc, Option.isSome_none, Bool.false_eq_true, if_false] at h
      generalize routeTagged E cfg.routing sr.req = o at h ⊢
      obtain ⟨o, tag⟩ := o
      cases o with
      | panic w => rfl
      | error c a => exact panicFromFilter_of_chain h
      | selected svc rid ps => exact panicFromFilter_of_chain h
  | muxHandle => exact panicFromFilter_of_chain (fs := []) (t := ⟨.plain 0, cfg.plainScript⟩) h
  | serveHandle => exact panicFromFilter_of_chain (fs := []) (t := ⟨.plain 0, cfg.plainScript⟩) h
  | muxHandleF => exact panicFromFilter_of_chain (t := ⟨.plain 0, cfg.plainScript⟩) h
  | serveHandleF => exact panicFromFilter_of_chain (t := ⟨.plain 0, cfg.plainScript⟩) h

/-- a plain handler registered with `Handle` has no filters: its panic is never a filter's -/
theorem panicFromFilter_plain (E : ReEnv) (cfg : Cfg) (e : Entry) (sr : SReq)
    (h : e = .muxHandle ∨ e = .serveHandle) : Spec.panicFromFilter E cfg e sr = false := by
  rcases h with rfl | rfl <;> simp [Spec.panicFromFilter, Spec.chainOf, Spec.chainLog]

/-- everything a result says about the request itself (all but the ledger counters) -/
def answer (r : Result) : Rec × List Event × Option Str × Nat := (r.rc, r.log, r.escaped, r.recoverCalls)

theorem serve_answer (E : ReEnv) (cfg : Cfg) (e : Entry) (w : World) (sr : SReq) :
    answer (serve E cfg e w sr) = answer (serve E cfg e {} sr) := by
  rw [serve_eq, serve_eq]; rfl

theorem serve_balanced (E : ReEnv) (cfg : Cfg) (e : Entry) (w : World) (sr : SReq)
    (hw : w.acquired = w.released) :
    (serve E cfg e w sr).world.acquired = (serve E cfg e w sr).world.released := by
  rw [serve_world]
  have := ledger_closed w _ (serve_closed E cfg e w sr)
  rw [this.2.1, this.2.2, hw]

theorem ledgerOK_serve (E : ReEnv) (cfg : Cfg) (e : Entry) (sr : SReq) :
    ((Spec.obsOf (serve E cfg e {} sr)).acq == (Spec.obsOf (serve E cfg e {} sr)).rel &&
      (Spec.obsOf (serve E cfg e {} sr)).dbl == 0 && (Spec.obsOf (serve E cfg e {} sr)).complete) = true := by
  have hc := serve_closed E cfg e {} sr
  rw [serve_eq] at hc ⊢
  simp only [Spec.obsOf, ledger] at hc ⊢
  cases h : (serveCore E cfg e sr).1.rc.comp with
  | none => rfl
  | some c => simp [hc c h]

/-! ### C13: no use after release, a second `Close` is an error

`Rec.writeAfterClose` counts the `Write` calls that reached a closed compressing writer
(compress.go:41), `Rec.closeErrors` the `Close` calls that found it closed (compress.go:64).  A
compressing writer is released by the `Close` that closes it (compress.go:68-76), so "closed" is
"released".  `Clean`: nothing of the kind has happened and the writer (if any) is still open;
`After n`: the writer (if any) has been closed, no `Write` reached it afterwards, and `n` further
`Close` calls were refused. -/

def Clean (r : Rec) : Prop := Open r ∧ r.writeAfterClose = 0 ∧ r.closeErrors = 0

def After (n : Nat) (r : Rec) : Prop := Closed r ∧ r.writeAfterClose = 0 ∧ r.closeErrors = n

theorem clean_lockStatus {r : Rec} (c : Nat) (h : Clean r) : Clean (lockStatus r c) :=
  ⟨open_lockStatus c h.1, by simpa using h.2.1, by simpa using h.2.2⟩

theorem clean_baseWrite {r : Rec} (b : Str) (h : Clean r) : Clean (baseWrite r b) := by
  refine ⟨open_baseWrite b h.1, ?_⟩
  rcases baseWrite_of_open h.1 b with ⟨_, e⟩ | ⟨_, _, _, e⟩
  · rw [e]
    simpa using h.2
  · rw [e]
    simpa using h.2

theorem clean_stable : ActStable (fun r _ => Clean r) :=
  ⟨fun _ _ b _ h => clean_baseWrite b h, fun _ _ c h => clean_lockStatus c h, fun _ _ _ _ h => h⟩

theorem baseWrite_isSome (r : Rec) (b : Str) : (baseWrite r b).comp.isSome = r.comp.isSome := by
  unfold baseWrite
  cases hc : r.comp with
  | none => simp [hc]
  | some c0 => by_cases hcl : c0.closed = true <;> simp [hcl]

theorem isSome_stable (b : Bool) : ActStable (fun r _ => r.comp.isSome = b) :=
  ⟨fun r _ x _ h => by rw [baseWrite_isSome]; exact h,
   fun r _ c h => by show (lockStatus r c).comp.isSome = b; rw [lockStatus_comp]; exact h,
   fun _ _ _ _ h => h⟩

theorem closeComp_clean {s : St} (h : Clean s.rc) : After 0 (closeComp s).rc := by
  refine ⟨closeComp_closed s, ?_⟩
  rcases closeComp_cases s with ⟨_, h'⟩ | ⟨c, hc, hcl, _⟩ | ⟨_, _, _, h'⟩
  · rw [h']; exact h.2
  · rw [h.1 c hc] at hcl; cases hcl
  · rw [h']; simpa using h.2

theorem closeComp_after {s : St} {n : Nat} (h : After n s.rc) :
    After (n + if s.rc.comp.isSome then 1 else 0) (closeComp s).rc := by
  cases hc : s.rc.comp with
  | none => rw [closeComp_none hc]; simpa [hc] using h
  | some c0 =>
    rw [closeComp_again hc (h.1 c0 hc)]
    refine ⟨?_, h.2.1, by simp [h.2.2]⟩
    intro c1 h1
    exact h.1 c1 h1

theorem clean_install {s : St} (c : Coding) (h : Clean s.rc) : Clean (install s c).rc := by
  refine ⟨?_, h.2.1, h.2.2⟩
  intro c0 h0
  simp only [install, addHeader] at h0
  cases h0
  rfl

theorem install_isSome (s : St) (c : Coding) : (install s c).rc.comp.isSome = true := rfl

theorem clean_maybeInstall {s : St} (b : Bool) (ae : Str) (h : Clean s.rc) : Clean (maybeInstall b s ae).rc := by
  unfold maybeInstall
  split
  · exact h
  · split
    · exact clean_install _ h
    · exact h

theorem maybeInstall_of_isSome {s : St} (b : Bool) (ae : Str) (h : s.rc.comp.isSome = true) :
    maybeInstall b s ae = s := by
  simp [maybeInstall, h]

theorem maybeInstall_of_wants_none {s : St} (b : Bool) (ae : Str) (h : wants s.rc ae = none) :
    maybeInstall b s ae = s := by
  unfold maybeInstall
  split
  · rfl
  · rw [h]

theorem dispatch_clean (E : ReEnv) (cfg : Cfg) (sr : SReq) {s : St} (h : Clean s.rc) :
    After 0 (dispatch E cfg sr s).1.rc :=
  dispatch_pres clean_stable.stable (fun _ => closeComp_clean) (.trivial cfg) E
    (fun _ _ _ => .of_all (fun _ => trivial) _) sr h (fun en => clean_maybeInstall en _ h)

/-- `dispatch` neither installs nor removes a compressing writer when `maybeInstall` leaves the state
    alone: it was handed one (ServeHTTP's), or the request does not ask for a coding -/
theorem dispatch_isSome_eq (E : ReEnv) (cfg : Cfg) (sr : SReq) {s : St}
    (h : ∀ en, maybeInstall en s sr.acceptEncoding = s) :
    (dispatch E cfg sr s).1.rc.comp.isSome = s.rc.comp.isSome :=
  dispatch_pres (Q := fun r => r.comp.isSome = s.rc.comp.isSome) (isSome_stable _).stable
    (fun s' hs => (closeComp_isSome s').trans hs) (.trivial cfg) E (fun _ _ _ => .of_all (fun _ => trivial) _) sr rfl
    (fun en => by rw [h en])

/-- the closure `Handle` registers, around a body that only runs scripts (`hb`): handed a compressing
    writer it leaves it open and clean (its owner closes it); otherwise its own deferred `Close` is
    the first and only one -/
theorem handleWrapper_clean (cfg : Cfg) (sr : SReq) {s0 : St} {body : St → St × Option Str × Nat}
    (hb : ∀ {P : Rec → Prop}, ActStable (fun r _ => P r) → ∀ s, P s.rc → P (body s).1.rc) (h : Clean s0.rc) :
    (s0.rc.comp.isSome = true → Clean (handleWrapper cfg sr s0 body).1.rc ∧
        (handleWrapper cfg sr s0 body).1.rc.comp.isSome = true) ∧
      (s0.rc.comp.isSome = false → After 0 (handleWrapper cfg sr s0 body).1.rc ∧
        (wants s0.rc sr.acceptEncoding = none → (handleWrapper cfg sr s0 body).1.rc.comp.isSome = false)) := by
  constructor
  · intro hs
    unfold handleWrapper
    simp only [hs, if_true]
    exact ⟨hb clean_stable s0 h, hb (isSome_stable true) s0 hs⟩
  · intro hs
    unfold handleWrapper
    simp only [hs, Bool.false_eq_true, if_false]
    refine ⟨closeComp_clean (hb clean_stable _ (clean_maybeInstall _ _ h)), ?_⟩
    intro hw
    show (closeComp _).rc.comp.isSome = false
    rw [closeComp_isSome, maybeInstall_of_wants_none _ _ hw]
    exact hb (isSome_stable false) s0 hs

theorem clean_initial (sr : SReq) : Clean (initial sr).rc := ⟨fun _ h => (by cases h), rfl, rfl⟩

/-- the one situation in which a compressing writer is closed twice: `ServeHTTP` installed it
    (container switch on, the request asks for a coding), the mux handed the request to `dispatch`,
    whose deferred `Close` (container.go:215) runs before `ServeHTTP`'s (container.go:336) -/
def secondClose (cfg : Cfg) (e : Entry) (sr : SReq) : Bool :=
  e == .serveDispatch && cfg.encoding && (wants (initial sr).rc sr.acceptEncoding).isSome

/-- `ServeHTTP` around an inner function that (a) closes what it installs itself, (b) leaves a
    writer it is handed open when `closes = false` (the `Handle` closure) or closes it when
    `closes = true` (`dispatch`) -/
theorem serveWrapper_after (cfg : Cfg) (sr : SReq) {inner : St → St × Option Str × Nat} (closes : Bool)
    (h0 : After 0 (inner (initial sr)).1.rc)
    (h0n : wants (initial sr).rc sr.acceptEncoding = none → (inner (initial sr)).1.rc.comp.isSome = false)
    (h1 : ∀ c, (if closes then After 0 (inner (install (initial sr) c)).1.rc
                else Clean (inner (install (initial sr) c)).1.rc) ∧
              (inner (install (initial sr) c)).1.rc.comp.isSome = true) :
    After (if closes && cfg.encoding && (wants (initial sr).rc sr.acceptEncoding).isSome then 1 else 0)
      (serveWrapper cfg sr (initial sr) inner).1.rc := by
  unfold serveWrapper
  cases henc : cfg.encoding with
  | false => simpa using h0
  | true =>
    have hin : (initial sr).rc.comp.isSome = false := rfl
    simp only [hin, Bool.not_true, Bool.or_self, Bool.false_eq_true, if_false]
    cases hw : wants (initial sr).rc sr.acceptEncoding with
    | none =>
      have := closeComp_after h0
      simpa [h0n hw] using this
    | some c =>
      obtain ⟨ha, hs⟩ := h1 c
      cases closes with
      | true =>
        simp only [if_true] at ha
        have := closeComp_after ha
        simpa [hs] using this
      | false =>
        simp only [Bool.false_eq_true, if_false] at ha
        simpa using closeComp_clean ha

theorem handle_after (cfg : Cfg) (sr : SReq) {body : St → St × Option Str × Nat}
    (hb : ∀ {P : Rec → Prop}, ActStable (fun r _ => P r) → ∀ s, P s.rc → P (body s).1.rc) :
    After 0 (handleWrapper cfg sr (initial sr) body).1.rc ∧
      After 0 (serveWrapper cfg sr (initial sr) (fun s => handleWrapper cfg sr s body)).1.rc := by
  have hi := clean_initial sr
  have h0 := (handleWrapper_clean cfg sr hb hi).2 rfl
  refine ⟨h0.1, ?_⟩
  simpa using serveWrapper_after cfg sr (inner := fun s => handleWrapper cfg sr s body) false h0.1 h0.2
    (fun c => by simpa using (handleWrapper_clean cfg sr hb (clean_install c hi)).1 (install_isSome _ c))

/-- for every configuration, entry point and request: when the entry point is left the compressing
    writer (if any) is closed, no `Write` reached it after its `Close`, and a `Close` was refused
    exactly in the situation `secondClose` -/
theorem serve_after (E : ReEnv) (cfg : Cfg) (e : Entry) (w : World) (sr : SReq) :
    After (if secondClose cfg e sr then 1 else 0) (serve E cfg e w sr).rc := by
  rw [serve_rc]
  have hi := clean_initial sr
  cases e with
  | dispatch => simpa [secondClose, serveCore, entryBody] using dispatch_clean E cfg sr hi
  | serveDispatch =>
    have := serveWrapper_after cfg sr (inner := dispatch E cfg sr) true (dispatch_clean E cfg sr hi)
      (fun hw => dispatch_isSome_eq E cfg sr (fun en => maybeInstall_of_wants_none en _ hw))
      (fun c => ⟨by simpa using dispatch_clean E cfg sr (clean_install c hi), dispatch_isSome_eq E cfg sr (fun en => maybeInstall_of_isSome en _ (install_isSome _ c))⟩)
    simpa [secondClose, serveCore, entryBody] using this
  | muxHandle => simpa [secondClose, serveCore, entryBody] using (handle_after cfg sr (fun hP s => plainBody_pres hP.stable cfg s (.trivial cfg))).1
  | serveHandle => simpa [secondClose, serveCore, entryBody] using (handle_after cfg sr (fun hP s => plainBody_pres hP.stable cfg s (.trivial cfg))).2
  | muxHandleF => simpa [secondClose, serveCore, entryBody] using (handle_after cfg sr (fun hP s => plainFilteredBody_pres hP.stable cfg s (.trivial cfg))).1
  | serveHandleF => simpa [secondClose, serveCore, entryBody] using (handle_after cfg sr (fun hP s => plainFilteredBody_pres hP.stable cfg s (.trivial cfg))).2

theorem secondClose_coded (E : ReEnv) (cfg : Cfg) (e : Entry) (w : World) (sr : SReq)
    (h : secondClose cfg e sr = true) : (serve E cfg e w sr).rc.comp.isSome = true := by
  simp only [secondClose, Bool.and_eq_true, beq_iff_eq] at h
  obtain ⟨⟨rfl, henc⟩, hw⟩ := h
  obtain ⟨c, hc⟩ := Option.isSome_iff_exists.mp hw
  rw [serve_eq]
  show (serveWrapper cfg sr (initial sr) (dispatch E cfg sr)).1.rc.comp.isSome = true
  unfold serveWrapper
  have hin : (initial sr).rc.comp.isSome = false := rfl
  simp only [henc, hin, Bool.not_true, Bool.or_self, Bool.false_eq_true, if_false, hc]
  show (closeComp _).rc.comp.isSome = true
  rw [closeComp_isSome]
  exact dispatch_isSome_eq E cfg sr (fun en => maybeInstall_of_isSome en _ (install_isSome _ c))

end Serve.Panic
end Restful
