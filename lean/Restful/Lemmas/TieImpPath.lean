/- route.go `tokenizePath`, route_builder.go `concatPath` as translated on this run ARE the model's (default path strategy) -/
import Restful.Lemmas.TieImpBase
namespace Restful
namespace TieImp
namespace T2
open Imp
set_option linter.unusedSimpArgs false  -- see TieImpTactic

theorem tokenize_path (X : ImpGen.Ext) (h : X.TrimRightSlashEnabled = true) (p : Str) :
    ImpGen.tokenizePath X p = some (tokenize p) := by
  unfold ImpGen.tokenizePath tokenize
  simp only [h]
  by_cases hp : p = ['/']
  · simp [hp]
  · have : ¬ ['/'] = p := fun h => hp h.symm
    simp [hp, this, trim_eq]

theorem concat_path (X : ImpGen.Ext) (h : X.TrimRightSlashEnabled = true) (a b : Str) :
    ImpGen.concatPath X a b = some (Restful.concatPath a b) := by
  unfold ImpGen.concatPath Restful.concatPath
  simp [h, HAdd.hAdd]

end T2
end TieImp
end Restful
