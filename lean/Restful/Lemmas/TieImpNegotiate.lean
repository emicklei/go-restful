/- mime.go `insertMime` = `Mime.insertMime`, `sortedMimes` = `Mime.sortedMimes`; response.go `Response.EntityWriter`
   = `Mime.entityWriter`; what the translation leaves uninterpreted is fixed by `MimeExt`. -/
import Restful.Lemmas.TieImp
import Restful.Model.Mime
import Restful.Lemmas.TieImpMime
import Restful.Lemmas.TieImpTactic
namespace Restful
namespace TieImp
open Imp

/-- a media range of the model (quality in thousandths) as the `mime` struct -/
def genMime (m : Mime.Mime) : ImpGen.GoMime := { media := m.media, quality := ((m.quality : Nat) : Int) }

/-- what the mime functions leave uninterpreted, instantiated by the model's reading: float64 qualities are
    exact thousandths (DESIGN 4.4: decimal literals with at most three fraction digits; everything else is
    "unparsable", as far as the model and its generator go), `trimOWS` is tied separately (`Tie.mime_trim_ows`) -/
structure MimeExt (X : ImpGen.Ext) : Prop where
  gt : ∀ a b : Int, X.float_gt a b = decide (a > b)
  one : X.float_lit "1.0" = 1000
  trim : X.trimOWS = Mime.trimOWS
  parse : ∀ s : Str, X.strconv_ParseFloat s 64 =
    (match Mime.parseQ s with
     | some q => (((q : Nat) : Int), none)
     | none => (0, some {}))

/-- mime.go `insertMime`: before the first element of strictly smaller quality, else at the end -/
theorem insert_mime (X : ImpGen.Ext) (hgt : ∀ a b : Int, X.float_gt a b = decide (a > b))
    (l : List Mime.Mime) (e : Mime.Mime) :
    ImpGen.insertMime X (l.map genMime) (genMime e) = some ((Mime.insertMime l e).map genMime) := by
  rw [T15.insertMime_eq]
  congr 1
  induction l with
  | nil => rfl
  | cons x xs ih =>
    simp only [List.map_cons, T15.insP, Mime.insertMime, ih]
    have hq : X.float_gt (genMime e).quality (genMime x).quality = decide (x.quality < e.quality) := by
      rw [hgt]; simp [genMime]
    rw [hq]
    by_cases h : x.quality < e.quality <;> simp [h]

/-- mime.go `sortedMimes`: the Accept header parsed into media ranges ordered by quality (stable), ranges
    whose q does not parse dropped; never panics -/
theorem sorted_mimes (X : ImpGen.Ext) (h : MimeExt X) (accept : Str) :
    ImpGen.sortedMimes X accept = some ((Mime.sortedMimes accept).map genMime) := by
  unfold ImpGen.sortedMimes
  unfold_gen_helpers keeping ImpGen.insertMime
  simp only [Option.pure_def, Option.bind_eq_bind]
  rw [show ([] : List ImpGen.GoMime) = List.map genMime [] from rfl,
    fold_loop (List.map genMime) Mime.insertValid _ ?hf]
  · rfl
  case hf =>
    intro each acc
    rcases hs : Str.split ';' each with _ | ⟨m, params⟩
    · exact absurd hs (Str.split_ne_nil ';' each)
    simp only [T15.at?_zero_cons, sliceFrom_one_cons, Option.bind_some, h.one]
    -- the parameter loop: with `break` and the two variables as its state (`param_loop`), or — as a helper
    -- `func … (quality, valid)` — with early `return`s (`findSome_loop` over `paramRet`); either way `qvOf params`
    first
    | rw [T15.param_loop _ ?hp]
    | (rw [T15.findSome_loop T15.paramRet _ ?hp]
       have hpr := T15.paramRet_eq params
       cases hfs : params.findSome? T15.paramRet <;>
         (rw [hfs] at hpr
          simp only [Option.getD_none, Option.getD_some] at hpr
          -- the helper returned `(1.0, true)` after its loop, or what an iteration returned
          first
          | (show ((some ((1000 : Int), true)).bind _) = _
             rw [hpr])
          | (show ((some _).bind _) = _
             rw [hpr])))
    case hp =>
      intro param
      try intro s
      have hq : ("q".toList : Str) = Mime.qKey := rfl
      first | unfold T15.paramStep | unfold T15.paramRet
      rcases Str.split '=' param with _ | ⟨k, _ | ⟨v, _ | ⟨w, t⟩⟩⟩
      · rfl
      · rfl
      · simp only [T15.len_two, T15.at?_zero_cons, T15.at?_one_cons, Option.bind_some, h.trim, h.parse, hq, if_true,
          beq_iff_eq]
        by_cases hk : Mime.trimOWS k = Mime.qKey
        · simp only [hk, if_true]
          cases Mime.parseQ (Mime.trimOWS v) <;> rfl
        · simp only [hk, if_false]
      · have : (len (k :: v :: w :: t) == 2) = false := by simp [len]; omega
        simp only [this]; rfl
    all_goals
      simp only [Option.bind_some, T15.qvOf, Mime.insertValid, Mime.rangeOf, hs, h.trim]
      cases Mime.qualityOf params with
      | none => rfl
      | some q =>
        simp only [Option.map_some, if_true]
        rw [show ({ media := Mime.trimOWS m, quality := ((q : Nat) : Int) } : ImpGen.GoMime)
          = genMime ⟨Mime.trimOWS m, q⟩ from rfl, insert_mime X h.gt]
        rfl

/-- response.go `Response.EntityWriter`: the negotiation of the written entity's media type, with the
    registry lookup `accessorAt` uninterpreted in the translation and instantiated by the model's (`hacc`;
    `idOf` names writers by their registration key) -/
theorem entity_writer (X : ImpGen.Ext) (h : MimeExt X) (reg : List Str) (dflt : Str) (idOf : Str → Nat)
    (hacc : ∀ m : Str, X.entityAccessRegistry_accessorAt m =
      (match Mime.accessorAt reg m with
       | [] => (default, false)
       | k :: _ => (idOf k, true)))
    (hd : X.DefaultResponseMimeType = dflt) (accept : Str) (produces : List Str) :
    (ImpGen.Response_EntityWriter X accept produces).map (fun p => if p.2 then some p.1 else none)
      = some ((Mime.entityWriter accept produces reg dflt).head?.map idOf) := by
  have hX : X.entityAccessRegistry_accessorAt = T15.accV reg idOf := funext hacc
  unfold ImpGen.Response_EntityWriter
  simp only [Option.pure_def, Option.bind_eq_bind, hX, hd, T15.first_loop, T15.match_loop, sorted_mimes X h,
    Option.bind_some]
  have hss : ("*/*".toList : Str) = starStar := rfl
  have hA : (len accept == 0) = accept.isEmpty := by
    cases accept with
    | nil => rfl
    | cons c t => simp [len]; omega
  rw [hA]
  rw [hss]
  split
  all_goals
    rw [T15.findSome_loop_map genMime (T15.walkStep reg idOf produces) _ ?hf]
    case hf =>
      intro m
      unfold T15.walkStep
      rw [show (genMime m).media = m.media from rfl]
      cases T15.wv idOf (Mime.walkProduces reg m.media produces) with
      | some r => rfl
      | none =>
        by_cases hm : m.media = starStar
        · simp only [hm, beq_self_eq_true, if_true]
          cases T15.wv idOf (Mime.firstProduced reg produces) <;> rfl
        · simp only [hm, beq_iff_eq, if_false]
    simp only [Option.bind_some, T15.walk_eq]
    rw [show ("application/json".toList : Str) = Mime.mimeJSON from rfl,
      show ("application/xml".toList : Str) = Mime.mimeXML from rfl,
      show ("application/zip".toList : Str) = Mime.mimeZIP from rfl]
    unfold Mime.entityWriter Mime.entityWriterTagged
    rename_i hE
    simp only [hE, if_true, if_false, Bool.false_eq_true]
    generalize Mime.walk reg produces _ = w
    rcases w with _ | ⟨k, t⟩
    · simp only [T15.wv, List.head?_nil, Option.map_none, List.isEmpty_nil, Bool.not_true, Bool.false_eq_true, if_false]
      unfold T15.accV
      rcases Mime.accessorAt reg accept with _ | ⟨k, t⟩
      · simp only [Bool.not_false, if_true, List.isEmpty_nil, Bool.not_true, Bool.false_eq_true, if_false, beq_iff_eq]
        by_cases h1 : dflt = Mime.mimeJSON
        · simp only [h1, if_true]
          cases Mime.accessorAt reg Mime.mimeJSON <;> rfl
        simp only [h1, if_false]
        by_cases h2 : dflt = Mime.mimeXML
        · simp only [h2, if_true]
          cases Mime.accessorAt reg Mime.mimeXML <;> rfl
        simp only [h2, if_false]
        by_cases h3 : dflt = Mime.mimeZIP
        · simp only [h3, if_true]
          cases Mime.accessorAt reg Mime.mimeZIP <;> rfl
        simp only [h3, if_false]
        cases Mime.firstProduced reg produces <;> rfl
      · rfl
    · rfl

end TieImp
end Restful
