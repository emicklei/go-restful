/-
C02 for RouterJSR311: totality and exact classification.

  * `compile` succeeds on every root and route path of a checked table (`Jsr.compile_of_template`); for a
    WebService WITHOUT routes `Config.wfTemplates` says nothing about the root path, hence the
    explicit hypothesis `Jsr.rootsRead`;
  * the route candidates of the dispatcher's service are, as a set, the built routes whose template
    admits the path (`jsr_route_facts` in Lemmas/AgreeRoutes.lean, from `Jsr.match_sound` /
    `Jsr.match_complete`, the latter for newline-free paths);
  * WHICH service is the dispatcher is specified independently of the router model:
    `Spec.bestServices` goes through `Spec.jsrBestService` (the first registered among the matching
    roots with a maximal key), and `Jsr.detectDispatcher_eq_spec` (Lemmas/JsrBest.lean) shows that
    the model's sort-and-take-first computes it.
-/
import Restful.Lemmas.ClassifyCurly
import Restful.Lemmas.JsrMatch
import Restful.Lemmas.JsrBest
import Restful.Lemmas.AgreeRoutes
namespace Restful
open Str
variable (E : ReEnv)

namespace Jsr

theorem compile_of_template {root rel : Str} {ts : List TTok} (hts : Spec.readTemplateJ root rel = some ts) :
    (∃ ex, compile root = some ex) ∧ ∃ ex, compile rel = some ex := by
  obtain ⟨a, b, ha, hb, _, _, hjsr, _⟩ := readTemplateJ_spec hts
  obtain ⟨ea, hea, _⟩ := compile_of_readToks' ha (fun t ht => hjsr t (List.mem_append_left _ ht))
  obtain ⟨eb, heb, _⟩ := compile_of_readToks' hb (fun t ht => hjsr t (List.mem_append_right _ ht))
  exact ⟨⟨ea, hea⟩, eb, heb⟩

theorem template_of_wf {cfg : Config} (hk : cfg.router = .jsr) (hwf : cfg.wfTemplates = true) {svc : Service}
    (hsvc : svc ∈ cfg.services) {rt : Route} (hrt : rt ∈ svc.built) :
    ∃ ts, Spec.readTemplateJ svc.rootPath rt.relPath = some ts := by
  obtain ⟨ts, hts⟩ := Config.template_of_wf hwf hsvc hrt
  rw [hk] at hts
  simp only [Spec.templateOf] at hts
  rw [Service.built_root svc hrt] at hts
  exact ⟨ts, hts⟩

theorem roots_compile {cfg : Config} (hk : cfg.router = .jsr) (hwf : cfg.wfTemplates = true)
    (hroots : rootsRead cfg = true) : ∀ s ∈ cfg.services, ∃ ex, compile s.rootPath = some ex := by
  intro s hs
  unfold rootsRead at hroots
  simp only [List.all_eq_true, Bool.or_eq_true, Bool.not_eq_true', List.isEmpty_eq_false_iff] at hroots
  cases hrs : s.routes with
  | nil =>
    rcases hroots s hs with h | h
    · exact absurd hrs h
    · obtain ⟨ts, hts⟩ := Option.isSome_iff_exists.mp h
      exact (compile_of_template hts).1
  | cons r rs =>
    have hrt : s.build r ∈ s.built := by
      unfold Service.built
      rw [hrs]
      exact List.mem_cons_self
    obtain ⟨ts, hts⟩ := template_of_wf hk hwf hs hrt
    exact (compile_of_template hts).1

theorem routes_compile {cfg : Config} (hk : cfg.router = .jsr) (hwf : cfg.wfTemplates = true) {svc : Service}
    (hsvc : svc ∈ cfg.services) : ∀ rt ∈ svc.built, ∃ ex, compile rt.relPath = some ex := by
  intro rt hrt
  obtain ⟨ts, hts⟩ := template_of_wf hk hwf hsvc hrt
  exact (compile_of_template hts).2

theorem bestServices_eq {cfg : Config} (hk : cfg.router = .jsr) (req : Req) :
    Spec.bestServices E cfg req =
      match detectDispatcher E cfg.services req.path with
      | some (some (svc, _)) => [svc]
      | _ => [] := by
  unfold Spec.bestServices
  rw [hk, detectDispatcher_eq_spec]
  rfl

theorem route_cases {cfg : Config} (hk : cfg.router = .jsr) (hwf : cfg.wfTemplates = true)
    (hroots : rootsRead cfg = true) (req : Req) :
    (Spec.bestServices E cfg req = [] ∧ route E cfg req = .error 404 none) ∨
      ∃ svc final wex wc cands, svc ∈ cfg.services ∧ svc ∈ Spec.bestServices E cfg req ∧
        compile svc.rootPath = some wex ∧ matchExpr E wex.toks req.path = some (wc, final) ∧
        (∀ r, r ∈ cands ↔ r ∈ svc.built ∧ (rcandOf E final r).isSome = true) ∧
        Dispatches svc cands req (route E cfg req) := by
  rw [route_jsr E hk, routeJsr_fst, bestServices_eq E hk]
  cases hd : detectDispatcher E cfg.services req.path with
  | none =>
    have hc : ¬ ∃ s ∈ cfg.services, compile s.rootPath = none := fun ⟨s, hs, h⟩ => by
      obtain ⟨ex, hex⟩ := roots_compile hk hwf hroots s hs
      rw [hex] at h
      cases h
    rw [detectDispatcher_eq E hc] at hd
    cases hd
  | some x =>
    cases x with
    | none => exact Or.inl ⟨rfl, rfl⟩
    | some y =>
      obtain ⟨svc, final⟩ := y
      obtain ⟨hsvc, wex, wc, hwex, hwm⟩ := detectDispatcher_mem E hd
      have hmem : ∀ r, r ∈ (Sort.insertionSort routeCandLess (svc.built.filterMap (rcandOf E final))).map (·.route) ↔
          r ∈ svc.built ∧ (rcandOf E final r).isSome = true := by
        intro r
        rw [(sorted_routes_perm (rcandOf E final) (·.route) routeCandLess svc.built
          fun x c hc => (rcandOf_some E hc).1).mem_iff, List.mem_filter]
      have hnf : svc.built.any rfails = false := List.any_eq_false.2 fun rt hrt => by
        obtain ⟨ex, hex⟩ := routes_compile hk hwf hsvc rt hrt
        simp [rfails, hex]
      refine Or.inr ⟨svc, final, wex, wc, _, hsvc, List.mem_singleton_self svc, hwex, hwm, hmem, ?_⟩
      simp only [jsrAfterSvc, routeCandidates_eq, hnf, Bool.false_eq_true, if_false]
      refine Dispatches.finishWith fun r hdr => ?_
      obtain ⟨hrt, hs⟩ := (hmem r).1 (detectRoute_ok hdr).1
      obtain ⟨c, hc⟩ := Option.isSome_iff_exists.1 hs
      obtain ⟨_, rex, rc, f, hrex, hrm, _⟩ := rcandOf_some E hc
      unfold extract
      simp only [hwex, hrex, hwm, hrm]
      exact ⟨Service.built_svc svc hrt, _, rfl⟩

/-- on a newline-free path a route's expression matches exactly when its template admits the path -/
theorem routed {cfg : Config} (hk : cfg.router = .jsr) (hwf : cfg.wfTemplates = true)
    (hroots : rootsRead cfg = true) (req : Req) (hn : '\n' ∉ req.path) : Routed E cfg req (route E cfg req) := by
  rcases route_cases E hk hwf hroots req with h | ⟨svc, final, wex, wc, cands, hsvc, hbest, hwex, hwm, hmem, hd⟩
  · exact Or.inl h
  · refine Or.inr ⟨svc, cands, hsvc, hbest, fun r => ?_, hd⟩
    rw [hmem r, hk]
    refine and_congr_right (fun hrt => ?_)
    obtain ⟨ts, hts⟩ := template_of_wf hk hwf hsvc hrt
    rw [(jsr_route_facts E svc hts hn hwex hwm).2.1]
    unfold Spec.pathAdmits
    simp only [Spec.templateOf, Service.built_root svc hrt, hts]

end Jsr

theorem C02_total_jsr (cfg : Config) (hk : cfg.router = .jsr) (hwf : cfg.wfTemplates = true)
    (hroots : Jsr.rootsRead cfg = true) (req : Req) : ∀ w, route E cfg req ≠ .panic w := by
  intro w
  rcases Jsr.route_cases E hk hwf hroots req with ⟨_, h⟩ | ⟨_, _, _, _, _, _, _, _, _, _, hd⟩
  · rw [h]
    simp
  · exact hd.ne_panic w

/-- **C02, RouterJSR311**: on checked templates (route-less services included), hygienic media lists
    and newline-free paths, the outcome is exactly what the decision table says for the service
    that `Spec.jsrBestService` names (the router's dispatcher IS that service:
    `Jsr.detectDispatcher_eq_spec`) -/
theorem C02_classify_jsr_partial (E : ReEnv) (cfg : Config) (hk : cfg.router = .jsr) (hwf : cfg.wfTemplates = true)
    (hroots : Jsr.rootsRead cfg = true) (hh : Spec.mediaHygiene cfg = true) (req : Req) (hn : '\n' ∉ req.path) :
    Spec.c02Holds E cfg req (route E cfg req)
      (match route E cfg req with | .selected _ _ _ => 1 | _ => 0) = true :=
  (Jsr.routed E hk hwf hroots req hn).c02Holds hh

end Restful
