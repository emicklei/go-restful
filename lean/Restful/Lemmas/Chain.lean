/-
Helpers for C06: the serve model's log against `Spec.chainLog`.
-/
import Restful.Lemmas.Serve
namespace Restful
open Str
namespace Serve
namespace Chain
open Spec

theorem runActs_spec (as : List Act) (cx : Ctx) (s : St) :
    (runActs as cx s).2.1.log = s.log ∧
    (runActs as cx s).1 = { cx with attrs := (attrsAfter as cx.attrs).1 } ∧
    (runActs as cx s).2.2.isSome = (attrsAfter as cx.attrs).2 := by
  induction as generalizing cx s with
  | nil => simp [runActs, attrsAfter]
  | cons a as ih =>
    cases a with
    | write b => simpa [runActs, attrsAfter] using ih cx _
    | writeHeader c => simpa [runActs, attrsAfter] using ih cx _
    | addHeader k v => simpa [runActs, attrsAfter] using ih cx _
    | setAttr k v => simpa [runActs, attrsAfter] using ih { cx with attrs := setParam cx.attrs k v } s
    | panic v => simp [runActs, attrsAfter]

def evOf (stage : Stage) (post : Bool) (cx : Ctx) : Event :=
  ⟨stage, post, cx.attrs, cx.params, cx.selPath, cx.wrappers⟩

theorem runStage_spec (stage : Stage) (post : Bool) (as : List Act) (cx : Ctx) (s : St) :
    (runStage stage post as cx s).2.1.log = evOf stage post cx :: s.log ∧
    (runStage stage post as cx s).1 = { cx with attrs := (attrsAfter as cx.attrs).1 } ∧
    (runStage stage post as cx s).2.2.isSome = (attrsAfter as cx.attrs).2 := by
  have h := runActs_spec as cx (logStart stage post cx s)
  exact ⟨by rw [runStage, h.1]; rfl, h.2.1, h.2.2⟩

/-- the post part of a filter in `chainLog`: runs with `cxp`, hands back `cxr`'s wrappers -/
def postPart (st : Stage) (f : Filter) (cxp cxr : Ctx) : List Event × Ctx × Bool :=
  ([evOf st true cxp], { cxp with attrs := (attrsAfter f.post cxp.attrs).1, wrappers := cxr.wrappers }, (attrsAfter f.post cxp.attrs).2)

/-- then-what after the inner chain came back -/
def after (ev0 : Event) (inner : List Event) (p : Bool) (cxPanic : Ctx) (post : List Event × Ctx × Bool) : List Event × Ctx × Bool :=
  if p then (ev0 :: inner, cxPanic, true) else (ev0 :: inner ++ post.1, post.2.1, post.2.2)

theorem chainLog_nil (t : Target) (cx : Ctx) :
    chainLog [] t cx = ([evOf t.stage false cx], { cx with attrs := (attrsAfter t.script cx.attrs).1 }, (attrsAfter t.script cx.attrs).2) := by
  rw [chainLog]; rfl

theorem chainLog_cons (st : Stage) (f : Filter) (fs : List (Stage × Filter)) (t : Target) (cx : Ctx) :
    chainLog ((st, f) :: fs) t cx =
      (let cx1 : Ctx := { cx with attrs := (attrsAfter f.pre cx.attrs).1 }
       if (attrsAfter f.pre cx.attrs).2 then ([evOf st false cx], cx1, true) else
       match f.kind with
       | .stop => after (evOf st false cx) [] false cx1 (postPart st f cx1 cx1)
       | .pass =>
         let r := chainLog fs t cx1
         after (evOf st false cx) r.1 r.2.2 r.2.1 (postPart st f r.2.1 r.2.1)
       | .replace =>
         let r := chainLog fs t { attrs := [("who".toList, (toString f.id).toList)], params := [], selPath := [], wrappers := f.id :: cx1.wrappers }
         after (evOf st false cx) r.1 r.2.2 cx1 (postPart st f cx1 cx1)
       | .middle =>
         let r := chainLog fs t { cx1 with wrappers := f.id :: cx1.wrappers }
         after (evOf st false cx) r.1 r.2.2 r.2.1 (postPart st f { r.2.1 with wrappers := cx1.wrappers } r.2.1)) := by
  rw [chainLog]
  simp only [after, postPart, evOf]
  split <;> rfl

theorem runChain_spec (fs : List (Stage × Filter)) (t : Target) (cx : Ctx) (s : St) :
    (runChain fs t cx s).2.1.log = (chainLog fs t cx).1.reverse ++ s.log ∧
    (runChain fs t cx s).1 = (chainLog fs t cx).2.1 ∧
    (runChain fs t cx s).2.2.isSome = (chainLog fs t cx).2.2 := by
  -- the model and `chainLog` recurse in step: the three components (events added, context handed back,
  -- panic flag) are carried together because each filter kind decides, from the inner chain's flag and
  -- context, whether and with which context its second part runs; `cx` and `s` vary from stage to stage
  induction fs generalizing cx s with
  | nil =>
    have h := runStage_spec t.stage false t.script cx s
    simpa [runChain, chainLog_nil] using h
  | cons sf fs ih =>
    obtain ⟨st, f⟩ := sf
    have h0 := runStage_spec st false f.pre cx s
    rw [runChain, chainLog_cons]
    generalize hr : runStage st false f.pre cx s = r at h0
    obtain ⟨cx1, s1, p⟩ := r
    simp only at h0
    obtain ⟨hl, hc, hp⟩ := h0
    cases p with
    | some v =>
      simp at hp; simp [hp, hl, hc]
    | none =>
      simp at hp
      have hw : cx1.wrappers = cx.wrappers := by rw [hc]
      simp only [hp, ← hc]
      cases hk : f.kind with
      | stop =>
        have h1 := runStage_spec st true f.post cx1 s1
        simp [after, postPart, h1, hl]
      | pass =>
        have h1 := ih cx1 s1
        generalize hr2 : runChain fs t cx1 s1 = r2 at h1
        obtain ⟨cx2, s2, p2⟩ := r2
        simp only at h1
        obtain ⟨hl2, hc2, hp2⟩ := h1
        cases p2 with
        | some v => simp at hp2; simp [after, hp2, hl2, hc2, hl]
        | none =>
          simp at hp2
          have h3 := runStage_spec st true f.post cx2 s2
          simp [after, postPart, hp2, h3, hl2, ← hc2, hl]
      | replace =>
        simp only [hw]
        generalize ({ attrs := [("who".toList, (toString f.id).toList)], params := [], selPath := [], wrappers := f.id :: cx.wrappers } : Ctx) = ci
        have h1 := ih ci s1
        generalize hr2 : runChain fs t ci s1 = r2 at h1
        obtain ⟨cx2, s2, p2⟩ := r2
        simp only at h1
        obtain ⟨hl2, hc2, hp2⟩ := h1
        cases p2 with
        | some v => simp at hp2; simp [after, hp2, hl2, hl]
        | none =>
          simp at hp2
          have h3 := runStage_spec st true f.post cx1 s2
          simp [after, postPart, hp2, h3, hl2, hl]
      | middle =>
        subst hc
        simp only
        generalize ({ attrs := (attrsAfter f.pre cx.attrs).1, params := cx.params, selPath := cx.selPath, wrappers := f.id :: cx.wrappers } : Ctx) = ci
        have h1 := ih ci s1
        generalize hr2 : runChain fs t ci s1 = r2 at h1
        obtain ⟨cx2, s2, p2⟩ := r2
        simp only at h1
        obtain ⟨hl2, hc2, hp2⟩ := h1
        cases p2 with
        | some v => simp at hp2; simp [after, hp2, hl2, hc2, hl]
        | none =>
          simp at hp2
          have h3 := runStage_spec st true f.post { cx2 with wrappers := cx.wrappers } s2
          simp [after, postPart, hp2, h3, hl2, ← hc2, hl]

theorem chainLog_panic (fs : List (Stage × Filter)) (t : Target) (cx : Ctx) :
    (chainLog fs t cx).2.2 = (Panic.chainPanic fs t.script).isSome := by
  rw [← (runChain_spec fs t cx ⟨{}, []⟩).2.2, runChain_panic]

theorem closeComp_log (s : St) : (closeComp s).log = s.log := by
  rcases closeComp_cases s with ⟨_, h⟩ | ⟨_, _, _, h⟩ | ⟨_, _, _, h⟩ <;> rw [h]

theorem maybeInstall_log (en : Bool) (s : St) (ae : Str) : (maybeInstall en s ae).log = s.log := by
  unfold maybeInstall
  split
  · rfl
  · split <;> rfl

def AllRecover (r : List Event) : Prop := ∀ ev ∈ r, ev.stage = .recover

theorem runRecover_log (cfg : Cfg) (s : St) : ∃ r, AllRecover r ∧ (runRecover cfg s).log = r ++ s.log := by
  unfold runRecover
  split
  · rename_i sc _
    refine ⟨[evOf .recover false {}], ?_, ?_⟩
    · intro ev hev
      simp only [List.mem_singleton] at hev
      rw [hev]; rfl
    · rw [(runStage_spec .recover false sc {} s).1]; rfl
  · exact ⟨[], fun _ h => absurd h List.not_mem_nil, rfl⟩

theorem finishDispatch_log (cfg : Cfg) (s : St) (p : Option Str) :
    ∃ r, AllRecover r ∧ (finishDispatch cfg s p).1.log = r ++ s.log := by
  have nil : AllRecover [] := fun _ h => absurd h List.not_mem_nil
  unfold finishDispatch
  split
  · exact ⟨[], nil, by rw [closeComp_log]; rfl⟩
  · split
    · obtain ⟨r, hr, h⟩ := runRecover_log cfg s
      exact ⟨r, hr, by rw [closeComp_log, h]⟩
    · exact ⟨[], nil, by rw [closeComp_log]; rfl⟩

/-- `body` adds the events `X` (oldest first) and after them nothing but recover-handler events -/
def LogsAs (body : St → St × Option Str × Nat) (X : List Event) : Prop :=
  ∀ s, ∃ r, AllRecover r ∧ (body s).1.log = r ++ X.reverse ++ s.log

end Chain
end Serve

namespace Spec
open Serve

def noPanic (as : List Act) : Bool := as.all (fun a => !isPanic a)

/-- whether a script panics does not depend on the attributes it starts with: it panics iff it
    contains a panic step -/
theorem attrsAfter_panics (as : List Act) (attrs : List (Str × Str)) :
    (attrsAfter as attrs).2 = !noPanic as := by
  induction as generalizing attrs with
  | nil => rfl
  | cons a as ih => cases a <;> simp [attrsAfter, noPanic, isPanic, ih]

theorem attrsAfter_noPanic (as : List Act) (attrs : List (Str × Str)) (h : noPanic as = true) :
    (attrsAfter as attrs).2 = false := by
  rw [attrsAfter_panics, h]
  rfl

/-- the filter passes control on to the rest of the chain: it is of a kind that calls
    `chain.ProcessFilter` (directly, with a new Request/Response, or through an adapted middleware's
    `next`) and its first part does not panic before doing so -/
def passesOn (f : Filter) : Bool :=
  (match f.kind with
   | .pass => true
   | .replace => true
   | .middle => true
   | .stop => false) && noPanic f.pre

theorem passesOn_iff (f : Filter) : passesOn f = true ↔ f.kind ≠ .stop ∧ noPanic f.pre = true := by
  unfold passesOn
  cases f.kind <;> simp

/-- the events `chainOf`'s chain must produce (none when there is no chain) -/
def chainEvents (E : ReEnv) (cfg : Cfg) (e : Entry) (sr : SReq) : List Event :=
  match chainOf E cfg e sr with
  | none => []
  | some (fs, t, cx) => (chainLog fs t cx).1

end Spec

namespace Serve
namespace Chain
open Spec

theorem chain_then_finish (cfg : Cfg) (fs : List (Stage × Filter)) (t : Target) (cx : Ctx) (s : St) :
    ∃ r, AllRecover r ∧
      (finishDispatch cfg (runChain fs t cx s).2.1 (runChain fs t cx s).2.2).1.log = r ++ (chainLog fs t cx).1.reverse ++ s.log := by
  obtain ⟨r, hr1, hr2⟩ := finishDispatch_log cfg (runChain fs t cx s).2.1 (runChain fs t cx s).2.2
  exact ⟨r, hr1, by rw [hr2, (runChain_spec fs t cx s).1, List.append_assoc]⟩

theorem dispatch_logsAs (E : ReEnv) (cfg : Cfg) (sr : SReq) :
    LogsAs (dispatch E cfg sr) (chainEvents E cfg .dispatch sr) := by
  intro s0
  unfold dispatch chainEvents chainOf
  cases hc : sr.condPanic with
  | some v => simpa using finishDispatch_log cfg s0 (some v)
  | none =>
    simp only [Option.isSome_none, Bool.false_eq_true, if_false]
    generalize routeTagged E cfg.routing sr.req = o
    obtain ⟨o, tag⟩ := o
    cases o with
    | panic w => simpa using finishDispatch_log cfg s0 (some w.toList)
    | error code allow => exact chain_then_finish cfg _ _ _ s0
    | selected svc rid ps =>
      have h := chain_then_finish cfg (allFilters cfg svc rid) ⟨.handler rid, (routeX cfg rid).script⟩
        { params := ps, selPath := match (cfg.routing.services.flatMap (·.built)).find? (fun r => r.id == rid && r.svc == svc) with
          | some r => r.path
          | none => [] }
        (maybeInstall (match (routeX cfg rid).enc with
          | some b => b
          | none => cfg.encoding) s0 sr.acceptEncoding)
      rw [maybeInstall_log] at h
      exact h

theorem handleWrapper_logsAs (cfg : Cfg) (sr : SReq) (body : St → St × Option Str × Nat) (X : List Event)
    (h : LogsAs body X) : LogsAs (fun s => handleWrapper cfg sr s body) X := by
  intro s0
  simp only [handleWrapper]
  split
  · exact h s0
  · obtain ⟨r, hr1, hr2⟩ := h (maybeInstall cfg.encoding s0 sr.acceptEncoding)
    exact ⟨r, hr1, by rw [closeComp_log, hr2, maybeInstall_log]⟩

theorem serveWrapper_logsAs (cfg : Cfg) (sr : SReq) (inner : St → St × Option Str × Nat) (X : List Event)
    (h : LogsAs inner X) : LogsAs (fun s => serveWrapper cfg sr s inner) X := by
  intro s0
  simp only [serveWrapper]
  split
  · exact h s0
  · split
    · rename_i c _
      obtain ⟨r, hr1, hr2⟩ := h (install s0 c)
      exact ⟨r, hr1, by rw [closeComp_log, hr2]; rfl⟩
    · obtain ⟨r, hr1, hr2⟩ := h s0
      exact ⟨r, hr1, by rw [closeComp_log, hr2]⟩

theorem plainBody_logsAs (cfg : Cfg) : LogsAs (plainBody cfg) (chainLog [] ⟨.plain 0, cfg.plainScript⟩ {}).1 := by
  intro s
  refine ⟨[], fun _ h => absurd h List.not_mem_nil, ?_⟩
  simp only [plainBody]
  rw [(runStage_spec (.plain 0) false cfg.plainScript {} s).1, chainLog_nil]
  rfl

theorem plainFilteredBody_logsAs (cfg : Cfg) :
    LogsAs (plainFilteredBody cfg) (chainLog (label .cfilter cfg.cfilters) ⟨.plain 0, cfg.plainScript⟩ {}).1 := by
  intro s
  unfold plainFilteredBody
  split
  · rename_i he
    have : cfg.cfilters = [] := List.isEmpty_iff.mp he
    rw [this]
    exact plainBody_logsAs cfg s
  · -- container.go:393: the chain, then (recovery on, a panic unwinding) the recover handler
    have nil : AllRecover [] := fun _ h => absurd h List.not_mem_nil
    have hl := (runChain_spec (label .cfilter cfg.cfilters) ⟨.plain 0, cfg.plainScript⟩ {} s).1
    generalize runChain (label .cfilter cfg.cfilters) ⟨.plain 0, cfg.plainScript⟩ {} s = rr at hl
    obtain ⟨cx1, s1, p⟩ := rr
    simp only at hl ⊢
    cases p with
    | none => exact ⟨[], nil, by simp only [hl]; rfl⟩
    | some v =>
      simp only
      split
      · obtain ⟨r, hr, h⟩ := runRecover_log cfg s1
        exact ⟨r, hr, by rw [h, hl, List.append_assoc]⟩
      · exact ⟨[], nil, by simp only [hl]; rfl⟩

theorem entryBody_logsAs (E : ReEnv) (cfg : Cfg) (e : Entry) (sr : SReq) :
    LogsAs (entryBody E cfg e sr) (chainEvents E cfg e sr) := by
  cases e with
  | dispatch => exact dispatch_logsAs E cfg sr
  | serveDispatch => exact serveWrapper_logsAs cfg sr _ _ (dispatch_logsAs E cfg sr)
  | muxHandle => exact handleWrapper_logsAs cfg sr _ _ (plainBody_logsAs cfg)
  | serveHandle => exact serveWrapper_logsAs cfg sr _ _ (handleWrapper_logsAs cfg sr _ _ (plainBody_logsAs cfg))
  | muxHandleF => exact handleWrapper_logsAs cfg sr _ _ (plainFilteredBody_logsAs cfg)
  | serveHandleF => exact serveWrapper_logsAs cfg sr _ _ (handleWrapper_logsAs cfg sr _ _ (plainFilteredBody_logsAs cfg))

theorem LogsAs.initial {body : St → St × Option Str × Nat} {X : List Event} (h : LogsAs body X) (sr : SReq) :
    ∃ r, AllRecover r ∧ (body (Serve.initial sr)).1.log.reverse = X ++ r := by
  obtain ⟨r, hr1, hr2⟩ := h (Serve.initial sr)
  refine ⟨r.reverse, fun ev hev => hr1 ev (List.mem_reverse.mp hev), ?_⟩
  have h0 : (Serve.initial sr).log = [] := rfl
  rw [hr2, h0]
  simp

theorem serve_log (E : ReEnv) (cfg : Cfg) (e : Entry) (w : World) (sr : SReq) :
    ∃ r, AllRecover r ∧ (serve E cfg e w sr).log = chainEvents E cfg e sr ++ r := by
  rw [serve_eq]
  exact (entryBody_logsAs E cfg e sr).initial sr

theorem userEvents_append_recover (k : Bool) (X r : List Event) (h : AllRecover r) : userEvents k (X ++ r) = userEvents k X := by
  have h1 : userEvents k (X ++ r) = userEvents k X ++ userEvents k r := by
    unfold userEvents
    exact List.filter_append ..
  have h2 : userEvents k r = [] := by
    unfold userEvents
    rw [List.filter_eq_nil_iff]
    intro ev hev
    rw [h ev hev]
    simp
  rw [h1, h2, List.append_nil]

theorem serve_userEvents (k : Bool) (E : ReEnv) (cfg : Cfg) (e : Entry) (w : World) (sr : SReq) :
    userEvents k (serve E cfg e w sr).log = userEvents k (chainEvents E cfg e sr) := by
  obtain ⟨r, hr1, hr2⟩ := serve_log E cfg e w sr
  rw [hr2, userEvents_append_recover k _ _ hr1]

/-- the stage that runs first in a chain -/
def nextStage (fs : List (Stage × Filter)) (t : Target) : Stage :=
  match fs with
  | [] => t.stage
  | (st, _) :: _ => st

/-- the Request/Response context the rest of the chain receives from filter `f` entered with `cx` -/
def innerCtx (f : Filter) (cx : Ctx) : Ctx :=
  match f.kind with
  | .replace => { attrs := [("who".toList, (toString f.id).toList)], params := [], selPath := [], wrappers := f.id :: cx.wrappers }
  | .middle => { cx with attrs := (attrsAfter f.pre cx.attrs).1, wrappers := f.id :: cx.wrappers }
  | _ => { cx with attrs := (attrsAfter f.pre cx.attrs).1 }

theorem chainLog_cons_passes (st : Stage) (f : Filter) (fs : List (Stage × Filter)) (t : Target) (cx : Ctx)
    (h : passesOn f = true) :
    ∃ cxP cxp cxr, chainLog ((st, f) :: fs) t cx =
      after (evOf st false cx) (chainLog fs t (innerCtx f cx)).1 (chainLog fs t (innerCtx f cx)).2.2 cxP
        (postPart st f cxp cxr) := by
  obtain ⟨hk, hn⟩ := (passesOn_iff f).mp h
  rw [chainLog_cons]
  simp only [attrsAfter_panics, hn, Bool.not_true, Bool.false_eq_true, if_false, innerCtx]
  cases hkind : f.kind with
  | stop => exact absurd hkind hk
  | pass => exact ⟨_, _, _, rfl⟩
  | replace => exact ⟨_, _, _, rfl⟩
  | middle => exact ⟨_, _, _, rfl⟩

theorem chainLog_cons_blocked (st : Stage) (f : Filter) (fs : List (Stage × Filter)) (t : Target) (cx : Ctx)
    (h : passesOn f = false) :
    (chainLog ((st, f) :: fs) t cx).1 =
      evOf st false cx ::
        (if noPanic f.pre then [evOf st true { cx with attrs := (attrsAfter f.pre cx.attrs).1 }] else []) ∧
    (noPanic f.pre = false → (chainLog ((st, f) :: fs) t cx).2.2 = true) := by
  rw [chainLog_cons]
  simp only [attrsAfter_panics]
  cases hn : noPanic f.pre with
  | false => simp
  | true =>
    have hk : f.kind = .stop := by
      cases hk : f.kind <;> simp [passesOn, hk, hn] at h ⊢
    simp [hk, after, postPart]

theorem chainLog_closed (fs : List (Stage × Filter)) (t : Target) (cx : Ctx)
    (hk : ∀ sf ∈ fs, sf.2.kind = .pass ∨ sf.2.kind = .stop)
    (hp : ∀ sf ∈ fs, noPanic sf.2.pre = true ∧ noPanic sf.2.post = true)
    (ht : noPanic t.script = true) :
    (chainLog fs t cx).2.2 = false ∧
    (chainLog fs t cx).1.map (fun ev => (ev.stage, ev.post)) =
      ((fs.take (fs.findIdx (fun sf => sf.2.kind == .stop) + 1)).map (fun sf => (sf.1, false))) ++
      (if fs.findIdx (fun sf => sf.2.kind == .stop) = fs.length then [(t.stage, false)] else []) ++
      ((fs.take (fs.findIdx (fun sf => sf.2.kind == .stop) + 1)).reverse.map (fun sf => (sf.1, true))) := by
  induction fs generalizing cx with
  | nil =>
    rw [chainLog_nil]
    exact ⟨attrsAfter_noPanic _ _ ht, by simp [evOf]⟩
  | cons sf fs ih =>
    obtain ⟨st, f⟩ := sf
    have hpf := hp (st, f) List.mem_cons_self
    have hpre := attrsAfter_noPanic f.pre cx.attrs hpf.1
    have hpost := fun a => attrsAfter_noPanic f.post a hpf.2
    rw [chainLog_cons]
    simp only [hpre, Bool.false_eq_true, if_false]
    rcases hk (st, f) List.mem_cons_self with hkind | hkind
    · simp only at hkind
      obtain ⟨ih1, ih2⟩ := ih { cx with attrs := (attrsAfter f.pre cx.attrs).1 }
        (fun sf h => hk sf (List.mem_cons_of_mem _ h)) (fun sf h => hp sf (List.mem_cons_of_mem _ h))
      have hne : (FKind.pass == FKind.stop) = false := by decide
      simp only [hkind, after, ih1, Bool.false_eq_true, if_false, postPart, hpost, List.findIdx_cons, hne, cond_false]
      refine ⟨trivial, ?_⟩
      simp only [List.map_cons, List.map_append, ih2]
      simp only [evOf, List.take_succ_cons, List.map_cons, List.reverse_cons, List.map_append, List.length_cons,
        Nat.add_right_cancel_iff, List.cons_append, List.append_assoc, List.map_nil]
    · simp only at hkind
      simp [hkind, after, postPart, hpost, List.findIdx_cons, evOf]

theorem label_stages (mk : Nat → Stage) (fs : List Filter) : (label mk fs).map (·.1) = fs.map (fun f => mk f.id) := by
  simp [label, Function.comp_def]

/-- the filter ids are distinct within each level -/
def DistinctIds (cfg : Cfg) : Prop :=
  (cfg.cfilters.map (·.id)).Nodup ∧ (∀ svc, ((svcX cfg svc).filters.map (·.id)).Nodup) ∧
    (∀ rid, ((routeX cfg rid).filters.map (·.id)).Nodup)

/-- it is enough to check the filters of the registered services and routes -/
theorem DistinctIds.of_registered {cfg : Cfg} (hc : (cfg.cfilters.map (·.id)).Nodup)
    (hs : ∀ sv ∈ cfg.svcs, (sv.filters.map (·.id)).Nodup) (hr : ∀ r ∈ cfg.routes, (r.filters.map (·.id)).Nodup) :
    DistinctIds cfg := by
  refine ⟨hc, fun svc => ?_, fun rid => ?_⟩
  · rcases svcX_mem cfg svc with hm | he
    · exact hs _ hm
    · rw [he]
      exact List.nodup_nil
  · rcases routeX_mem cfg rid with hm | he
    · exact hr _ hm
    · rw [he]
      exact List.nodup_nil

theorem label_nodup (mk : Nat → Stage) (hmk : ∀ a b, mk a = mk b → a = b) (fs : List Filter)
    (h : (fs.map (·.id)).Nodup) : ((label mk fs).map (·.1)).Nodup := by
  rw [label_stages]
  have : ((fs.map (·.id)).map mk).Nodup := List.Pairwise.map mk (fun a b hab hgab => hab (hmk a b hgab)) h
  rwa [List.map_map] at this

theorem allFilters_nodup (cfg : Cfg) (h : DistinctIds cfg) (svc rid : Nat) : ((allFilters cfg svc rid).map (·.1)).Nodup := by
  have h1 := label_nodup .cfilter (fun a b h => Stage.cfilter.inj h) _ h.1
  have h2 := label_nodup .sfilter (fun a b h => Stage.sfilter.inj h) _ (h.2.1 svc)
  have h3 := label_nodup .rfilter (fun a b h => Stage.rfilter.inj h) _ (h.2.2 rid)
  simp only [allFilters, List.map_append, List.nodup_append, List.mem_append]
  refine ⟨⟨h1, h2, ?_⟩, h3, ?_⟩
  · intro a ha b hb
    rw [label_stages, List.mem_map] at ha hb
    obtain ⟨_, _, rfl⟩ := ha
    obtain ⟨_, _, rfl⟩ := hb
    exact Stage.noConfusion
  · intro a ha b hb
    rw [label_stages, List.mem_map] at hb
    obtain ⟨_, _, rfl⟩ := hb
    rcases ha with ha | ha <;>
    · rw [label_stages, List.mem_map] at ha
      obtain ⟨_, _, rfl⟩ := ha
      exact Stage.noConfusion

def _root_.Restful.Serve.Stage.isFilter : Stage → Bool
  | .cfilter _ => true
  | .sfilter _ => true
  | .rfilter _ => true
  | _ => false

theorem label_isFilter (mk : Nat → Stage) (hmk : ∀ i, (mk i).isFilter = true) (fs : List Filter) :
    ∀ st ∈ (label mk fs).map (·.1), st.isFilter = true := by
  intro st h
  rw [label_stages, List.mem_map] at h
  obtain ⟨f, _, rfl⟩ := h
  exact hmk f.id

theorem allFilters_isFilter (cfg : Cfg) (svc rid : Nat) : ∀ st ∈ (allFilters cfg svc rid).map (·.1), st.isFilter = true := by
  intro st h
  simp only [allFilters, List.map_append, List.mem_append] at h
  rcases h with (h | h) | h
  · exact label_isFilter .cfilter (fun _ => rfl) _ st h
  · exact label_isFilter .sfilter (fun _ => rfl) _ st h
  · exact label_isFilter .rfilter (fun _ => rfl) _ st h

theorem chainOf_labels (E : ReEnv) (cfg : Cfg) (e : Entry) (sr : SReq) (fs : List (Stage × Filter)) (t : Target) (cx : Ctx)
    (h : chainOf E cfg e sr = some (fs, t, cx)) :
    (∀ st ∈ fs.map (·.1), st.isFilter = true) ∧ t.stage.isFilter = false ∧ (DistinctIds cfg → (fs.map (·.1)).Nodup) := by
  have hl : (∀ st ∈ (label .cfilter cfg.cfilters).map (·.1), st.isFilter = true) ∧
      (DistinctIds cfg → ((label .cfilter cfg.cfilters).map (·.1)).Nodup) :=
    ⟨label_isFilter .cfilter (fun _ => rfl) _, fun hd => label_nodup .cfilter (fun a b h => Stage.cfilter.inj h) _ hd.1⟩
  cases e
  case muxHandle | serveHandle =>
    cases h
    exact ⟨fun _ h => (nomatch h), rfl, fun _ => List.nodup_nil⟩
  case muxHandleF | serveHandleF =>
    cases h
    exact ⟨hl.1, rfl, hl.2⟩
  case dispatch | serveDispatch =>
    simp only [chainOf] at h
    split at h
    · cases h
    · generalize routeTagged E cfg.routing sr.req = o at h
      obtain ⟨o, tag⟩ := o
      cases o with
      | panic w => cases h
      | error c a =>
        cases h
        exact ⟨hl.1, rfl, hl.2⟩
      | selected svc rid ps =>
        cases h
        exact ⟨allFilters_isFilter cfg svc rid, rfl, fun hd => allFilters_nodup cfg hd svc rid⟩
end Chain
end Serve
end Restful
