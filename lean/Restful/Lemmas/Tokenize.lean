/- `tokenizePath` ignores one trailing slash (C14's key lemma) -/
import Restful.Model.Path
namespace Restful
open Str

theorem Str.trimRight_snoc (sep : Char) (s : Str) : trimRight sep (s ++ [sep]) = trimRight sep s := by
  simp [trimRight]

theorem Str.takeWhile_beq_all (c : Char) (s : Str) : ∀ x ∈ s.takeWhile (· == c), x = c :=
  fun x hx => by simpa using List.all_eq_true.mp List.all_takeWhile x hx

theorem Str.exists_ne_trimLeft {c : Char} {s : Str} (h : ∃ x ∈ s, x ≠ c) : ∃ x ∈ trimLeft c s, x ≠ c := by
  obtain ⟨x, hx, hne⟩ := h
  rw [← List.takeWhile_append_dropWhile (p := (· == c)) (l := s), List.mem_append] at hx
  rcases hx with hx | hx
  · exact absurd (takeWhile_beq_all c s x hx) hne
  · exact ⟨x, hx, hne⟩

theorem Str.trimLeft_append_of_exists (sep : Char) (s t : Str) (h : ∃ c ∈ s, c ≠ sep) :
    trimLeft sep (s ++ t) = trimLeft sep s ++ t := by
  obtain ⟨x, hx, _⟩ := exists_ne_trimLeft h
  unfold trimLeft at hx ⊢
  rw [List.dropWhile_append, if_neg]
  intro he
  rw [List.isEmpty_iff.mp he] at hx
  cases hx

theorem tokenize_trailing_slash (p : Str) (h : ∃ c ∈ p, c ≠ '/') : tokenize (p ++ ['/']) = tokenize p := by
  have h1 : p ++ ['/'] ≠ ['/'] := by
    intro hp
    obtain ⟨c, hc, _⟩ := h
    have : p = [] := by
      cases p with
      | nil => rfl
      | cons a t => simp at hp
    subst this; simp at hc
  have h2 : p ≠ ['/'] := by
    intro hp; subst hp
    obtain ⟨c, hc, hne⟩ := h
    simp only [List.mem_singleton] at hc
    exact hne hc
  simp only [tokenize, h1, h2, if_false, trim]
  rw [Str.trimLeft_append_of_exists _ _ _ h, Str.trimRight_snoc]

end Restful
