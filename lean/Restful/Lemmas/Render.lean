/-
String facts about rendered well-formed template tokens, and about request tokens
carrying a custom verb.  Everything the CurlyRouter walk inspects of a route token
(`hasPrefix "{"`, `index ':'`, `index '}'`, `regPart`, `customVerbOf`, `isTailWildcard`)
is computed here from the structured token.
-/
import Restful.Model.Curly
import Restful.Spec.Admits
import Restful.Lemmas.SplitOn
namespace Restful
open Str

theorem Str.index_eq_none_iff {c : Char} {s : Str} : index c s = none ↔ c ∉ s := by
  simp [index]

theorem Str.index_eq_none {c : Char} {s : Str} (h : c ∉ s) : index c s = none :=
  index_eq_none_iff.mpr h

theorem Str.index_cons_append_cons {c d : Char} (l r : Str) (hd : d ≠ c) (h : c ∉ l) :
    index c (d :: (l ++ c :: r)) = some (l.length + 1) := by
  simpa [index] using idxOf?_append_cons (c := c) (l := d :: l) (rest := r) (by simp [h, Ne.symm hd])

theorem Str.hasSuffix_iff {p s : Str} : hasSuffix p s = true ↔ ∃ pre, s = pre ++ p := by
  simp only [hasSuffix, List.isSuffixOf_iff_suffix]
  constructor
  · rintro ⟨t, rfl⟩; exact ⟨t, rfl⟩
  · rintro ⟨t, rfl⟩; exact ⟨t, rfl⟩

theorem Str.not_mem_of_all {p : Char → Bool} {s : Str} (h : s.all p = true) {c : Char} (hc : p c = false) :
    c ∉ s :=
  fun hm => by simpa [hc] using List.all_eq_true.mp h c hm

theorem nameOK_not_mem {n : Str} (h : nameOK n = true) :
    ':' ∉ n ∧ '{' ∉ n ∧ '}' ∉ n :=
  ⟨not_mem_of_all h (by decide), not_mem_of_all h (by decide), not_mem_of_all h (by decide)⟩

theorem litOK_not_mem {s : Str} (h : litOK s = true) :
    s ≠ [] ∧ ':' ∉ s ∧ '{' ∉ s ∧ '}' ∉ s := by
  simp only [litOK, Bool.and_eq_true, Bool.not_eq_true'] at h
  obtain ⟨hne, h⟩ := h
  exact ⟨by intro e; simp [e] at hne, not_mem_of_all h (by decide), not_mem_of_all h (by decide),
    not_mem_of_all h (by decide)⟩

theorem verbOK_not_mem {v : Str} (h : verbOK v = true) :
    v ≠ [] ∧ v.all isLetter = true ∧ ':' ∉ v := by
  simp only [verbOK, Bool.and_eq_true, Bool.not_eq_true'] at h
  obtain ⟨hne, hall⟩ := h
  exact ⟨by intro e; simp [e] at hne, hall, not_mem_of_all hall (by decide)⟩

theorem bne_colon_of_not_mem {s : Str} (h : ':' ∉ s) : ∀ a ∈ s.reverse, (a != ':') = true :=
  fun a ha => by simpa using fun e : a = ':' => h (e ▸ List.mem_reverse.mp ha)

theorem splitLastColon_no_colon {s : Str} (h : ':' ∉ s) : splitLastColon s = none := by
  have : s.reverse.dropWhile (· != ':') = [] := by
    simpa using List.dropWhile_append_of_pos (l₂ := []) (bne_colon_of_not_mem h)
  simp only [splitLastColon, this]

theorem splitLastColon_append {a v : Str} (h : ':' ∉ v) :
    splitLastColon (a ++ ':' :: v) = some (a, v) := by
  have hall := bne_colon_of_not_mem h
  have hrev : (a ++ ':' :: v).reverse = v.reverse ++ ':' :: a.reverse := by simp
  have hd : (v.reverse ++ ':' :: a.reverse).dropWhile (· != ':') = ':' :: a.reverse := by
    rw [List.dropWhile_append_of_pos hall]; simp
  have ht : (v.reverse ++ ':' :: a.reverse).takeWhile (· != ':') = v.reverse := by
    rw [List.takeWhile_append_of_pos hall]; simp
  simp only [splitLastColon, hrev, hd, ht, List.reverse_reverse]

theorem customVerbOf_no_colon {s : Str} (h : ':' ∉ s) : customVerbOf s = none := by
  simp only [customVerbOf, splitLastColon_no_colon h]

/-- the text after the last colon is not all letters -/
theorem customVerbOf_append_not_letter (x : Str) {c : Char} (hl : isLetter c = false) (hc : (c != ':') = true) :
    customVerbOf (x ++ [c]) = none := by
  unfold customVerbOf
  split
  · rename_i pre verb hs
    have hv : verb = ((c :: x.reverse).takeWhile (· != ':')).reverse := by
      unfold splitLastColon at hs
      simp only [List.reverse_append, List.reverse_cons, List.reverse_nil, List.nil_append,
        List.singleton_append] at hs
      split at hs
      · simp at hs
      · simp only [Option.some.injEq, Prod.mk.injEq] at hs
        exact hs.2.symm
    have : verb.all isLetter = false := by
      subst hv
      rw [List.takeWhile_cons]
      simp only [hc, if_true, List.reverse_cons, List.all_append, List.all_cons, List.all_nil, hl,
        Bool.false_and, Bool.and_false]
    simp [this]
  · rfl

theorem customVerbOf_append_rbrace (x : Str) : customVerbOf (x ++ ['}']) = none :=
  customVerbOf_append_not_letter x (by decide) (by decide)

theorem customVerbOf_append_verb {a v : Str} (hv : verbOK v = true) :
    customVerbOf (a ++ ':' :: v) = some (a, v) := by
  obtain ⟨hne, hall, hc⟩ := verbOK_not_mem hv
  have : v.isEmpty = false := by cases v <;> simp_all
  simp only [customVerbOf, splitLastColon_append hc, this, hall, Bool.not_false, Bool.and_self,
    if_true]

theorem Tok.hasPrefix_render {b : Tok} (h : b.wf = true) : hasPrefix ['{'] b.render = b.name?.isSome := by
  cases b with
  | lit s =>
    obtain ⟨hne, _, hb, _⟩ := litOK_not_mem (by simpa [Tok.wf] using h)
    cases s with
    | nil => exact absurd rfl hne
    | cons c s =>
      have : '{' ≠ c := fun e => hb (by simp [← e])
      simp [Tok.render, Tok.name?, hasPrefix, List.isPrefixOf, this]
  | _ => simp [Tok.render, Tok.name?, hasPrefix, List.isPrefixOf]

theorem Tok.re_ne_star {n e : Str} (h : (Tok.re n e).wf = true) : e ≠ ['*'] := by
  simp only [Tok.wf, reOK, Bool.and_eq_true] at h
  simpa using h.2.1.1.1.1

theorem Tok.index_colon_render {b : Tok} (h : b.wf = true) :
    index ':' b.render = match b with
      | .re n _ | .wild n => some (n.length + 1)
      | _ => none := by
  cases b with
  | lit s => exact index_eq_none (litOK_not_mem (s := s) (by simpa [Tok.wf] using h)).2.1
  | var n =>
    have := (nameOK_not_mem (by simpa [Tok.wf] using h)).1
    exact index_eq_none (by simp [Tok.render, this])
  | suf n s =>
    simp only [Tok.wf, Bool.and_eq_true] at h
    have h1 := (nameOK_not_mem h.1).1
    have h2 := (litOK_not_mem h.2).2.1
    exact index_eq_none (by simp [Tok.render, h1, h2])
  | re n e =>
    simp only [Tok.wf, Bool.and_eq_true] at h
    simpa [Tok.render] using index_cons_append_cons (d := '{') n (e ++ ['}']) (by decide) (nameOK_not_mem h.1).1
  | wild n =>
    simpa [Tok.render] using index_cons_append_cons (d := '{') n ['*', '}'] (by decide)
      (nameOK_not_mem (n := n) (by simpa [Tok.wf] using h)).1

theorem Tok.index_rbrace_render_var {n : Str} (h : (Tok.var n).wf = true) :
    index '}' (Tok.var n).render = some (n.length + 1) := by
  have := index_cons_append_cons (d := '{') n [] (by decide)
    (nameOK_not_mem (n := n) (by simpa [Tok.wf] using h)).2.2
  simpa [Tok.render] using this

theorem Tok.index_rbrace_render_suf {n s : Str} (h : (Tok.suf n s).wf = true) :
    index '}' (Tok.suf n s).render = some (n.length + 1) := by
  simp only [Tok.wf, Bool.and_eq_true] at h
  have := index_cons_append_cons (d := '{') n s (by decide) (nameOK_not_mem h.1).2.2
  simpa [Tok.render] using this

theorem Tok.drop_render_var (n : Str) : (Tok.var n).render.drop (n.length + 1 + 1) = [] := by
  simp [Tok.render]

theorem Tok.drop_render_suf (n s : Str) : (Tok.suf n s).render.drop (n.length + 1 + 1) = s := by
  have : '{' :: n ++ '}' :: s = ('{' :: n ++ ['}']) ++ s := by simp
  rw [Tok.render, this, List.drop_left' (by simp)]

theorem Tok.render_wild (n : Str) : (Tok.wild n).render = (Tok.re n ['*']).render := by
  simp [Tok.render]

theorem Tok.drop_render_re (n e : Str) : (Tok.re n e).render.drop (n.length + 1 + 1) = e ++ ['}'] := by
  have : '{' :: n ++ ':' :: e ++ ['}'] = ('{' :: n ++ [':']) ++ (e ++ ['}']) := by simp
  rw [Tok.render, this, List.drop_left' (by simp)]

theorem Tok.drop_render_wild (n : Str) : (Tok.wild n).render.drop (n.length + 1 + 1) = ['*', '}'] := by
  rw [Tok.render_wild, Tok.drop_render_re]
  rfl

theorem Tok.regPart_render_re (n e : Str) :
    Curly.regPart (Tok.re n e).render (n.length + 1) = some e := by
  have hlen : (Tok.re n e).render.length = n.length + e.length + 3 := by
    simp [Tok.render]; omega
  rw [Curly.regPart, slice?_eq_some _ (n.length + 1 + 1) (n.length + 1 + 1 + e.length) rfl (by rw [hlen]; omega)
    (by omega) (by omega), Tok.drop_render_re, Nat.add_sub_cancel_left, List.take_left' rfl]

theorem Tok.regPart_render_wild (n : Str) :
    Curly.regPart (Tok.wild n).render (n.length + 1) = some ['*'] := by
  rw [Tok.render_wild, Tok.regPart_render_re]

theorem Tok.customVerbOf_render {b : Tok} (h : b.wf = true) : customVerbOf b.render = none := by
  cases b with
  | re n e => exact customVerbOf_append_rbrace ('{' :: n ++ ':' :: e)
  | wild n =>
    rw [Tok.render_wild]
    exact customVerbOf_append_rbrace ('{' :: n ++ ':' :: ['*'])
  | _ => exact customVerbOf_no_colon (index_eq_none_iff.mp (Tok.index_colon_render h))

theorem TTok.wf_base {t : TTok} (h : t.wf = true) : t.base.wf = true := by
  simp only [TTok.wf, Bool.and_eq_true] at h; exact h.1

theorem TTok.wf_verb {t : TTok} {v : Str} (h : t.wf = true) (hv : t.verb = some v) :
    verbOK v = true ∧ t.base.isWild = false := by
  simp only [TTok.wf, hv, Bool.and_eq_true, Bool.not_eq_true'] at h; exact h.2

theorem TTok.wf_wild_verb {t : TTok} (h : t.wf = true) (hw : t.base.isWild = true) :
    t.verb = none := by
  cases hv : t.verb with
  | none => rfl
  | some v => have := (TTok.wf_verb h hv).2; simp [hw] at this

theorem TTok.render_of_verb_none {t : TTok} (hv : t.verb = none) : t.render = t.base.render := by
  simp [TTok.render, hv]

theorem TTok.render_of_verb_some {t : TTok} {v : Str} (hv : t.verb = some v) :
    t.render = t.base.render ++ ':' :: v := by
  simp [TTok.render, hv]

theorem TTok.customVerbOf_render {t : TTok} (h : t.wf = true) :
    customVerbOf t.render = t.verb.map (fun v => (t.base.render, v)) := by
  cases hv : t.verb with
  | none =>
    rw [TTok.render_of_verb_none hv]
    simpa using Tok.customVerbOf_render (TTok.wf_base h)
  | some v =>
    rw [TTok.render_of_verb_some hv]
    simpa using customVerbOf_append_verb (TTok.wf_verb h hv).1

theorem TTok.hasCustomVerb_render {t : TTok} (h : t.wf = true) :
    hasCustomVerb t.render = t.verb.isSome := by
  simp [hasCustomVerb, TTok.customVerbOf_render h]

theorem isTailWildcard_getLast? {rt : Str} (h : Curly.isTailWildcard rt = true) :
    rt.getLast? = some '}' := by
  unfold Curly.isTailWildcard at h
  split at h
  · rename_i colon _
    simp only [Bool.and_eq_true, beq_iff_eq] at h
    have h2 := congrArg List.getLast? h.2
    rw [List.getLast?_drop] at h2
    split at h2
    · simp at h2
    · simpa using h2
  · simp at h

theorem isTailWildcard_append_verb {a v : Str} (hv : verbOK v = true) :
    Curly.isTailWildcard (a ++ ':' :: v) = false := by
  obtain ⟨hne, hall, _⟩ := verbOK_not_mem hv
  cases hw : Curly.isTailWildcard (a ++ ':' :: v) with
  | false => rfl
  | true =>
    -- the token would end in `}`, which is then the last character of the verb
    have h := isTailWildcard_getLast? hw
    rw [show a ++ ':' :: v = (a ++ [':']) ++ v by simp, List.getLast?_append] at h
    cases hl : v.getLast? with
    | none => exact absurd (List.getLast?_eq_none_iff.mp hl) hne
    | some x =>
      rw [hl, Option.some_or, Option.some.injEq] at h
      have := List.all_eq_true.mp hall _ (List.mem_of_getLast? (h ▸ hl))
      revert this; decide

theorem Tok.isTailWildcard_render {b : Tok} (h : b.wf = true) :
    Curly.isTailWildcard b.render = b.isWild := by
  unfold Curly.isTailWildcard
  rw [Tok.index_colon_render h]
  cases b with
  | re n e =>
    have : e ++ ['}'] ≠ ['*'] ++ ['}'] := fun he => Tok.re_ne_star h (List.append_cancel_right he)
    simpa [Tok.drop_render_re, Tok.isWild] using fun _ => this
  | wild n => simp [Tok.drop_render_wild, Tok.hasPrefix_render h, Tok.name?, Tok.isWild]
  | _ => rfl

theorem TTok.isTailWildcard_render {t : TTok} (h : t.wf = true) :
    Curly.isTailWildcard t.render = t.base.isWild := by
  cases hv : t.verb with
  | none => rw [TTok.render_of_verb_none hv, Tok.isTailWildcard_render (TTok.wf_base h)]
  | some v =>
    obtain ⟨hvo, hw⟩ := TTok.wf_verb h hv
    rw [TTok.render_of_verb_some hv, isTailWildcard_append_verb hvo, hw]

theorem TTok.isTailWildcard_render' {t : TTok} (h : t.wf = true) :
    Curly.isTailWildcard t.render = (t.base.isWild && t.verb.isNone) := by
  rw [TTok.isTailWildcard_render h]
  cases hw : t.base.isWild with
  | false => rfl
  | true => simp [TTok.wf_wild_verb h hw]

theorem Spec.stripVerb_append (v pre : Str) : Spec.stripVerb v (pre ++ ':' :: v) = pre := by
  unfold Spec.stripVerb
  apply List.take_left'
  simp

theorem removeCustomVerb_eq_stripVerb {v q : Str} (hv : verbOK v = true)
    (hs : hasSuffix (':' :: v) q = true) : removeCustomVerb q = Spec.stripVerb v q := by
  obtain ⟨pre, rfl⟩ := hasSuffix_iff.mp hs
  rw [Spec.stripVerb_append, removeCustomVerb, customVerbOf_append_verb hv]

theorem TTok.isMatchCustomVerb_render {t : TTok} {v : Str} (h : t.wf = true)
    (hv : t.verb = some v) (q : Str) :
    isMatchCustomVerb t.render q = hasSuffix (':' :: v) q := by
  rw [TTok.render_of_verb_some hv, isMatchCustomVerb, customVerbOf_append_verb (TTok.wf_verb h hv).1]

theorem TTok.removeCustomVerb_render {t : TTok} (h : t.wf = true) :
    removeCustomVerb t.render = t.base.render := by
  rw [removeCustomVerb, TTok.customVerbOf_render h]
  cases hv : t.verb with
  | none => simp [TTok.render_of_verb_none hv]
  | some v => simp

/-- curly.go:70 and path_processor.go:25 both look for a verb on a route token only under the route's
    flag `hv`: on a checked token the test says whether the token carries one, and what is left of
    the token is its base -/
theorem TTok.verb_flag {t : TTok} (ht : t.wf = true) {hv : Bool} (hhv : t.verb.isSome = true → hv = true) :
    (hv && hasCustomVerb t.render) = t.verb.isSome ∧
    (if (hv && hasCustomVerb t.render) = true then removeCustomVerb t.render else t.render) = t.base.render := by
  rw [TTok.hasCustomVerb_render ht, TTok.removeCustomVerb_render ht]
  cases hverb : t.verb with
  | none => simp [TTok.render_of_verb_none hverb]
  | some v => simp [hhv (by simp [hverb])]

end Restful
