/-
`defaultPathProcessor.ExtractParameters` (path_processor.go:22) = `Params.extract`.  The loop lemmas
(`untokenize_loop`, `extract_loop`) are generic in the body: the generated body is only met as the instance
found by unification, and its one-step hypothesis is discharged by case analysis on the MODEL's scrutinees.
-/
import Restful.Lemmas.TieImpPath
import Restful.Lemmas.TieImpUntok
namespace Restful
namespace TieImp
namespace T4
open Imp
set_option linter.unusedSimpArgs false  -- see TieImpTactic

theorem slice_eq (s : Str) (i j : Int) : Imp.slice s i j = Str.slice? s i j := TieImp.slice_eq s i j

theorem untokenize_loop (parts : List Str)
    (f : Int → Str → Option (ForInStep Str))
    (hf : ∀ (k : Nat) (b : Str) (h : k < parts.length),
      f (k:Int) b = some (ForInStep.yield (if k + 1 < parts.length then b ++ parts[k] ++ ['/'] else b ++ parts[k]))) :
    ∀ (m k : Nat) (b : Str), parts.length = k + m →
      forIn (range (k:Int) (len parts)) b f = some (b ++ untokenize (parts.drop k)) :=
  T2.untok_loop parts f hf

/-- generic loop of `ExtractParameters`: ANY body `f` whose single step, continued by the model on
the remaining keys, is the model on `key :: keys`, computes the model's walk.  (`urlParts[k:]` is
the model's `url`; the enumeration index starts at `k`.) -/
theorem extract_loop (hasVerb : Bool) (urlParts : List Str)
    (f : Int × Str → Params → Option (ForInStep Params))
    (hf : ∀ (k : Nat) (key : Str) (keys : List Str) (ps : Params),
       (f ((k:Int), key) ps).bind (fun s => match s with
          | .done b => some b
          | .yield b => Params.extractWalk hasVerb keys (urlParts.drop (k+1)) b)
       = Params.extractWalk hasVerb (key :: keys) (urlParts.drop k) ps) :
    ∀ (keys : List Str) (k : Nat) (ps : Params),
      forIn ((keys.zipIdx k).map (fun p => (((p.2 : Nat) : Int), p.1))) ps f
        = Params.extractWalk hasVerb keys (urlParts.drop k) ps := by
  intro keys
  induction keys with
  | nil => intro k ps; simp [Params.extractWalk]
  | cons key keys ih =>
    intro k ps
    simp only [List.zipIdx_cons, List.map_cons, List.forIn_cons]
    rw [← hf]
    simp only [Option.bind_eq_bind, Option.pure_def]
    congr 1
    funext s
    cases s with
    | done b => rfl
    | yield b => exact ih (k+1) b

theorem lit_brace : "{".toList = ['{'] := rfl
theorem lit_colon : ":".toList = [':'] := rfl
theorem lit_close : "}".toList = ['}'] := rfl
theorem lit_star : "*".toList = ['*'] := rfl

theorem extract_parameters (rx : Str → Str → Bool × GoErr) (join : Str → Str → Str) (r : Route) (urlPath : Str) :
    ImpGen.defaultPathProcessor_ExtractParameters (extOf rx join) urlPath r.pathParts r.hasCustomVerb
      = Params.extract r urlPath := by
  unfold ImpGen.defaultPathProcessor_ExtractParameters Params.extract
  simp only [T2.tokenize_path (extOf rx join) rfl, Option.bind_eq_bind, Option.bind_some, enum]
  -- key by key: the body's step on key `k`, continued by the model on the remaining keys and `urlParts[k+1:]`, is the
  -- model on `key :: keys` and `urlParts[k:]`; a `break` (the `{name:*}` tail) ends both
  rw [extract_loop r.hasCustomVerb (tokenize urlPath)]
  · simp
  · intro k key keys ps
    simp only [extOf, extOfQ, T2.untokenize_path, mapSet_eq]
    rw [← List.tail_drop, Params.extractWalk]
    -- the value read from the URL is the head of `urlParts[k:]` (or "" past the end); the comparison of the
    -- index with `len urlParts` is decided whichever way round the code writes it
    have hv : ((((k:Int) < len (tokenize urlPath)) = True ∧ (len (tokenize urlPath) ≤ (k:Int)) = False)
          ∧ at? (tokenize urlPath) (k:Int) = some ((List.drop k (tokenize urlPath)).headD []))
        ∨ ((((k:Int) < len (tokenize urlPath)) = False ∧ (len (tokenize urlPath) ≤ (k:Int)) = True)
          ∧ "".toList = (List.drop k (tokenize urlPath)).headD []) := by
      by_cases hk : k < (tokenize urlPath).length
      · refine Or.inl ⟨⟨eq_true (by rw [len_eq]; omega), eq_false (by rw [len_eq]; omega)⟩, ?_⟩
        rw [at?_nat, List.getElem?_eq_getElem hk, List.drop_eq_getElem_cons hk]; rfl
      · refine Or.inr ⟨⟨eq_false (by rw [len_eq]; omega), eq_true (by rw [len_eq]; omega)⟩, ?_⟩
        rw [List.drop_of_length_le (by omega)]; rfl
    rcases hv with ⟨⟨h1, h1'⟩, h2⟩ | ⟨⟨h1, h1'⟩, h2⟩
    all_goals
      simp only [ge_iff_le, gt_iff_lt, Int.not_lt, Int.not_le, h1, h1', h2, decide_true, decide_false,
        Option.bind_some, Bool.false_eq_true, ↓reduceIte]
      generalize List.drop k (tokenize urlPath) = url
      generalize url.headD [] = value
      clear h1 h1' h2
      -- the custom verb is cut from both the key and the value
      obtain ⟨key', hkey'⟩ : ∃ key', key' = (if (r.hasCustomVerb && hasCustomVerb key) = true then removeCustomVerb key else key) := ⟨_, rfl⟩
      obtain ⟨value', hvalue'⟩ : ∃ value', value' = (if (r.hasCustomVerb && hasCustomVerb key) = true then removeCustomVerb value else value) := ⟨_, rfl⟩
      simp only [← hkey', ← hvalue']
      by_cases hverb : (r.hasCustomVerb && hasCustomVerb key) = true
      all_goals
        simp only [hverb, Bool.false_eq_true, ↓reduceIte] at hkey' hvalue' ⊢
        simp only [← hkey', ← hvalue']
        clear hkey' hvalue' hverb
        simp only [lit_brace, lit_colon, lit_close, lit_star, T2.containsSub_single, index_char, slice_eq, len_eq]
        cases h1 : Str.index '{' key' with
        | none => simp
        | some a =>
          have ha : (-1:Int) < a := by omega
          cases h2 : Str.index ':' key' with
          | some c =>
            simp [ha]
            cases key'.slice? (↑c + 1) (↑(List.length key') - 1) with
            | none => simp
            | some regPart =>
              cases key'.slice? 1 ↑c with
              | none => simp
              | some keyPart => by_cases hr : regPart = ['*'] <;> simp [hr]
          | none =>
            simp [ha]
            cases key'.slice? (↑a + 1)
                (match Str.index '}' key' with
                | some k => ↑k
                | none => -1) with
            | none => simp
            | some name =>
              simp
              cases (value'.slice? (↑a)
                  (↑(List.length value') -
                    ((↑(List.length key') -
                        match Str.index '}' key' with
                        | some k => ↑k
                        | none => -1) -
                      1))) with
              | none => simp
              | some v => simp

end T4
end TieImp
end Restful
