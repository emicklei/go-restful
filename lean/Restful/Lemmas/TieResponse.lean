/- Translated decision functions (Gen/Translated.lean) = the model's: Response accessors (C15). -/
import Restful.Gen.Translated
import Restful.Model.Response
namespace Restful
namespace Tie
open Translated

/-- response.go `Response.StatusCode()` -/
theorem response_status_code (st : Resp.State) :
    Response_StatusCode st.statusCode = (st.StatusCode : Int) := by
  unfold Response_StatusCode Resp.State.StatusCode
  cases st.statusCode <;> simp <;> omega

end Tie
end Restful
