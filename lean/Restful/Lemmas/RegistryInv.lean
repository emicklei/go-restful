/-
The invariant of every history that does not panic: root paths pairwise different, no ServeMux
pattern registered twice, and the ServeMux holds exactly (up to order) the patterns a new container
registers for the current services (`Spec.regFrom`: every wanted pattern once, for the first service
that wants it), plus the plain handlers registered since the last `Remove`.
-/
import Restful.Lemmas.RegistryReg
namespace Restful
namespace Registry
open List Str

/-- what `Add` registers on the ServeMux: nothing once a service sits on `/` -/
def addPats (st : State) (s : Svc) : List Str :=
  if st.onRoot then [] else Spec.newPatterns (mapped st.services) s.root

def added (st : State) (s : Svc) : State :=
  { st with mux := st.mux ++ (addPats st s).map dispE, onRoot := st.onRoot || Spec.isRootPattern s.root,
            services := st.services ++ [s] }

theorem addPats_sublist (st : State) (s : Svc) :
    (addPats st s).Sublist (Spec.newPatterns (mapped st.services) s.root) := by
  unfold addPats
  split
  · exact nil_sublist _
  · exact .refl _

theorem addPats_nodup (st : State) (s : Svc) : (addPats st s).Nodup :=
  (newPatterns_nodup _ _).sublist (addPats_sublist st s)

theorem addPats_sub {st : State} {s : Svc} : ∀ p ∈ addPats st s, p ∈ Spec.regPatterns s.root :=
  fun p hp => newPatterns_sub p ((addPats_sublist st s).subset hp)

theorem addPats_ne_nil {st : State} {s : Svc} : ∀ p ∈ addPats st s, p ≠ [] :=
  fun p hp => regPatterns_ne_nil p (addPats_sub p hp)

theorem any_root_eq (l : List Svc) (r : Str) : (l.any fun each => each.root == r) = decide (r ∈ roots l) := by
  rw [Bool.eq_iff_iff, List.any_eq_true, decide_eq_true_iff]
  simp [roots]

/-- container.go:98-101: a root path the container holds already is `os.Exit(1)` -/
theorem step_add_exit {st : State} {s : Svc} (h : s.root ∈ roots st.services) : step st (.add s) = .error .exit := by
  simp [step, any_root_eq, h]

theorem step_add_cases (st : State) {s : Svc} (hnew : s.root ∉ roots st.services) :
    (step st (.add s) = .ok (added st s) ∧ ∀ p ∈ addPats st s, p ∉ keys st.mux) ∨
    ∃ p ∈ addPats st s, p ∈ keys st.mux ∧ step st (.add s) = .error (.mux (.multiple p)) := by
  have hstep : step st (.add s) = (regList st.mux (addPats st s)).map fun t =>
      { st with mux := t, onRoot := st.onRoot || Spec.isRootPattern s.root, services := st.services ++ [s] } := by
    simp only [step, any_root_eq, hnew, decide_false, Bool.false_eq_true, if_false, addPats]
    cases ho : st.onRoot with
    | true => simp [regList, Except.map, ← ho]
    | false =>
      simp only [Bool.false_eq_true, if_false, addHandler_eq, Bool.false_or]
      cases regList st.mux (Spec.newPatterns (mapped st.services) s.root) <;> rfl
  rw [hstep]
  rcases regList_cases st.mux addPats_ne_nil (addPats_nodup st s) with ⟨h, hk⟩ | ⟨p, hp, hpk, h⟩
  · exact Or.inl ⟨by rw [h]; rfl, hk⟩
  · exact Or.inr ⟨p, hp, hpk, by rw [h]; rfl⟩

theorem step_add_ok {st st' : State} {s : Svc} (h : step st (.add s) = .ok st') :
    s.root ∉ roots st.services ∧ (∀ p ∈ addPats st s, p ∉ keys st.mux) ∧ st' = added st s := by
  by_cases hnew : s.root ∈ roots st.services
  · rw [step_add_exit hnew] at h; cases h
  · rcases step_add_cases st hnew with ⟨h', hk⟩ | ⟨p, _, _, h'⟩
    · exact ⟨hnew, hk, Except.ok.inj (h.symm.trans h')⟩
    · rw [h'] at h; cases h

theorem step_add_of {st : State} {s : Svc} (hnew : s.root ∉ roots st.services)
    (hk : ∀ p ∈ addPats st s, p ∉ keys st.mux) : step st (.add s) = .ok (added st s) := by
  rcases step_add_cases st hnew with ⟨h, _⟩ | ⟨p, hp, hpk, _⟩
  · exact h
  · exact absurd hpk (hk p hp)

/-- `Remove` never panics: the new ServeMux holds no plain handler, and the patterns re-registered
    for the remaining services are pairwise different -/
theorem step_remove (st : State) (root : Str) :
    step st (.remove root) = .ok { st with
      services := st.services.filter (·.root != root),
      mux := (Spec.regFrom (roots (st.services.filter (·.root != root))) [] false).map dispE,
      onRoot := Spec.flagFrom (roots (st.services.filter (·.root != root))) false,
      live := [] } := by
  have hm : mapped [] = [] := rfl
  simp only [step, rebuild_eq, hm]
  rw [regList_of (regFrom_ne_nil _ _ _) (regFrom_nodup' _) (fun _ _ => not_mem_nil)]
  rfl

/-- the state after a successful `Handle` -/
def handled (st : State) (p : Str) (id : Nat) : State :=
  { st with mux := st.mux ++ [plainE (p, id)], live := st.live ++ [(p, id)], handlers := st.handlers ++ [(p, id)] }

theorem step_handle (st : State) (p : Str) (id : Nat) :
    step st (.handle p id) = if p = [] then .error (.mux .invalidPattern)
      else if p ∈ keys st.mux then .error (.mux (.multiple p)) else .ok (handled st p id) := by
  simp only [step, reg_eq]
  by_cases hp : p = []
  · rw [if_pos hp, if_pos hp]
  · rw [if_neg hp, if_neg hp]
    by_cases hk : p ∈ keys st.mux
    · rw [if_pos hk, if_pos hk]
    · rw [if_neg hk, if_neg hk]
      rfl

theorem step_handle_ok {st st' : State} {p : Str} {id : Nat} (h : step st (.handle p id) = .ok st') :
    p ≠ [] ∧ p ∉ keys st.mux ∧ st' = handled st p id := by
  rw [step_handle] at h
  split at h
  · cases h
  · split at h
    · cases h
    · exact ⟨‹_›, ‹_›, (Except.ok.inj h).symm⟩

theorem dropRoute_root (s : Svc) (p m : Str) : (s.dropRoute p m).root = s.root := by
  unfold Svc.dropRoute
  split <;> rfl

theorem roots_onService (root : Str) (f : Svc → Svc) (hf : ∀ s, (f s).root = s.root) (l : List Svc) :
    roots (onService root f l) = roots l := by
  unfold roots onService
  rw [List.map_map]
  apply List.map_congr_left
  intro s _
  simp only [Function.comp]
  split
  · exact hf s
  · rfl

theorem roots_append (a b : List Svc) : roots (a ++ b) = roots a ++ roots b := by simp [roots]

structure Inv (st : State) : Prop where
  rootsNodup : (roots st.services).Nodup
  keys : Mux.Keys st.mux
  flag : st.onRoot = Spec.flagFrom (roots st.services) false
  perm : st.mux.Perm ((Spec.regFrom (roots st.services) [] false).map dispE ++ st.live.map plainE)
  liveNe : ∀ h ∈ st.live, h.1 ≠ []

theorem init_inv (k : RouterKind) : Inv (init k) := by
  refine ⟨?_, ?_, ?_, ?_, ?_⟩ <;> simp [init, roots, Mux.Keys, Spec.flagFrom, Spec.regFrom]

theorem Inv.congr {st st' : State} (inv : Inv st) (hr : roots st'.services = roots st.services)
    (hm : st'.mux = st.mux) (ho : st'.onRoot = st.onRoot) (hl : st'.live = st.live) : Inv st' := by
  obtain ⟨h1, h2, h3, h4, h5⟩ := inv
  refine ⟨hr ▸ h1, hm ▸ h2, ?_, ?_, hl ▸ h5⟩
  · rw [ho, hr]
    exact h3
  · rw [hm, hr, hl]
    exact h4

theorem regFrom_added {st : State} (hf : st.onRoot = Spec.flagFrom (roots st.services) false) (s : Svc) :
    Spec.regFrom (roots (st.services ++ [s])) [] false =
      Spec.regFrom (roots st.services) [] false ++ addPats st s := by
  rw [roots_append, addPats, hf, mapped_eq]
  exact regFrom_append _ _ _ _

theorem flagFrom_added {st : State} (hf : st.onRoot = Spec.flagFrom (roots st.services) false) (s : Svc) :
    Spec.flagFrom (roots (st.services ++ [s])) false = (st.onRoot || Spec.isRootPattern s.root) := by
  rw [roots_append, hf]
  exact (flagFrom_append _ _ _).trans (by cases Spec.flagFrom (roots st.services) false <;> rfl)

theorem step_inv {st st' : State} {op : Op} (inv : Inv st) (h : step st op = .ok st') : Inv st' := by
  cases op with
  | add s =>
    -- `regFrom_added` / `flagFrom_added`: with the new service a fresh container registers `addPats` more and
    -- has the flag `Add` sets, whether or not a service sits on `/` — no split on `onRoot`
    obtain ⟨hnew, hk, rfl⟩ := step_add_ok h
    refine ⟨?_, ?_, (flagFrom_added inv.flag s).symm, ?_, inv.liveNe⟩ <;> dsimp only [added]
    · rw [roots_append]
      exact nodup_append_of inv.rootsNodup (by simp [roots]) (by simpa [roots] using hnew)
    · show (keys _).Nodup
      rw [keys_append, keys_dispE]
      exact nodup_append_of inv.keys (addPats_nodup st s) hk
    · rw [regFrom_added inv.flag, List.map_append, List.append_assoc]
      exact (inv.perm.append_right _).trans (by rw [List.append_assoc]; exact .append_left _ perm_append_comm)
  | remove root =>
    rw [step_remove] at h
    obtain rfl := Except.ok.inj h
    refine ⟨inv.rootsNodup.sublist (filter_sublist.map _), ?_, rfl, by simp, nofun⟩
    show (keys (map dispE _)).Nodup
    rw [keys_dispE]
    exact regFrom_nodup' _
  | route root r =>
    obtain rfl := Except.ok.inj h
    exact inv.congr (roots_onService root (·.addRoute r) (fun _ => rfl) _) rfl rfl rfl
  | removeRoute root p m =>
    obtain rfl := Except.ok.inj h
    exact inv.congr (roots_onService root (·.dropRoute p m) (fun s => dropRoute_root s p m) _) rfl rfl rfl
  | handle p id =>
    obtain ⟨hp, hn, rfl⟩ := step_handle_ok h
    refine ⟨inv.rootsNodup, ?_, inv.flag, ?_, ?_⟩ <;> dsimp only [handled]
    · show (keys _).Nodup
      rw [keys_append]
      exact nodup_append_of inv.keys (by simp [keys]) (by simpa [keys, plainE] using hn)
    · simp only [List.map_append, List.map_cons, List.map_nil]
      rw [← List.append_assoc]
      exact inv.perm.append_right _
    · intro x hx
      rcases List.mem_append.mp hx with hx | hx
      · exact inv.liveNe x hx
      · exact mem_singleton.mp hx ▸ hp

theorem runFrom_cons_ok {st st' : State} {op : Op} {ops : List Op} (h : runFrom st (op :: ops) = .ok st') :
    ∃ s1, step st op = .ok s1 ∧ runFrom s1 ops = .ok st' := by
  simp only [runFrom] at h
  cases hs : step st op with
  | error e => rw [hs] at h; cases h
  | ok s1 => rw [hs] at h; exact ⟨s1, rfl, h⟩

theorem runFrom_keeps {P : State → Prop} (hP : ∀ {st st' op}, P st → step st op = .ok st' → P st')
    {ops : List Op} {st st' : State} (h0 : P st) (h : runFrom st ops = .ok st') : P st' := by
  induction ops generalizing st with
  | nil => exact Except.ok.inj h ▸ h0
  | cons op ops ih =>
    obtain ⟨s1, hs, h⟩ := runFrom_cons_ok h
    exact ih (hP h0 hs) h

theorem run_inv {k : RouterKind} {ops : List Op} {st : State} (h : run k ops = .ok st) : Inv st :=
  runFrom_keeps step_inv (init_inv k) h

theorem step_router {st st' : State} {op : Op} (h : step st op = .ok st') : st'.router = st.router := by
  cases op with
  | add s =>
    obtain ⟨_, _, rfl⟩ := step_add_ok h
    rfl
  | remove root =>
    rw [step_remove] at h
    obtain rfl := Except.ok.inj h
    rfl
  | route root r =>
    obtain rfl := Except.ok.inj h
    rfl
  | removeRoute root p m =>
    obtain rfl := Except.ok.inj h
    rfl
  | handle p id =>
    obtain ⟨_, _, rfl⟩ := step_handle_ok h
    rfl

theorem runFrom_router {ops : List Op} {st st' : State} (h : runFrom st ops = .ok st') : st'.router = st.router :=
  runFrom_keeps (P := fun s => s.router = st.router) (fun h0 hs => (step_router hs).trans h0) rfl h

end Registry
end Restful
