/- `RouterJSR311.detectRoute` on the routes as `genRoute` shows them: the instance `g := genRoute req` -/
import Restful.Lemmas.TieImpDetectG
namespace Restful
namespace TieImp
open Imp

theorem detect_route (X : ImpGen.Ext) (routes : List Route) (req : Req) :
    (ImpGen.RouterJSR311_detectRoute X (routes.map (genRoute req)) (genReq req)).map (fun p => (p.1, errView p.2))
      = some (ofDetect req (detectRoute routes req)) := by
  rw [ofDetect_eq]
  exact detect_route_g X req (genRoute req) (readsAs_genRoute req) routes

end TieImp
end Restful
