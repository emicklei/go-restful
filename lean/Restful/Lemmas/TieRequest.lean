/- Translated decision functions (Gen/Translated.lean) = the model's: request-side helpers (C01, C02). -/
import Restful.Gen.Translated
import Restful.Go.Str
namespace Restful
namespace Tie
open Translated

/-- route.go `stringTrimSpaceCutset`: the router's Accept / Content-Type test trims blanks only -/
theorem trim_space_cutset (c : Char) : stringTrimSpaceCutset c = Str.isSpaceOnly c := rfl

/-- request.go `Request.SelectedRoutePath()`: the empty string when no route was selected (what a
    stage behind a `replace` filter sees: `C01_selected_path_replace_witness`), the route's path
    otherwise -/
theorem selected_route_path (sel : Option Str) :
    Request_SelectedRoutePath sel.isNone (sel.getD []) = sel.getD [] := by
  cases sel <;> simp [Request_SelectedRoutePath]

end Tie
end Restful
