/- what a `selected` outcome of `routeCurly` / `routeJsr` comes from: the stages that produced it -/
import Restful.Model.Route
import Restful.Lemmas.Detect
import Restful.Lemmas.CurlySelect
import Restful.Lemmas.JsrSelect
import Restful.Lemmas.ReadTemplate
namespace Restful
variable (E : ReEnv)

/-- CurlyRouter: a WebService was detected, `detectRoute` returned one of its sorted candidates, the
    ids are read off that route and the parameters are those of the path processor -/
theorem routeCurly_selected {cfg : Config} {req : Req} {s r : Nat} {ps : Params}
    (h : (routeCurly E cfg req).1 = .selected s r ps) :
    ∃ svc sc cands rt, Curly.detectWebService E (tokenize req.path) cfg.services none = some (some (svc, sc)) ∧
      Curly.selectRoutes E svc.built (tokenize req.path) = some cands ∧ detectRoute cands req = .ok rt ∧
      rt.svc = s ∧ rt.id = r ∧ Params.extract rt req.path = some ps := by
  unfold routeCurly at h
  simp only at h
  split at h
  · simp at h
  · simp at h
  · rename_i svc sc hsvc
    split at h
    · simp at h
    · simp at h
    · rename_i cands _ hsel
      split at h
      · simp at h
      · rename_i rt hdet
        split at h
        · simp at h
        · rename_i ps' hext
          simp only [Outcome.selected.injEq] at h
          obtain ⟨h1, h2, rfl⟩ := h
          exact ⟨svc, sc, cands, rt, hsvc, hsel, hdet, h1, h2, hext⟩

theorem routeJsr_selected {cfg : Config} {req : Req} {s r : Nat} {ps : Params}
    (h : (routeJsr E cfg req).1 = .selected s r ps) :
    ∃ svc final cands rt, Jsr.detectDispatcher E cfg.services req.path = some (some (svc, final)) ∧
      Jsr.selectRoutes E svc.built final = some cands ∧ detectRoute cands req = .ok rt ∧
      rt.svc = s ∧ rt.id = r ∧ Jsr.extract E svc rt req.path = some ps := by
  unfold routeJsr at h
  split at h
  · simp at h
  · simp at h
  · rename_i svc final hdisp
    split at h
    · simp at h
    · simp at h
    · rename_i cands _ hsel
      split at h
      · simp at h
      · rename_i rt hdet
        split at h
        · simp at h
        · rename_i ps' hext
          simp only [Outcome.selected.injEq] at h
          obtain ⟨h1, h2, rfl⟩ := h
          exact ⟨svc, final, cands, rt, hdisp, hsel, hdet, h1, h2, hext⟩

end Restful
