/- membership facts about CurlyRouter's candidate selection -/
import Restful.Model.Curly
namespace Restful
namespace Curly
variable (E : ReEnv)

theorem candidates_mem : ∀ {routes : List Route} {qs : List Str} {cs : List Cand},
    candidates E routes qs = some cs → ∀ c ∈ cs,
      c.route ∈ routes ∧ matchTokens E c.route.pathParts qs c.route.hasCustomVerb = .yes c.paramCount c.staticCount
  | [], qs, cs, h, c, hc => by
    simp only [candidates, Option.some.injEq] at h
    subst h; simp at hc
  | r :: rs, qs, cs, h, c, hc => by
    unfold candidates at h
    split at h
    · simp at h
    · exact (candidates_mem h c hc).imp_left (List.mem_cons_of_mem _)
    · rename_i p s hm
      obtain ⟨cs', hrec, rfl⟩ := Option.map_eq_some_iff.mp h
      rcases List.mem_cons.mp hc with rfl | hc
      · exact ⟨List.mem_cons_self, hm⟩
      · exact (candidates_mem hrec c hc).imp_left (List.mem_cons_of_mem _)

theorem selectRoutes_mem {routes : List Route} {qs : List Str} {l : List Route}
    (h : selectRoutes E routes qs = some l) {r : Route} (hr : r ∈ l) :
    r ∈ routes ∧ ∃ p s, matchTokens E r.pathParts qs r.hasCustomVerb = .yes p s := by
  obtain ⟨cs, hc, rfl⟩ := Option.map_eq_some_iff.mp h
  obtain ⟨c, hcm, rfl⟩ := List.mem_map.mp hr
  have := candidates_mem E hc c ((Sort.insertionSort_perm candLess cs).subset hcm)
  exact ⟨this.1, _, _, this.2⟩

theorem detectWebService_mem (qs : List Str) : ∀ (svcs : List Service) (best : Option (Service × Nat)) (s : Service) (sc : Nat),
    detectWebService E qs svcs best = some (some (s, sc)) → s ∈ svcs ∨ best = some (s, sc)
  | [], best, s, sc, h => by
    simp only [detectWebService, Option.some.injEq] at h; exact Or.inr h
  | x :: xs, best, s, sc, h => by
    -- the loop goes on with `best` or with `x`
    have go : ∀ b', (b' = best ∨ ∃ n, b' = some (x, n)) → detectWebService E qs xs b' = some (some (s, sc)) →
        s ∈ x :: xs ∨ best = some (s, sc) := by
      intro b' hb' h'
      rcases detectWebService_mem qs xs b' s sc h' with hm | rfl
      · exact .inl (List.mem_cons_of_mem _ hm)
      · rcases hb' with rfl | ⟨n, hn⟩
        · exact .inr rfl
        · cases hn
          exact .inl List.mem_cons_self
    unfold detectWebService at h
    split at h
    · cases h
    · exact go _ (.inr ⟨_, rfl⟩) h
    · split at h
      · exact go _ (.inr ⟨_, rfl⟩) h
      · exact go _ (.inl rfl) h
    · exact go _ (.inl rfl) h

theorem detectWebService_mem_none {qs : List Str} {svcs : List Service} {s : Service} {sc : Nat}
    (h : detectWebService E qs svcs none = some (some (s, sc))) : s ∈ svcs := by
  rcases detectWebService_mem E qs svcs none s sc h with h' | h'
  · exact h'
  · simp at h'

end Curly
end Restful
