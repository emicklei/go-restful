/-
RouterJSR311's two candidate loops are `filterMap`s guarded by "every template compiles"; what a
member of the selection is.
-/
import Restful.Model.Jsr
namespace Restful
namespace Jsr
variable (E : ReEnv)

def rcandOf (rem : Str) (r : Route) : Option RouteCand :=
  match compile r.relPath with
  | none => none
  | some ex =>
    match matchExpr E ex.toks rem with
    | some (caps, final) =>
      if final.isEmpty || final = ['/'] then some ⟨r, caps.length + 1, ex.literalCount, ex.varCount⟩ else none
    | none => none

def rfails (r : Route) : Bool := (compile r.relPath).isNone

theorem routeCandidates_eq (rem : Str) : ∀ (routes : List Route),
    routeCandidates E routes rem = if routes.any rfails then none else some (routes.filterMap (rcandOf E rem))
  | [] => by simp [routeCandidates]
  | r :: rs => by
    rw [routeCandidates, routeCandidates_eq rem rs, List.any_cons, List.filterMap_cons]
    unfold rfails rcandOf
    cases hc : compile r.relPath with
    | none => simp
    | some ex =>
      simp only [Option.isNone_some, Bool.false_or]
      cases hm : matchExpr E ex.toks rem with
      | none => rfl
      | some cf =>
        obtain ⟨caps, final⟩ := cf
        simp only
        split
        · split <;> simp
        · rfl

theorem rcandOf_some {rem : Str} {r : Route} {c : RouteCand} (h : rcandOf E rem r = some c) :
    c.route = r ∧ ∃ ex caps final, compile r.relPath = some ex ∧ matchExpr E ex.toks rem = some (caps, final) ∧
      (final = [] ∨ final = ['/']) ∧ c.literalCount = ex.literalCount := by
  unfold rcandOf at h
  split at h
  · simp at h
  · rename_i ex hex
    split at h
    · rename_i caps final hm
      split at h
      · rename_i hf
        simp only [Option.some.injEq] at h
        subst h
        simp only [Bool.or_eq_true, List.isEmpty_iff, decide_eq_true_eq] at hf
        exact ⟨rfl, ex, caps, final, hex, hm, hf, rfl⟩
      · simp at h
    · simp at h

theorem rcandOf_of {rem : Str} {r : Route} {ex : Expr} {caps : List Str} {final : Str}
    (hex : compile r.relPath = some ex) (hm : matchExpr E ex.toks rem = some (caps, final))
    (hf : final = [] ∨ final = ['/']) :
    rcandOf E rem r = some ⟨r, caps.length + 1, ex.literalCount, ex.varCount⟩ := by
  unfold rcandOf
  simp only [hex, hm]
  rw [if_pos]
  rcases hf with rfl | rfl <;> simp

theorem routeCandidates_some {routes : List Route} {rem : Str} {cs : List RouteCand}
    (h : routeCandidates E routes rem = some cs) : cs = routes.filterMap (rcandOf E rem) := by
  rw [routeCandidates_eq] at h
  split at h
  · simp at h
  · exact (Option.some.inj h).symm
def dcandOf (path : Str) (s : Service) : Option DispCand :=
  match compile s.rootPath with
  | none => none
  | some ex =>
    match matchExpr E ex.toks path with
    | some (caps, final) => some ⟨s, final, caps.length + 2, ex.literalCount, ex.varCount⟩
    | none => none

def dfails (s : Service) : Bool := (compile s.rootPath).isNone

theorem dispCandidates_eq (path : Str) : ∀ (svcs : List Service),
    dispCandidates E svcs path = if svcs.any dfails then none else some (svcs.filterMap (dcandOf E path))
  | [] => by simp [dispCandidates]
  | s :: ss => by
    rw [dispCandidates, dispCandidates_eq path ss, List.any_cons, List.filterMap_cons]
    unfold dfails dcandOf
    cases hc : compile s.rootPath with
    | none => simp
    | some ex =>
      simp only [Option.isNone_some, Bool.false_or]
      cases hm : matchExpr E ex.toks path with
      | none => rfl
      | some cf =>
        obtain ⟨caps, final⟩ := cf
        simp only
        split <;> simp

theorem dcandOf_some {path : Str} {s : Service} {c : DispCand} (h : dcandOf E path s = some c) :
    ∃ ex caps, compile s.rootPath = some ex ∧ matchExpr E ex.toks path = some (caps, c.finalMatch) ∧
      c = ⟨s, c.finalMatch, caps.length + 2, ex.literalCount, ex.varCount⟩ := by
  unfold dcandOf at h
  split at h
  · simp at h
  · rename_i ex hex
    split at h
    · rename_i caps final hm
      simp only [Option.some.injEq] at h
      subst h
      exact ⟨ex, caps, hex, hm, rfl⟩
    · simp at h

theorem dcandOf_of {path : Str} {s : Service} {ex : Expr} {caps : List Str} {final : Str}
    (hex : compile s.rootPath = some ex) (hm : matchExpr E ex.toks path = some (caps, final)) :
    dcandOf E path s = some ⟨s, final, caps.length + 2, ex.literalCount, ex.varCount⟩ := by
  unfold dcandOf
  simp only [hex, hm]

theorem routeCandidates_mem {routes : List Route} {rem : Str} {cs : List RouteCand}
    (h : routeCandidates E routes rem = some cs) : ∀ c ∈ cs,
      c.route ∈ routes ∧ ∃ ex caps final, compile c.route.relPath = some ex ∧
        matchExpr E ex.toks rem = some (caps, final) ∧ (final = [] ∨ final = ['/']) := by
  intro c hc
  rw [routeCandidates_some E h, List.mem_filterMap] at hc
  obtain ⟨r, hr, hrc⟩ := hc
  obtain ⟨rfl, ex, caps, final, hex, hm, hf, _⟩ := rcandOf_some E hrc
  exact ⟨hr, ex, caps, final, hex, hm, hf⟩

theorem selectRoutes_mem {routes : List Route} {rem : Str} {l : List Route}
    (h : selectRoutes E routes rem = some l) {r : Route} (hr : r ∈ l) :
    r ∈ routes ∧ ∃ ex caps final, compile r.relPath = some ex ∧
      matchExpr E ex.toks rem = some (caps, final) ∧ (final = [] ∨ final = ['/']) := by
  unfold selectRoutes at h
  rw [Option.map_eq_some_iff] at h
  obtain ⟨cs, hc, rfl⟩ := h
  obtain ⟨c, hcm, rfl⟩ := List.mem_map.1 hr
  exact routeCandidates_mem E hc c ((Sort.insertionSort_perm routeCandLess cs).subset hcm)

theorem dispCandidates_mem {svcs : List Service} {path : Str} {cs : List DispCand}
    (h : dispCandidates E svcs path = some cs) : ∀ c ∈ cs,
      c.svc ∈ svcs ∧ ∃ ex caps, compile c.svc.rootPath = some ex ∧
        matchExpr E ex.toks path = some (caps, c.finalMatch) := by
  intro c hc
  rw [dispCandidates_eq] at h
  split at h
  · cases h
  · cases h
    obtain ⟨s, hs, hsc⟩ := List.mem_filterMap.1 hc
    obtain ⟨ex, caps, hex, hm, hceq⟩ := dcandOf_some E hsc
    have : c.svc = s := by rw [hceq]
    rw [this]
    exact ⟨hs, ex, caps, hex, hm⟩

theorem detectDispatcher_mem {svcs : List Service} {path : Str} {svc : Service} {final : Str}
    (h : detectDispatcher E svcs path = some (some (svc, final))) :
    svc ∈ svcs ∧ ∃ ex caps, compile svc.rootPath = some ex ∧ matchExpr E ex.toks path = some (caps, final) := by
  unfold detectDispatcher at h
  rw [Option.map_eq_some_iff] at h
  obtain ⟨cs, hc, h⟩ := h
  split at h
  · cases h
  · rename_i c rest heq
    cases h
    exact dispCandidates_mem E hc c ((Sort.insertionSort_perm dispCandLess cs).subset (heq ▸ List.mem_cons_self))

end Jsr
end Restful
