/- curly.go `CurlyRouter.detectWebService` = `Curly.detectWebService`, `CurlyRouter.selectRoutes` = `Curly.candidates`
   handed to an uninterpreted `sort.Sort`. -/
import Restful.Lemmas.TieImpVocab
import Restful.Lemmas.TieImpTactic
import Restful.Lemmas.TieImpScore
import Restful.Lemmas.TieImpMatch
namespace Restful
namespace TieImp
open Imp

namespace T8

abbrev DwState := Option ImpGen.GoWebService × Int

/-- the body of the loop of `detectWebService`, written by hand (matched against the generated body by `rfl`) -/
def dwBody (X : ImpGen.Ext) (qs : List Str) (each : Option ImpGen.GoWebService) (st : DwState) :
    Option (ForInStep DwState) := do
  let ws ← deref each
  let pe ← deref ws.pathExpr
  let r ← ImpGen.CurlyRouter_computeWebserviceScore X qs pe.tokens
  if (r.1 && decide (r.2 > st.2)) = true then pure (ForInStep.yield (each, r.2))
  else pure (ForInStep.yield (st.1, st.2))

/-- the accumulator of the code against the accumulator of the model: the code keeps the best service with its score and
    starts at score −1, the model keeps `none` or the best pair; a strictly greater score replaces the best on both sides,
    which is what `dw_loop` carries through the list -/
def DwInv (g : Service → ImpGen.GoWebService) : Option (Service × Nat) → DwState → Prop
  | none, st => st = (none, -1)
  | some (s, n), st => st = (some (g s), ((n : Nat) : Int))

theorem score_cases (rx : Str → Str → Bool × GoErr) (full : Str → Str → Bool) (join : Str → Str → Str)
    (qs toks : List Str) :
    match Curly.wsScoreE (envOf rx full) qs toks with
    | .panic => ImpGen.CurlyRouter_computeWebserviceScore (extOf rx join) qs toks = none
    | .no => ∃ n, ImpGen.CurlyRouter_computeWebserviceScore (extOf rx join) qs toks = some (false, n)
    | .yes sc => ImpGen.CurlyRouter_computeWebserviceScore (extOf rx join) qs toks = some (true, ((sc : Nat) : Int)) := by
  have h := T2.webservice_score rx full join qs toks
  generalize ImpGen.CurlyRouter_computeWebserviceScore (extOf rx join) qs toks = c at h ⊢
  -- `h` says what `c` is under the projection that forgets the partial score next to `false`
  generalize Curly.wsScoreE (envOf rx full) qs toks = m at h ⊢
  cases m with
  | panic => cases c with
    | none => rfl
    | some v => cases h
  | no => cases c with
    | none => cases h
    | some v =>
      obtain ⟨b, n⟩ := v
      cases b
      · exact ⟨n, rfl⟩
      · cases h
  | yes sc => cases c with
    | none => cases h
    | some v =>
      obtain ⟨b, n⟩ := v
      cases b
      · cases h
      · simp only [ofScore, scoreProj, Option.map_some, if_true, Option.some.injEq] at h
        rw [h]

theorem dw_loop (rx : Str → Str → Bool × GoErr) (full : Str → Str → Bool) (join : Str → Str → Str)
    (g : Service → ImpGen.GoWebService)
    (hg : ∀ s, ∃ pe, (g s).pathExpr = some pe ∧ pe.tokens = tokenize s.rootPath)
    (qs : List Str)
    (f : Option ImpGen.GoWebService → DwState → Option (ForInStep DwState))
    (hf : ∀ e st, f e st = dwBody (extOf rx join) qs e st) :
    ∀ (svcs : List Service) (best : Option (Service × Nat)) (st : DwState), DwInv g best st →
      (forIn (svcs.map (fun s => some (g s))) st f).map (fun st => st.1)
        = (Curly.detectWebService (envOf rx full) qs svcs best).map (fun o => o.map (fun p => g p.1)) := by
  intro svcs
  induction svcs with
  | nil =>
    intro best st hinv
    rcases best with _ | ⟨b, n⟩
    all_goals
      simp only [DwInv] at hinv
      subst hinv
      rfl
  | cons s ss ih =>
    intro best st hinv
    obtain ⟨pe, hpe, htok⟩ := hg s
    have hsc := score_cases rx full join qs (tokenize s.rootPath)
    rw [List.map_cons, List.forIn_cons, hf]
    simp only [dwBody, deref, hpe, htok, Option.bind_eq_bind, Option.bind_some]
    cases hm : Curly.wsScoreE (envOf rx full) qs (tokenize s.rootPath)
    all_goals
      rw [hm] at hsc
      simp only at hsc
    · obtain ⟨n, hn⟩ := hsc
      simp only [hn, Option.bind_some, Bool.false_and, Bool.false_eq_true, if_false, Option.pure_def]
      rw [show Curly.detectWebService (envOf rx full) qs (s :: ss) best = Curly.detectWebService (envOf rx full) qs ss best by
        rw [Curly.detectWebService.eq_def]; simp only [hm]]
      exact ih best _ hinv
    · rename_i sc
      simp only [hsc, Option.bind_some, Bool.true_and, Option.pure_def]
      rcases best with _ | ⟨b, n⟩
      all_goals
        simp only [DwInv] at hinv
        subst hinv
      · have hgt : ((sc : Nat) : Int) > (-1 : Int) := by omega
        rw [show Curly.detectWebService (envOf rx full) qs (s :: ss) none
              = Curly.detectWebService (envOf rx full) qs ss (some (s, sc)) by
          rw [Curly.detectWebService.eq_def]; simp only [hm]]
        rw [if_pos (decide_eq_true hgt)]
        exact ih (some (s, sc)) _ rfl
      · rw [show Curly.detectWebService (envOf rx full) qs (s :: ss) (some (b, n))
              = if sc > n then Curly.detectWebService (envOf rx full) qs ss (some (s, sc))
                else Curly.detectWebService (envOf rx full) qs ss (some (b, n)) by
          rw [Curly.detectWebService.eq_def]; simp only [hm]]
        by_cases hgt : sc > n
        · have hgt' : ((sc : Nat) : Int) > ((n : Nat) : Int) := by omega
          rw [if_pos (decide_eq_true hgt'), if_pos hgt]
          exact ih (some (s, sc)) _ rfl
        · have hgt' : ¬ ((sc : Nat) : Int) > ((n : Nat) : Int) := by omega
          rw [if_neg (by rw [decide_eq_false hgt']; exact Bool.false_ne_true), if_neg hgt]
          exact ih (some (b, n)) _ rfl
    · simp only [hsc, Option.bind_none]
      rw [show Curly.detectWebService (envOf rx full) qs (s :: ss) best = none by
        rw [Curly.detectWebService.eq_def]; simp only [hm]]
      rfl

end T8

/-- curly.go `CurlyRouter.detectWebService`: the first service with the strictly greatest score -/
theorem detect_web_service (rx : Str → Str → Bool × GoErr) (full : Str → Str → Bool) (join : Str → Str → Str)
    (g : Service → ImpGen.GoWebService)
    (hg : ∀ s, ∃ pe, (g s).pathExpr = some pe ∧ pe.tokens = tokenize s.rootPath)
    (qs : List Str) (svcs : List Service) :
    ImpGen.CurlyRouter_detectWebService (extOf rx join) qs (svcs.map (fun s => some (g s)))
      = (Curly.detectWebService (envOf rx full) qs svcs none).map (fun o => o.map (fun p => g p.1)) := by
  unfold ImpGen.CurlyRouter_detectWebService
  have key := fun f hf => T8.dw_loop rx full join g hg qs f hf svcs none (none, -1) rfl
  refine (bind_eq_map _ _ (·.1) ?_).trans (key _ (fun _ _ => by tie_step [T8.dwBody]))
  intro s
  rfl
#print axioms detect_web_service

namespace T8

/-- the body of the loop of `selectRoutes`, written by hand -/
def srBody (X : ImpGen.Ext) (qs : List Str) (each : ImpGen.GoRoute) (acc : List ImpGen.GoCurlyRoute) :
    Option (ForInStep (List ImpGen.GoCurlyRoute)) := do
  let r ← ImpGen.CurlyRouter_matchesRouteByPathTokens X each.pathParts qs each.hasCustomVerb
  if r.1 = true then
    pure (ForInStep.yield (push acc ({ route := each, paramCount := r.2.1, staticCount := r.2.2 } : ImpGen.GoCurlyRoute)))
  else pure (ForInStep.yield acc)

def genCand (g : Route → ImpGen.GoRoute) (c : Curly.Cand) : ImpGen.GoCurlyRoute :=
  { route := g c.route, paramCount := ((c.paramCount : Nat) : Int), staticCount := ((c.staticCount : Nat) : Int) }

/-- `matchesRouteByPathTokens` does not read the `sort.Sort` field of `Ext` -/
theorem match_tokens_srt (rx : Str → Str → Bool × GoErr) (full : Str → Str → Bool) (join : Str → Str → Str)
    (srt : List ImpGen.GoCurlyRoute → List ImpGen.GoCurlyRoute) (rts qs : List Str) (hv : Bool) :
    ImpGen.CurlyRouter_matchesRouteByPathTokens { extOf rx join with sort_Sort_sortableCurlyRoutes := srt } rts qs hv
      = ofMatch (Curly.matchTokens (envOf rx full) rts qs hv) :=
  (rfl : _ = ImpGen.CurlyRouter_matchesRouteByPathTokens (extOf rx join) rts qs hv).trans
    (match_tokens rx full join rts qs hv)

theorem sr_loop (rx : Str → Str → Bool × GoErr) (full : Str → Str → Bool) (join : Str → Str → Str)
    (srt : List ImpGen.GoCurlyRoute → List ImpGen.GoCurlyRoute)
    (g : Route → ImpGen.GoRoute)
    (hg : ∀ r, (g r).pathParts = r.pathParts ∧ (g r).hasCustomVerb = r.hasCustomVerb)
    (qs : List Str)
    (f : ImpGen.GoRoute → List ImpGen.GoCurlyRoute → Option (ForInStep (List ImpGen.GoCurlyRoute)))
    (hf : ∀ e acc, f e acc = srBody { extOf rx join with sort_Sort_sortableCurlyRoutes := srt } qs e acc) :
    ∀ (routes : List Route) (acc : List ImpGen.GoCurlyRoute),
      forIn (routes.map g) acc f
        = (Curly.candidates (envOf rx full) routes qs).map (fun cs => acc ++ cs.map (genCand g)) := by
  intro routes
  induction routes with
  | nil => intro acc; simp [Curly.candidates]
  | cons r rs ih =>
    intro acc
    rw [List.map_cons, List.forIn_cons, hf]
    simp only [srBody, (hg r).1, (hg r).2, match_tokens_srt rx full join srt]
    rw [Curly.candidates.eq_def]
    simp only []
    cases hm : Curly.matchTokens (envOf rx full) r.pathParts qs r.hasCustomVerb
    · simp only [ofMatch, Option.bind_eq_bind, Option.bind_some, Bool.false_eq_true, if_false, Option.pure_def]
      exact ih acc
    · rename_i p s
      simp only [ofMatch, Option.bind_eq_bind, Option.bind_some, if_true, Option.pure_def]
      rw [ih]
      cases Curly.candidates (envOf rx full) rs qs with
      | none => rfl
      | some cs => simp [push, genCand]
    · rfl

end T8

/-- curly.go `CurlyRouter.selectRoutes`: the matching routes with their counts, in table order, handed
    to `sort.Sort` (uninterpreted here: `srt`; the model applies Go's insertion sort with `candLess`,
    `Tie.curly_less` ties that comparison) -/
theorem select_routes (rx : Str → Str → Bool × GoErr) (full : Str → Str → Bool) (join : Str → Str → Str)
    (srt : List ImpGen.GoCurlyRoute → List ImpGen.GoCurlyRoute)
    (g : Route → ImpGen.GoRoute)
    (hg : ∀ r, (g r).pathParts = r.pathParts ∧ (g r).hasCustomVerb = r.hasCustomVerb)
    (ws0 : ImpGen.GoWebService) (pe : Option ImpGen.GoPathExpression) (routes : List Route) (qs : List Str) :
    ImpGen.CurlyRouter_selectRoutes { extOf rx join with sort_Sort_sortableCurlyRoutes := srt }
        (some { ws0 with pathExpr := pe, routes := routes.map g }) qs
      = (Curly.candidates (envOf rx full) routes qs).map (fun cs =>
          srt (cs.map (fun c => ({ route := g c.route, paramCount := ((c.paramCount : Nat) : Int), staticCount := ((c.staticCount : Nat) : Int) } : ImpGen.GoCurlyRoute)))) := by
  unfold ImpGen.CurlyRouter_selectRoutes
  have key := fun f hf => T8.sr_loop rx full join srt g hg qs f hf routes []
  simp only [deref, Option.bind_eq_bind, Option.bind_some]
  refine (bind_eq_map _ _ srt (fun _ => rfl)).trans
    ((congrArg (Option.map srt) (key _ (fun _ _ => by tie_step [T8.srBody]))).trans ?_)
  cases Curly.candidates (envOf rx full) routes qs with
  | none => rfl
  | some cs => simp only [Option.map_some, List.nil_append]; rfl
#print axioms select_routes
end TieImp
end Restful
