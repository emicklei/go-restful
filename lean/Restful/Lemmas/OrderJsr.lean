/-
C03 for RouterJSR311: at route level the selected route is never less specific than another
eligible route; among literal root paths the longest matching one is dispatched to; and for
literal roots the outcome does not depend on the order of registration.
-/
import Restful.Lemmas.OrderJsrPerm
import Restful.Lemmas.RouteSelected
import Restful.Lemmas.JsrParse
import Restful.Lemmas.JsrSlash
import Restful.Lemmas.DecideLits
namespace Restful
open Str

namespace Spec

/-- two different WebServices whose (literal) roots both match the request have different literal
    counts (RouterJSR311) -/
def jsrRootsSeparate (E : ReEnv) (cfg : Config) (req : Req) : Prop :=
  cfg.services.Pairwise (fun a b => ∀ exa exb ca fa cb fb,
    Jsr.compile a.rootPath = some exa → Jsr.compile b.rootPath = some exb →
    Jsr.matchExpr E exa.toks req.path = some (ca, fa) → Jsr.matchExpr E exb.toks req.path = some (cb, fb) →
    exa.literalCount ≠ exb.literalCount)

end Spec

variable (E : ReEnv)

theorem route_jsr {cfg : Config} (hk : cfg.router = .jsr) (req : Req) :
    route E cfg req = (routeJsr E cfg req).1 := by
  unfold route routeTagged
  rw [hk]

/-- what `routeJsr` does once the dispatcher (WebService and remainder) is detected -/
def jsrAfterSvc (svc : Service) (routes : List Route) (final : Str) (req : Req) : Outcome :=
  match Jsr.routeCandidates E routes final with
  | none => .panic "jsr.compile"
  | some cs =>
    finishWith (fun r => Jsr.extract E svc r req.path)
      ((Sort.insertionSort Jsr.routeCandLess cs).map (·.route)) req

theorem routeJsr_fst (cfg : Config) (req : Req) :
    (routeJsr E cfg req).1 =
      match Jsr.detectDispatcher E cfg.services req.path with
      | none => .panic "jsr.compile"
      | some none => .error 404 none
      | some (some (svc, final)) => jsrAfterSvc E svc svc.built final req := by
  unfold routeJsr jsrAfterSvc Jsr.selectRoutes finishWith
  rcases Jsr.detectDispatcher E cfg.services req.path with _ | _ | ⟨svc, final⟩
  · rfl
  · rfl
  simp only
  cases Jsr.routeCandidates E svc.built final with
  | none => rfl
  | some cs =>
    simp only [Option.map_some]
    generalize (Sort.insertionSort Jsr.routeCandLess cs).map (·.route) = cands
    rcases cands with _ | ⟨x, xs⟩
    · rfl
    simp only
    cases detectRoute (x :: xs) req with
    | error e => rfl
    | ok r =>
      simp only
      cases Jsr.extract E svc r req.path <;> rfl

/-- `rt` matches what the root leaves of the URL, and its literal count bounds that of every eligible
    matching route of `routes` -/
def Jsr.Best (routes : List Route) (final : Str) (req : Req) (rt : Route) : Prop :=
  ∃ ex caps f, Jsr.compile rt.relPath = some ex ∧ Jsr.matchExpr E ex.toks final = some (caps, f) ∧
    (f = [] ∨ f = ['/']) ∧
    ∀ rt' ∈ routes, ∀ ex' caps' f', Jsr.compile rt'.relPath = some ex' →
      Jsr.matchExpr E ex'.toks final = some (caps', f') → (f' = [] ∨ f' = ['/']) →
      Spec.eligible rt' req = true → ex'.literalCount ≤ ex.literalCount

/-- the route `detectRoute` returns comes from the first eligible candidate of the sorted list -/
theorem Jsr.selectRoutes_max {routes cands : List Route} {final : Str} {req : Req} {rt : Route}
    (hsel : Jsr.selectRoutes E routes final = some cands) (hok : detectRoute cands req = .ok rt) :
    Jsr.Best E routes final req rt := by
  unfold Jsr.selectRoutes at hsel
  rw [Option.map_eq_some_iff] at hsel
  obtain ⟨cs, hc, rfl⟩ := hsel
  obtain ⟨c, hcm, rfl, hmax⟩ :=
    detectRoute_sorted_max (·.route) Jsr.routeCandLess_trans Jsr.routeCandLess_asymm cs req hok
  have hcs := Jsr.routeCandidates_some E hc
  rw [hcs, List.mem_filterMap] at hcm
  obtain ⟨r0, _, hc0⟩ := hcm
  obtain ⟨rfl, ex, caps, f, hex, hm, hf, hlc⟩ := Jsr.rcandOf_some E hc0
  refine ⟨ex, caps, f, hex, hm, hf, fun rt' hrt' ex' caps' f' hex' hm' hf' hel' => ?_⟩
  have hc' : (⟨rt', caps'.length + 1, ex'.literalCount, ex'.varCount⟩ : Jsr.RouteCand) ∈ cs :=
    hcs ▸ List.mem_filterMap.mpr ⟨rt', hrt', Jsr.rcandOf_of E hex' hm' hf'⟩
  exact hlc ▸ Sort.lexStep_le (Jsr.routeCandLess_eq ▸ hmax _ hc' hel')

theorem routeJsr_selected_full {cfg : Config} {req : Req} {s r : Nat} {ps : Params}
    (h : (routeJsr E cfg req).1 = .selected s r ps) :
    ∃ svc final, Jsr.detectDispatcher E cfg.services req.path = some (some (svc, final)) ∧
      ∃ rt ∈ svc.built, svc.id = s ∧ rt.id = r ∧ ∃ wex wc,
      Jsr.compile svc.rootPath = some wex ∧ Jsr.matchExpr E wex.toks req.path = some (wc, final) ∧
      Jsr.Best E svc.built final req rt := by
  obtain ⟨svc, final, cands, rt, hdisp, hsel, hok, hs, hr, _⟩ := routeJsr_selected E h
  have hrt := (Jsr.selectRoutes_mem E hsel (detectRoute_ok hok).1).1
  obtain ⟨_, wex, wc, hwex, hwm⟩ := Jsr.detectDispatcher_mem E hdisp
  exact ⟨svc, final, hdisp, rt, hrt, (Service.built_svc svc hrt).symm.trans hs, hr, wex, wc, hwex, hwm,
    Jsr.selectRoutes_max E hsel hok⟩

/-- **C03 (RouterJSR311), never less specific**: the number of literal characters of any other
    matching, eligible route of the dispatched service is at most that of the selected one -/
theorem C03_jsr_never_less_specific (E : ReEnv) (cfg : Config) (req : Req) (s r : Nat) (ps : Params)
    (h : (routeJsr E cfg req).1 = .selected s r ps) :
    ∃ svc ∈ cfg.services, ∃ rt ∈ svc.built, svc.id = s ∧ rt.id = r ∧ ∃ final wex wc, Jsr.compile svc.rootPath = some wex ∧
      Jsr.matchExpr E wex.toks req.path = some (wc, final) ∧
      ∀ rt' ∈ svc.built, ∀ ex' caps' f', Jsr.compile rt'.relPath = some ex' → Jsr.matchExpr E ex'.toks final = some (caps', f') →
        (f' = [] ∨ f' = ['/']) → Spec.eligible rt' req = true →
        ∀ ex, Jsr.compile rt.relPath = some ex → ex'.literalCount ≤ ex.literalCount := by
  obtain ⟨svc, final, hdisp, rt, hrt, h1, h2, wex, wc, hwex, hwm, ex0, _, _, hex0, _, _, hmax⟩ :=
    routeJsr_selected_full E h
  refine ⟨svc, (Jsr.detectDispatcher_mem E hdisp).1, rt, hrt, h1, h2, final, wex, wc, hwex, hwm, ?_⟩
  intro rt' hrt' ex' caps' f' hex' hm' hf' hel' ex hex
  rw [hex0] at hex
  cases hex
  exact hmax rt' hrt' ex' caps' f' hex' hm' hf' hel'

/-- a literal root is never ranked by its captures: a matching literal root has at most as many
    literal characters as the literal root dispatched to (only the TWO roots compared need be literal) -/
theorem jsr_literal_root_le {svcs : List Service} {path : Str} {svc : Service} {final : Str}
    (h : Jsr.detectDispatcher E svcs path = some (some (svc, final)))
    {ex : Jsr.Expr} (hex : Jsr.compile svc.rootPath = some ex) (hlit : ∀ t ∈ ex.toks, ∃ l, t = .lit l)
    {s' : Service} (hs' : s' ∈ svcs) {ex' : Jsr.Expr} (hex' : Jsr.compile s'.rootPath = some ex')
    (hlit' : ∀ t ∈ ex'.toks, ∃ l, t = .lit l) {caps' : List Str} {f' : Str}
    (hm' : Jsr.matchExpr E ex'.toks path = some (caps', f')) : ex'.literalCount ≤ ex.literalCount := by
  obtain ⟨_, _, c, hc, _, hmax⟩ := Jsr.detectDispatcher_some_some E h
  obtain ⟨ex0, caps, hex0, hm, hceq⟩ := Jsr.dcandOf_some E hc
  rw [hex] at hex0
  cases hex0
  have hl := Jsr.allLit_counts E hex hlit
  have hl' := Jsr.allLit_counts E hex' hlit'
  have := hmax s' hs' _ (Jsr.dcandOf_of E hex' hm')
  rw [hceq, Jsr.dispCandLess_eq_false_iff] at this
  simp only [hl.2 _ _ _ hm, hl'.2 _ _ _ hm', hl.1, hl'.1, List.length_nil] at this
  omega

/-- **C03 (RouterJSR311), service level, literal roots**: among roots without variables, every
    matching root has at most as many literal characters as the one dispatched to -/
theorem C03_jsr_literal_root_longest (E : ReEnv) (svcs : List Service) (path : Str) (svc : Service) (final : Str)
    (hlit : ∀ s ∈ svcs, ∀ ex, Jsr.compile s.rootPath = some ex → ∀ t ∈ ex.toks, ∃ l, t = .lit l)
    (h : Jsr.detectDispatcher E svcs path = some (some (svc, final))) :
    ∀ s' ∈ svcs, ∀ ex' caps' f', Jsr.compile s'.rootPath = some ex' → Jsr.matchExpr E ex'.toks path = some (caps', f') →
      ∀ ex, Jsr.compile svc.rootPath = some ex → ex'.literalCount ≤ ex.literalCount :=
  fun s' hs' ex' _ _ hex' hm' ex hex =>
    jsr_literal_root_le E h hex (hlit svc (Jsr.detectDispatcher_some_some E h).2.1 ex hex) hs' hex'
      (hlit s' hs' ex' hex') hm'

theorem jsrAfterSvc_perm (svc : Service) {routes routes' : List Route} (hp : routes.Perm routes')
    (hd : routes.Pairwise (fun a b => a.method = b.method → a.path ≠ b.path)) (final : Str) (req : Req) :
    Spec.sameOutcome (jsrAfterSvc E svc routes final req) (jsrAfterSvc E svc routes' final req) := by
  unfold jsrAfterSvc
  rcases (Jsr.routeCandidates_perm E hp final).cases with ⟨h1, h2⟩ | ⟨cs, cs', hc, hc', hcp⟩
  · rw [h1, h2]
    trivial
  rw [hc, hc']
  refine finishWith_sort_perm (·.route) Jsr.routeCandLess_trans Jsr.routeCandLess_asymm _ hcp req ?_
  intro a ha b hb hea heb hab hba
  rw [Jsr.routeCandidates_some E hc, List.mem_filterMap] at ha
  rw [Jsr.routeCandidates_some E hc', List.mem_filterMap] at hb
  obtain ⟨ra, hra, hca⟩ := ha
  obtain ⟨rb, hrb, hcb⟩ := hb
  obtain rfl := (Jsr.rcandOf_some E hca).1
  obtain rfl := (Jsr.rcandOf_some E hcb).1
  -- a tie is the same path, hence (both being eligible) the same route
  have hroute : a.route = b.route :=
    eligible_route_unique hd hra (hp.symm.subset hrb) hea heb (Jsr.routeCandLess_antisymm a b hab hba).2.2.2
  rw [hroute, hcb] at hca
  exact (Option.some.inj hca).symm

theorem Jsr.dcandOf_congr {s s' : Service} (h : s.rootPath = s'.rootPath) (path : Str) :
    Jsr.dcandOf E path s' = (Jsr.dcandOf E path s).map (fun c => { c with svc := s' }) := by
  unfold Jsr.dcandOf
  rw [h]
  cases Jsr.compile s'.rootPath with
  | none => rfl
  | some ex =>
    simp only
    cases Jsr.matchExpr E ex.toks path with
    | none => rfl
    | some cf => rfl

/-- **C03 (RouterJSR311), order independence for literal roots**: for a route table whose
    (method, template) pairs are distinct within each WebService, whose root paths contain no
    variables, and a request on which no two matching roots have the same number of literal
    characters, the outcome is the same for every order of registration -/
theorem C03_jsr_order (E : ReEnv) (cfg cfg' : Config) (hperm : Spec.CfgPerm cfg cfg')
    (hd : Spec.distinctMethodPath cfg) (req : Req)
    (hlit : ∀ s ∈ cfg.services, ∀ ex, Jsr.compile s.rootPath = some ex → ∀ t ∈ ex.toks, ∃ l, t = .lit l)
    (hsep : Spec.jsrRootsSeparate E cfg req) :
    Spec.sameOutcome (routeJsr E cfg req).1 (routeJsr E cfg' req).1 := by
  have hlit' : ∀ s ∈ cfg'.services, ∀ ex, Jsr.compile s.rootPath = some ex → ∀ t ∈ ex.toks, ∃ l, t = .lit l :=
    (hperm.forall_iff fun hr => by rw [hr]).mp hlit
  have hfails := hperm.exists_iff (p := fun s => Jsr.compile s.rootPath = none) fun hr => by rw [hr]
  have hnones := hperm.forall_iff (p := fun s => Jsr.dcandOf E req.path s = none) fun hr => by
    rw [Jsr.dcandOf_congr E hr, Option.map_eq_none_iff]
  rw [routeJsr_fst, routeJsr_fst]
  by_cases hfail : ∃ s ∈ cfg.services, Jsr.compile s.rootPath = none
  · rw [Jsr.detectDispatcher_none E hfail, Jsr.detectDispatcher_none E (hfails.mp hfail)]
    trivial
  have hfail' := mt hfails.mpr hfail
  by_cases hmatch : ∀ s ∈ cfg.services, Jsr.dcandOf E req.path s = none
  · rw [Jsr.detectDispatcher_some_none E hfail hmatch, Jsr.detectDispatcher_some_none E hfail' (hnones.mp hmatch)]
    exact rfl
  -- some root matches: both registrations dispatch, each to a literal root that is longest among
  -- the matching ones of its table, hence (`hsep`) to the same root
  have hmatch' := mt hnones.mpr hmatch
  simp only [Classical.not_forall, ← ne_eq, Option.ne_none_iff_exists'] at hmatch hmatch'
  obtain ⟨s1, hs1, c1, hc1⟩ := hmatch
  obtain ⟨s1', hs1', c1', hc1'⟩ := hmatch'
  obtain ⟨svc, final, hdd⟩ := Jsr.detectDispatcher_isSome E hfail hs1 hc1
  obtain ⟨svc', final', hdd'⟩ := Jsr.detectDispatcher_isSome E hfail' hs1' hc1'
  rw [hdd, hdd']
  obtain ⟨toR, toL⟩ := hperm.pair
  obtain ⟨hsvc, ex, wc, hex, hm⟩ := Jsr.detectDispatcher_mem E hdd
  obtain ⟨hsvc', ex', wc', hex', hm'⟩ := Jsr.detectDispatcher_mem E hdd'
  obtain ⟨s0, hs0, hr0, hb0⟩ := toL svc' hsvc'
  obtain ⟨t0, ht0, hrt0, _⟩ := toR svc hsvc
  have hex0 : Jsr.compile s0.rootPath = some ex' := hr0 ▸ hex'
  have hext : Jsr.compile t0.rootPath = some ex := hrt0 ▸ hex
  have le1 := jsr_literal_root_le E hdd hex (hlit svc hsvc ex hex) hs0 hex0 (hlit s0 hs0 ex' hex0) hm'
  have le2 := jsr_literal_root_le E hdd' hex' (hlit' svc' hsvc' ex' hex') ht0 hext (hlit' t0 ht0 ex hext) hm
  obtain rfl : svc = s0 :=
    pairwise_eq_of_not hsep hsvc hs0 (fun hn => hn _ _ _ _ _ _ hex hex0 hm hm' (by omega))
      (fun hn => hn _ _ _ _ _ _ hex0 hex hm' hm (by omega))
  cases hex.symm.trans hex0
  cases hm.symm.trans hm'
  -- parameters are extracted against the root path, which the two services share
  have e : jsrAfterSvc E svc' svc'.built final req = jsrAfterSvc E svc svc'.built final req := by
    simp only [jsrAfterSvc, Jsr.extract, hr0]
  simp only [e]
  exact jsrAfterSvc_perm E svc hb0 (hd svc hsvc) final req

end Restful

namespace Restful
open Str

namespace Jsr
variable (E : ReEnv)

/-- literal characters of a structured relative template, as RouterJSR311 counts them -/
def jlit (ts : List TTok) : Nat := ((ts.map ofTTok).map litLen).sum

theorem jlit_cons (t : TTok) (ts : List TTok) : jlit (t :: ts) = litLen (ofTTok t) + jlit ts := by
  simp [jlit]

theorem compile_of_readToks' {p : Str} {a : List TTok}
    (hr : readToks (Spec.nonEmptyToks p) = some a) (hj : ∀ t ∈ a, Spec.tokJsrOK t = true) :
    ∃ ex, compile p = some ex ∧ ex.toks = a.map ofTTok ∧ ex.literalCount = jlit a := by
  have ⟨hrender, hwf⟩ := readToks_render hr
  unfold compile
  rw [parseToks_filter]
  have : (tokenize p).filter (fun t => !t.isEmpty) = a.map TTok.render := by
    rw [hrender]; rfl
  rw [this, parseToks_render a hwf hj]
  exact ⟨_, rfl, rfl, rfl⟩

/-- a token that is not the tail wildcard consumes exactly one segment; a literal is that segment -/
theorem matchExpr_step {t : TTok} (hw : t.wf = true) (hj : Spec.tokJsrOK t = true)
    (hnw : t.base.isWild = false) {rest : List JTok} {r : Str} {x : List Str × Str}
    (h : matchExpr E (ofTTok t :: rest) ('/' :: r) = some x) :
    (∃ y, matchExpr E rest (r.dropWhile (· != '/')) = some y) ∧
      (∀ l, t.base = .lit l → l = r.takeWhile (· != '/')) := by
  obtain ⟨base, verb⟩ := t
  obtain ⟨c, f⟩ := x
  obtain ⟨_, ct, rest', cs, hr, ht, hts, _⟩ := (matchExpr_cons_iff E).1 h
  cases hr
  cases verb with
  | some v => simp [Spec.tokJsrOK] at hj
  | none =>
    have hwb : base.wf = true := by simpa [TTok.wf] using hw
    obtain ⟨hok, rfl, _⟩ := (matchTok_ofTok E hwb hj hnw (matchExpr_some_starts E hts)).1 ht
    refine ⟨⟨_, hts⟩, ?_⟩
    rintro l rfl
    exact (beq_iff_eq.mp hok).symm

theorem Tok.isNone_name? {b : Tok} : b.name?.isNone = true ↔ ∃ l, b = .lit l := by
  cases b <;> simp [Tok.name?]

theorem litLen_of_named {t : TTok} (h : t.base.name?.isNone = false) : litLen (ofTTok t) = 0 := by
  obtain ⟨base, verb⟩ := t
  cases base with
  | lit l => simp [Tok.name?] at h
  | _ => rfl

theorem litLen_ofTTok (t : TTok) :
    litLen (ofTTok t) = match t.base with
      | .lit l => l.length
      | _ => 0 := by
  obtain ⟨base, verb⟩ := t
  cases base <;> rfl

/-- two structured templates of the same shape that both match the same remainder: the one with
    literals where the other has variables has more literal characters -/
theorem jlit_align : ∀ (ts' ts : List TTok) (rem : Str),
    (∀ t ∈ ts', t.wf = true) → (∀ t ∈ ts', Spec.tokJsrOK t = true) →
    (∀ t ∈ ts, t.wf = true) → (∀ t ∈ ts, Spec.tokJsrOK t = true) →
    Spec.atLeastAsSpecific ts' ts = true →
    (∃ x, matchExpr E (ts'.map ofTTok) rem = some x) → (∃ x, matchExpr E (ts.map ofTTok) rem = some x) →
    jlit ts ≤ jlit ts' ∧ (Spec.someStrict ts' ts = true → jlit ts < jlit ts')
  | [], [], _, _, _, _, _, _, _, _ => by simp [Spec.someStrict]
  | [], _ :: _, _, _, _, _, _, h, _, _ => by simp [Spec.atLeastAsSpecific] at h
  | _ :: _, [], _, _, _, _, _, h, _, _ => by simp [Spec.atLeastAsSpecific] at h
  | t' :: ts', t :: ts, rem, hw', hj', hw, hj, hal, ⟨x', hm'⟩, ⟨x, hm⟩ => by
    rw [Spec.atLeastAsSpecific, Bool.and_eq_true] at hal
    obtain ⟨hta, hal⟩ := hal
    simp only [Spec.tokAtLeast, Bool.and_eq_true, Bool.or_eq_true, Bool.not_eq_true', beq_iff_eq] at hta
    obtain ⟨⟨_, hlitrel⟩, hwild⟩ := hta
    simp only [List.map_cons] at hm' hm
    obtain ⟨r, rfl⟩ := matchExpr_cons_some E hm'
    have hwt' := hw' t' List.mem_cons_self
    have hwt := hw t List.mem_cons_self
    have hjt' := hj' t' List.mem_cons_self
    have hjt := hj t List.mem_cons_self
    rw [jlit_cons, jlit_cons]
    simp only [Spec.someStrict, Spec.tokStrict, Bool.or_eq_true, Bool.and_eq_true, Bool.not_eq_true']
    cases hwl : t'.base.isWild with
    | true =>
      -- both are the tail wildcard, hence last
      have hwl2 : t.base.isWild = true := by rw [← hwild]; exact hwl
      obtain ⟨n', hb'⟩ := Tok.eq_wild_of_isWild hwl
      obtain ⟨n, hb⟩ := Tok.eq_wild_of_isWild hwl2
      have e' : ts' = [] := by
        cases ts' with
        | nil => rfl
        | cons a as => simp [ofTTok, hb', ofTok, matchExpr] at hm'
      have e : ts = [] := by
        cases ts with
        | nil => rfl
        | cons a as => simp [ofTTok, hb, ofTok, matchExpr] at hm
      subst e' e
      rw [litLen_ofTTok, litLen_ofTTok, hb', hb]
      simp [jlit, Spec.TTok.isLit, hb', Tok.name?, Spec.someStrict]
    | false =>
      have hwl2 : t.base.isWild = false := by rw [← hwild]; exact hwl
      obtain ⟨⟨y', hy'⟩, hl'⟩ := matchExpr_step E hwt' hjt' hwl hm'
      obtain ⟨⟨y, hy⟩, hl⟩ := matchExpr_step E hwt hjt hwl2 hm
      have ih := jlit_align ts' ts _ (fun a ha => hw' a (List.mem_cons_of_mem _ ha))
        (fun a ha => hj' a (List.mem_cons_of_mem _ ha)) (fun a ha => hw a (List.mem_cons_of_mem _ ha))
        (fun a ha => hj a (List.mem_cons_of_mem _ ha)) hal ⟨y', hy'⟩ ⟨y, hy⟩
      simp only [Spec.TTok.isLit] at hlitrel ⊢
      cases hn' : t'.base.name?.isNone with
      | false =>
        -- neither token is a literal
        have hn : t.base.name?.isNone = false := by simpa [hn'] using hlitrel
        rw [litLen_of_named hn', litLen_of_named hn]
        simpa using ih
      | true =>
        obtain ⟨l', hb'⟩ := Tok.isNone_name?.mp hn'
        have hl'ne : 0 < l'.length := by
          have := hwt'
          simp only [TTok.wf, Bool.and_eq_true, hb', Tok.wf] at this
          exact List.length_pos_iff.mpr (litOK_spec this.1).1
        rw [litLen_ofTTok t', hb']
        cases hn : t.base.name?.isNone with
        | false =>
          rw [litLen_of_named hn]
          simp
          omega
        | true =>
          -- both are literals, and both are the segment matched
          obtain ⟨l, hb⟩ := Tok.isNone_name?.mp hn
          rw [litLen_ofTTok t, hb, hl l hb, ← hl' l' hb']
          simpa using ih

end Jsr

/-- a best route is not beaten: no eligible route matching the same remainder has a more specific
    structured template (`Jsr.jlit_align`) -/
theorem Jsr.Best.not_beaten (E : ReEnv) {svc : Service} {rt : Route} {req : Req} {final : Str}
    (hbest : Jsr.Best E svc.built final req rt)
    {rt' : Route} (hrt' : rt' ∈ svc.built) {ts ts' : List TTok}
    (hts : readToks (Spec.nonEmptyToks rt.relPath) = some ts)
    (hts' : readToks (Spec.nonEmptyToks rt'.relPath) = some ts')
    (hj : ∀ t ∈ ts, Spec.tokJsrOK t = true) (hj' : ∀ t ∈ ts', Spec.tokJsrOK t = true)
    {caps' : List Str} {f' : Str} (hm' : Jsr.matchExpr E (ts'.map Jsr.ofTTok) final = some (caps', f'))
    (hf' : f' = [] ∨ f' = ['/']) (hel' : Spec.eligible rt' req = true) : Spec.moreSpecific ts' ts = false := by
  obtain ⟨ex, caps, f, hex, hm, _, hmax⟩ := hbest
  obtain ⟨ex0, hex0, htoks, hlc⟩ := Jsr.compile_of_readToks' hts hj
  obtain ⟨ex', hex', htoks', hlc'⟩ := Jsr.compile_of_readToks' hts' hj'
  rw [hex] at hex0
  cases hex0
  have hle := hmax rt' hrt' ex' caps' f' hex' (by rw [htoks']; exact hm') hf' hel'
  cases hms : Spec.moreSpecific ts' ts with
  | false => rfl
  | true =>
    rw [Spec.moreSpecific, Bool.and_eq_true] at hms
    have := (Jsr.jlit_align E ts' ts final (readToks_render hts').2 hj' (readToks_render hts).2 hj hms.1
      ⟨_, hm'⟩ ⟨_, by rw [← htoks]; exact hm⟩).2 hms.2
    omega

end Restful

namespace Restful.C03JsrExample
open C03Example (rGet E0)

/-- `/users` with `GET /{id}`, `GET /me`, `POST /{id}` -/
def users : Service :=
  { id := 1, root := "/users".toList,
    routes := [rGet 10 "/{id}", rGet 11 "/me", { rGet 12 "/{id}" with method := "POST".toList }] }
def users' : Service :=
  { id := 1, root := "/users".toList,
    routes := [{ rGet 12 "/{id}" with method := "POST".toList }, rGet 11 "/me", rGet 10 "/{id}"] }
/-- `/users/admin` with `GET /{thing}`, `GET /x` -/
def admin : Service := { id := 2, root := "/users/admin".toList, routes := [rGet 20 "/{thing}", rGet 21 "/x"] }
def admin' : Service := { id := 2, root := "/users/admin".toList, routes := [rGet 21 "/x", rGet 20 "/{thing}"] }

def cfg : Config := { router := .jsr, services := [users, admin] }
def cfg' : Config := { router := .jsr, services := [admin', users'] }
/-- both roots match this request; the longer literal root is dispatched to, and there the literal
    route `/x` beats `/{thing}` -/
def req : Req := { method := "GET".toList, path := "/users/admin/x".toList }

theorem cfgPerm : Spec.CfgPerm cfg cfg' := by
  refine ⟨rfl, [admin, users], List.Perm.swap _ _ _, ?_⟩
  exact .cons ⟨rfl, rfl, rfl, rfl, List.Perm.swap _ _ _⟩ (.cons ⟨rfl, rfl, rfl, rfl, (List.reverse_perm _).symm⟩ .nil)

theorem wf : cfg.wfTemplates = true := by decide_lits [cfg, users, admin, rGet]
theorem idsDistinct : Spec.idsDistinct cfg = true := by decide_lits [cfg, users, admin, rGet]
theorem rootsRead : Jsr.rootsRead cfg = true := by decide_lits [cfg, users, admin, rGet]
theorem distinctB : Spec.distinctMethodPathB cfg = true := by decide_lits [cfg, users, admin, rGet]
theorem ne : cfg ≠ cfg' := by decide_lits [cfg, cfg', users, users', admin, admin', rGet]
theorem selected : (routeJsr E0 cfg req).1 = .selected 2 21 [] := by
  decide_lits [cfg, users, admin, rGet, req]
theorem selected' : (routeJsr E0 cfg' req).1 = .selected 2 21 [] := by
  decide_lits [cfg', users', admin', rGet, req]
theorem routed : route E0 cfg req = .selected 2 21 [] := (route_jsr E0 rfl req).trans selected
theorem routed' : route E0 cfg' req = .selected 2 21 [] := (route_jsr E0 rfl req).trans selected'

theorem distinct : Spec.distinctMethodPath cfg := Spec.distinctMethodPath_of_B distinctB

theorem cUsers : Jsr.compile users.rootPath = some ⟨[.lit "users".toList], 5, [], 0⟩ := by decide_lits [users]
theorem cAdmin : Jsr.compile admin.rootPath = some ⟨[.lit "users".toList, .lit "admin".toList], 10, [], 0⟩ := by
  decide_lits [admin]

theorem literalRoots : ∀ s ∈ cfg.services, ∀ ex, Jsr.compile s.rootPath = some ex → ∀ t ∈ ex.toks, ∃ l, t = .lit l := by
  intro s hs ex hex t ht
  simp only [cfg, List.mem_cons, List.not_mem_nil, or_false] at hs
  rcases hs with rfl | rfl
  · rw [cUsers] at hex
    cases hex
    simp only [List.mem_cons, List.not_mem_nil, or_false] at ht
    exact ⟨_, ht⟩
  · rw [cAdmin] at hex
    cases hex
    simp only [List.mem_cons, List.not_mem_nil, or_false] at ht
    rcases ht with rfl | rfl <;> exact ⟨_, rfl⟩

theorem separate : Spec.jsrRootsSeparate E0 cfg req := by
  unfold Spec.jsrRootsSeparate
  simp only [cfg, List.pairwise_cons, List.mem_cons, List.not_mem_nil, or_false, forall_eq,
    false_imp_iff, implies_true, List.Pairwise.nil, and_true]
  intro exa exb ca fa cb fb ha hb _ _
  rw [cUsers] at ha
  rw [cAdmin] at hb
  cases ha
  cases hb
  decide

/-- the hypotheses of `C03_jsr_order` hold of a concrete pair of configurations and a request on
    which both roots match; the two registrations differ, and the common outcome is the literal
    route `/x` of the longer root `/users/admin` -/
example : Spec.CfgPerm cfg cfg' ∧ Spec.distinctMethodPath cfg ∧ Spec.jsrRootsSeparate E0 cfg req ∧
    cfg ≠ cfg' ∧ (routeJsr E0 cfg req).1 = .selected 2 21 [] ∧
    Jsr.matchExpr E0 [.lit "users".toList] req.path = some ([], "/admin/x".toList) ∧
    Spec.sameOutcome (routeJsr E0 cfg req).1 (routeJsr E0 cfg' req).1 :=
  ⟨cfgPerm, distinct, separate, ne, selected, by decide_lits [req],
    by with_reducible exact C03_jsr_order E0 cfg cfg' cfgPerm distinct req literalRoots separate⟩

end Restful.C03JsrExample

namespace Restful
open Str
namespace Jsr
variable (E : ReEnv)

theorem matchTok_lit {l r : Str} {ct : List Str} {rest : Str} (h : matchTok E (.lit l) r = some (ct, rest)) :
    r = l ++ rest := by
  rw [matchTok] at h
  split at h
  · rename_i hp
    cases h
    exact (List.prefix_iff_eq_append.mp (List.isPrefixOf_iff_prefix.mp hp)).symm
  · cases h

theorem allLit_eq_of_match : ∀ (A B : List JTok) (p : Str),
    (∀ t ∈ A, ∃ l, t = .lit l ∧ l ≠ [] ∧ '/' ∉ l) → (∀ t ∈ B, ∃ l, t = .lit l ∧ l ≠ [] ∧ '/' ∉ l) →
    (∃ x, matchExpr E A p = some x) → (∃ x, matchExpr E B p = some x) →
    (A.map litLen).sum = (B.map litLen).sum → A = B
  | [], [], _, _, _, _, _, _ => rfl
  | [], b :: bs, _, _, hB, _, _, hsum => by
    obtain ⟨l, rfl, hne, _⟩ := hB _ List.mem_cons_self
    have : 0 < l.length := List.length_pos_iff.mpr hne
    simp only [List.map_cons, List.map_nil, List.sum_cons, List.sum_nil, litLen] at hsum
    omega
  | a :: as, [], _, hA, _, _, _, hsum => by
    obtain ⟨l, rfl, hne, _⟩ := hA _ List.mem_cons_self
    have : 0 < l.length := List.length_pos_iff.mpr hne
    simp only [List.map_cons, List.map_nil, List.sum_cons, List.sum_nil, litLen] at hsum
    omega
  | a :: as, b :: bs, p, hA, hB, ⟨⟨_, _⟩, hx⟩, ⟨⟨_, _⟩, hy⟩, hsum => by
    obtain ⟨la, rfl, _, hsa⟩ := hA _ List.mem_cons_self
    obtain ⟨lb, rfl, _, hsb⟩ := hB _ List.mem_cons_self
    obtain ⟨r, _, ra, _, rfl, hta, hx, _⟩ := (matchExpr_cons_iff E).1 hx
    obtain ⟨_, _, rb, _, hr, htb, hy, _⟩ := (matchExpr_cons_iff E).1 hy
    cases hr
    -- both literals are the first segment of `r`
    have ta := takeWhile_ne_append hsa (matchExpr_some_starts E hx)
    have tb := takeWhile_ne_append hsb (matchExpr_some_starts E hy)
    rw [← matchTok_lit E hta] at ta
    rw [← matchTok_lit E htb] at tb
    obtain rfl : la = lb := ta.1.symm.trans tb.1
    obtain rfl : ra = rb := ta.2.symm.trans tb.2
    rw [allLit_eq_of_match as bs ra (fun t ht => hA t (List.mem_cons_of_mem _ ht))
      (fun t ht => hB t (List.mem_cons_of_mem _ ht)) ⟨_, hx⟩ ⟨_, hy⟩ (by simpa [litLen] using hsum)]

end Jsr

/-- with literal roots, `jsrRootsSeparate` follows for every request from the property's own
    exclusion: no two WebServices have the same root token list -/
theorem Spec.jsrRootsSeparate_of_distinct (E : ReEnv) (cfg : Config) (req : Req)
    (hlit : ∀ s ∈ cfg.services, ∀ ex, Jsr.compile s.rootPath = some ex → ∀ t ∈ ex.toks, ∃ l, t = .lit l)
    (hdist : cfg.services.Pairwise (fun a b => ∀ exa exb, Jsr.compile a.rootPath = some exa →
      Jsr.compile b.rootPath = some exb → exa.toks ≠ exb.toks)) :
    Spec.jsrRootsSeparate E cfg req := by
  unfold Spec.jsrRootsSeparate
  refine List.Pairwise.imp_of_mem ?_ hdist
  intro a b ha hb hab exa exb ca fa cb fb hexa hexb hma hmb heq
  apply hab exa exb hexa hexb
  have oka := Jsr.compile_lit_ok hexa
  have okb := Jsr.compile_lit_ok hexb
  apply Jsr.allLit_eq_of_match E exa.toks exb.toks req.path
  · intro t ht
    obtain ⟨l, rfl⟩ := hlit a ha exa hexa t ht
    exact ⟨l, rfl, oka.1 l ht⟩
  · intro t ht
    obtain ⟨l, rfl⟩ := hlit b hb exb hexb t ht
    exact ⟨l, rfl, okb.1 l ht⟩
  · exact ⟨_, hma⟩
  · exact ⟨_, hmb⟩
  · rw [← oka.2, ← okb.2]; exact heq

end Restful
