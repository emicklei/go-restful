/- route_builder.go `RouteBuilder.Build` (with `newPathExpression` of path_expression.go and `Route.postBuild` of
   route.go) and `copyDefaults` = `Service.build` + `Jsr.compile`, seen through `routeView`. -/
import Restful.Lemmas.TieImpVocab
import Restful.Lemmas.TieImpTemplate
import Restful.Lemmas.TieImpPath
namespace Restful
namespace TieImp
open Imp

namespace T16

/-- `templateToRegularExpression` reads only three fields of `X` -/
theorem template_ext (X : ImpGen.Ext) (quote : Str → Str)
    (hT : X.TrimRightSlashEnabled = true) (hq : X.regexp_QuoteMeta = quote)
    (hts : X.strings_TrimSpace = Jsr.trimSpace) (tmpl : Str) :
    ImpGen.templateToRegularExpression X tmpl
      = ImpGen.templateToRegularExpression (extOfQ (fun _ _ => (false, none)) (fun a _ => a) quote) tmpl := by
  unfold ImpGen.templateToRegularExpression ImpGen.tokenizePath
  rw [hT, hq, hts]
  rfl

end T16

/-- what the routers read of a built Route (the documentation fields, the function and the filters are
    copied through: `Option Opaque` values nobody translated looks into) -/
def routeView (g : ImpGen.GoRoute) :=
  (g.Method, g.Path, g.Produces, g.Consumes, g.relativePath, g.pathParts, g.hasCustomVerb,
   g.allowedMethodsWithoutContentType,
   g.pathExpr.map (fun pe => (pe.LiteralCount, pe.VarNames, pe.VarCount, pe.Source, pe.tokens)))

/-- route_builder.go `RouteBuilder.Build` (with `newPathExpression`, `Route.postBuild`, `concatPath`,
    `tokenizePath`, `templateToRegularExpression`): the Route a builder yields IS the model's
    `Service.build` — method, full path `concatPath(root, sub)`, its tokens and custom-verb flag, the media
    lists as they stand in the builder (after `copyDefaults`), the relative path and its compiled
    expression (text, literal count, variable names and count, tokens) — for a builder that has a function
    and a template whose expression `regexp.Compile` accepts (`hc`; otherwise the library exits).  A slice
    panic while reading the template is `none` on both sides. -/
theorem build_route (X : ImpGen.Ext) (quote : Str → Str) (m : Str → Regexp)
    (hT : X.TrimRightSlashEnabled = true) (hcv : X.hasCustomVerb = Restful.hasCustomVerb)
    (hq : X.regexp_QuoteMeta = quote) (hts : X.strings_TrimSpace = Jsr.trimSpace)
    (hc : ∀ e : Str, X.regexp_Compile e = (m e, none))
    (s : Service) (r : RouteDecl) (b : ImpGen.GoRouteBuilder)
    (hb : b.rootPath = s.rootPath ∧ b.currentPath = r.relPath ∧ b.produces = s.producesOf r ∧
          b.consumes = s.consumesOf r ∧ b.httpMethod = r.method ∧ b.function.isSome = true ∧
          b.allowedMethodsWithoutContentType = r.noct) :
    (ImpGen.RouteBuilder_Build X (some b)).map routeView
      = (Jsr.compile r.relPath).map (fun ex =>
          ((s.build r).method, (s.build r).path, (s.build r).produces, (s.build r).consumes, (s.build r).relPath,
           (s.build r).pathParts, (s.build r).hasCustomVerb, (s.build r).noct,
           some (((ex.literalCount : Nat) : Int), ex.varNames, ((ex.varCount : Nat) : Int), exprText quote ex.toks, tokenize r.relPath))) := by
  obtain ⟨h1, h2, h3, h4, h5, h6, h7⟩ := hb
  have h6' : b.function.isNone = false := by
    cases hf : b.function with
    | none => rw [hf] at h6; exact absurd h6 (by decide)
    | some f => rfl
  unfold ImpGen.RouteBuilder_Build ImpGen.newPathExpression ImpGen.Route_postBuild
  simp only [hc, deref, Option.bind_eq_bind, Option.bind_some, Option.pure_def]
  rw [h2, T16.template_ext X quote hT hq hts, template_to_regex]
  cases Jsr.compile r.relPath with
  | none => rfl
  | some ex =>
    simp only [Option.map_some, Option.bind_some, Option.isSome_none, Bool.false_eq_true, if_false, h6', h6,
      T2.concat_path X hT, T2.tokenize_path X hT, hcv]
    rw [h1, h3, h4, h5, h7]
    by_cases ho : (len b.operation == 0) = true <;> by_cases hw : (len b.writeSamples == 1) = true
    all_goals simp only [ho, hw, if_true, if_false, Bool.false_eq_true, Option.bind_some]
    -- the code reads `writeSamples[0]` only when there is exactly one sample: that read cannot panic
    all_goals first
      | rfl
      | (cases hws : b.writeSamples with
         | nil => simp [hws, len] at hw
         | cons w t => rfl)

/-- route_builder.go `RouteBuilder.copyDefaults`: the WebService's media lists stand in for empty ones -/
theorem copy_defaults (X : ImpGen.Ext) (b : ImpGen.GoRouteBuilder) (rp rc : List Str) :
    ImpGen.RouteBuilder_copyDefaults X (some b) rp rc
      = some (some { b with produces := if b.produces.isEmpty then rp else b.produces,
                            consumes := if b.consumes.isEmpty then rc else b.consumes }) := by
  unfold ImpGen.RouteBuilder_copyDefaults
  simp only [deref, Option.bind_eq_bind, Option.bind_some, Option.pure_def, len_beq_zero']
  by_cases hp : b.produces.isEmpty = true <;> by_cases hc : b.consumes.isEmpty = true
  all_goals simp only [hp, hc, if_true, if_false, Bool.false_eq_true]

#print axioms build_route
#print axioms copy_defaults

end TieImp
end Restful

namespace Restful
namespace TieImp
open Imp

/-- `Build` on a builder without a function: the library logs and exits — no Route, whatever the template -/
theorem build_route_no_function (X : ImpGen.Ext) (b : ImpGen.GoRouteBuilder) (hf : b.function = none) :
    ImpGen.RouteBuilder_Build X (some b) = none := by
  unfold ImpGen.RouteBuilder_Build
  simp only [deref, bind, Option.bind, hf]
  cases ImpGen.newPathExpression X b.currentPath with
  | none => rfl
  | some p =>
    obtain ⟨pe, err⟩ := p
    cases err <;> simp [failure, Alternative.failure]

end TieImp
end Restful
