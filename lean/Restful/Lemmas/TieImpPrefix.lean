/- container.go `fixedPrefixPath` as translated on this run IS the model's -/
import Restful.Lemmas.TieImpBase
namespace Restful
namespace TieImp
namespace T2
open Imp
set_option linter.unusedSimpArgs false  -- see TieImpTactic

theorem fixed_prefix_path (X : ImpGen.Ext) (p : Str) :
    ImpGen.fixedPrefixPath X p = some (Registry.fixedPrefixPath p) := by 
  unfold ImpGen.fixedPrefixPath Registry.fixedPrefixPath
  simp only [String.reduceToList, index_char, containsSub_single]
  cases hi : Str.index '{' p with
  | none => simp
  | some k =>
    have := index_lt hi
    simp [sliceTo, slice]
    omega

end T2
end TieImp
end Restful
