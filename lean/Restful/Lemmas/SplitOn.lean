/-
Facts about the string operations of Go/Str.lean that the routing, media-type and tie proofs share:
how `split c` unfolds along `takeWhile`/`dropWhile` and that its pieces are free of `c`, when the
trims leave a string as it is, a slice within bounds (`slice?_eq_some`), the index of the first `c`.
-/
import Restful.Go.Str
import Restful.Model.Path
namespace Restful
open Str

namespace Str

/-- the text up to the next `c` -/
abbrev upTo (c : Char) (r : Str) : Str := r.takeWhile (· != c)
/-- the text from the next `c` on (empty, or starting with `c`) -/
abbrev from_ (c : Char) (r : Str) : Str := r.dropWhile (· != c)

theorem not_mem_takeWhile_ne (c : Char) (r : Str) : c ∉ r.takeWhile (· != c) :=
  fun h => by simpa using List.all_eq_true.mp List.all_takeWhile c h

theorem dropWhile_ne_cases (c : Char) (r : Str) :
    r.dropWhile (· != c) = [] ∨ ∃ r', r.dropWhile (· != c) = c :: r' := by
  induction r with
  | nil => simp
  | cons x xs ih =>
    by_cases h : x = c
    · subst h; right; exact ⟨xs, by simp⟩
    · simpa [List.dropWhile_cons, h] using ih

/-- `strings.Split(r, "/")` = the text up to the first slash, then the split of what follows it -/
theorem split_eq (c : Char) (r : Str) :
    split c r = r.takeWhile (· != c) ::
      (match r.dropWhile (· != c) with
       | [] => []
       | _ :: r' => split c r') := by
  have hr : r.takeWhile (· != c) ++ r.dropWhile (· != c) = r := List.takeWhile_append_dropWhile
  have hn := not_mem_takeWhile_ne c r
  rcases dropWhile_ne_cases c r with h | ⟨r', h⟩
  · rw [h]
    rw [h, List.append_nil] at hr
    rw [hr] at hn ⊢
    exact List.splitOn_eq_singleton hn
  · rw [h]
    rw [h] at hr
    show List.splitOn c r = _
    conv => lhs; rw [← hr]
    exact List.splitOn_append_cons_self_of_not_mem hn r'

theorem split_ne_nil (c : Char) (r : Str) : split c r ≠ [] := List.splitOn_ne_nil c r

theorem join_split (c : Char) (r : Str) : join [c] (split c r) = r := List.intercalate_splitOn c

theorem takeWhile_ne_append {c : Char} {l rest : Str} (hl : c ∉ l)
    (hrest : rest = [] ∨ ∃ r', rest = c :: r') :
    (l ++ rest).takeWhile (· != c) = l ∧ (l ++ rest).dropWhile (· != c) = rest := by
  have hall : ∀ a ∈ l, (a != c) = true := fun a ha => by simpa using fun e : a = c => hl (e ▸ ha)
  rw [List.takeWhile_append_of_pos hall, List.dropWhile_append_of_pos hall]
  rcases hrest with rfl | ⟨r', rfl⟩ <;> simp

theorem dropWhile_eq_self_of_head {p : Char → Bool} {s : Str} (h : ∀ x, s.head? = some x → p x = false) :
    s.dropWhile p = s := by
  cases s with
  | nil => rfl
  | cons x xs => simp [h x rfl]

theorem trimLeft_id {c : Char} {s : Str} (h : s.head? ≠ some c) : trimLeft c s = s := by
  apply dropWhile_eq_self_of_head
  intro x hx
  simp only [beq_eq_false_iff_ne, ne_eq]
  rintro rfl
  exact h hx

theorem trimRight_id {c : Char} {s : Str} (h : s.getLast? ≠ some c) : trimRight c s = s := by
  unfold trimRight
  rw [dropWhile_eq_self_of_head, List.reverse_reverse]
  intro x hx
  simp only [beq_eq_false_iff_ne, ne_eq]
  rintro rfl
  rw [List.head?_reverse] at hx
  exact h hx

theorem trim_id {c : Char} {s : Str} (h1 : s.head? ≠ some c) (h2 : s.getLast? ≠ some c) : trim c s = s := by
  unfold trim
  rw [trimLeft_id h1, trimRight_id h2]

theorem trim_id_of_not_mem {c : Char} {s : Str} (h : c ∉ s) : trim c s = s := by
  apply trim_id
  · intro hh; exact h (List.mem_of_head? hh)
  · intro hh; exact h (List.mem_of_getLast? hh)

/-- `s[i:j]` within bounds -/
theorem slice?_eq_some (s : Str) {i j : Int} (a b : Nat) (hi : i = a) (hj : j = b) (h : a ≤ b) (h2 : b ≤ s.length) :
    slice? s i j = some ((s.drop a).take (b - a)) := by
  subst hi hj
  unfold slice?
  rw [if_pos (by omega)]
  simp

theorem idxOf?_append_cons {c : Char} {l rest : Str} (hl : c ∉ l) :
    (l ++ c :: rest).idxOf? c = some l.length := by
  induction l with
  | nil => simp [List.idxOf?_cons]
  | cons x xs ih =>
    simp only [List.mem_cons, not_or] at hl
    have hx : x ≠ c := fun h => hl.1 h.symm
    simp [List.idxOf?_cons, hx, ih hl.2]

theorem not_mem_of_mem_split (c : Char) (s : Str) : ∀ x ∈ split c s, c ∉ x := by
  unfold split
  induction s with
  | nil => simp
  | cons y s ih =>
    rw [List.splitOn_cons_eq_if_modifyHead]
    split
    · simpa using ih
    · rename_i hy
      cases h : s.splitOn c with
      | nil => simp
      | cons z zs =>
        rw [h] at ih
        simp only [List.modifyHead_cons, List.mem_cons, forall_eq_or_imp] at ih ⊢
        exact ⟨fun hc => hc.elim (fun e => hy (beq_iff_eq.mpr e.symm)) ih.1, ih.2⟩

end Str
end Restful
