/- container.go `Container.computeAllowedMethods` = `Cors.computeAllowedMethods`; `genWS`: a service of the model as
   the `*WebService` it walks. -/
import Restful.Lemmas.TieImpVocab
import Restful.Lemmas.TieImpBridge
import Restful.Lemmas.TieImpTactic
namespace Restful
namespace TieImp
open Imp
set_option linter.unusedSimpArgs false  -- see TieImpTactic

/-- a service of the model as the `*WebService` the function walks; `mk` builds the Route value around
    the two fields that are read -/
def genWS (E : ReEnv) (mk : RouteDecl → Option ImpGen.GoPathExpression → ImpGen.GoRoute) (ws : Service) : ImpGen.GoWebService :=
  { rootPath := ws.rootPath, pathExpr := genPE E ws.rootPath, routes := ws.routes.map (fun rt => mk rt (genPE E rt.relPath)) }

namespace T9

/-- what the code does with `pe.Matcher.FindStringSubmatch(s)`: nothing on no match, else `k` of the last
    group; `none` = nil `pathExpr` -/
def onMatch {σ : Type} (E : ReEnv) (tmpl s : Str) (acc : σ) (k : Str → Option (ForInStep σ)) : Option (ForInStep σ) :=
  match Jsr.compile tmpl with
  | none => none
  | some ex =>
    match Jsr.matchExpr E ex.toks s with
    | some (_, last) => k last
    | none => some (.yield acc)

/-- the code's way of reading a compiled expression is `onMatch`, for ANY code `F` (it reads `pe.Matcher s`
    however it likes: nested `if matches != nil {…}` or a guard `if matches == nil { continue }`) that does
    nothing on no match and `k` of the last group on a match; `none` = nil `pathExpr` -/
theorem onMatch_gen {σ : Type} (E : ReEnv) (tmpl s : Str) (acc : σ) (k : Str → Option (ForInStep σ))
    (F : ImpGen.GoPathExpression → Option (ForInStep σ))
    (hF : ∀ pe : ImpGen.GoPathExpression,
      (pe.Matcher s = [] → F pe = some (ForInStep.yield acc)) ∧
      (∀ caps fin, pe.Matcher s = s :: (caps ++ [fin]) → F pe = k fin)) :
    (genPE E tmpl).bind F = onMatch E tmpl s acc k := by
  unfold onMatch genPE
  cases Jsr.compile tmpl with
  | none => rfl
  | some ex =>
    simp only [Option.map_some, Option.bind_some]
    cases hm : Jsr.matchExpr E ex.toks s with
    | none => exact (hF _).1 (by simp [reOf, hm])
    | some r =>
      obtain ⟨caps, fin⟩ := r
      exact (hF _).2 caps fin (by simp [reOf, hm])

def innerStep (E : ReEnv) (finalMatch : Str) (rt : RouteDecl) (acc : List Str) : Option (ForInStep (List Str)) :=
  onMatch E rt.relPath finalMatch acc (fun last =>
    if last = [] || last = ['/'] then some (.yield (acc ++ [rt.method])) else some (.yield acc))

/-- the inner loop, body abstract: appends left to right what the model conses -/
theorem inner_loop {ρ : Type} (E : ReEnv) (finalMatch : Str) (g : RouteDecl → ρ)
    (f : ρ → List Str → Option (ForInStep (List Str)))
    (hf : ∀ rt acc, f (g rt) acc = innerStep E finalMatch rt acc) :
    ∀ (rts : List RouteDecl) (acc : List Str),
      forIn (rts.map g) acc f = (Cors.routeMethods E rts finalMatch).map (acc ++ ·) := by
  intro rts
  induction rts with
  | nil => intro acc; simp [Cors.routeMethods]
  | cons rt rest ih =>
    intro acc
    rw [List.map_cons, List.forIn_cons, hf, Cors.routeMethods]
    unfold innerStep onMatch
    cases Jsr.compile rt.relPath with
    | none => rfl
    | some ex =>
      dsimp only
      cases Jsr.matchExpr E ex.toks finalMatch with
      | none => exact ih acc
      | some r =>
        obtain ⟨caps, last⟩ := r
        dsimp only
        by_cases h : (last = [] || last = ['/']) = true
        · rw [if_pos h, if_pos h]
          refine (ih _).trans ?_
          cases Cors.routeMethods E rest finalMatch <;> simp
        · rw [if_neg h, if_neg h]
          exact ih acc

def outerStep (E : ReEnv) (requestPath : Str) (ws : Service) (acc : List Str) : Option (ForInStep (List Str)) :=
  onMatch E ws.rootPath requestPath acc (fun finalMatch =>
    (Cors.routeMethods E ws.routes finalMatch).map (fun a => .yield (acc ++ a)))

theorem outer_loop {ρ : Type} (E : ReEnv) (requestPath : Str) (g : Service → ρ)
    (f : ρ → List Str → Option (ForInStep (List Str)))
    (hf : ∀ ws acc, f (g ws) acc = outerStep E requestPath ws acc) :
    ∀ (svcs : List Service) (acc : List Str),
      forIn (svcs.map g) acc f = (Cors.computeAllowedMethods E svcs requestPath).map (acc ++ ·) := by
  intro svcs
  induction svcs with
  | nil => intro acc; simp [Cors.computeAllowedMethods]
  | cons ws rest ih =>
    intro acc
    rw [List.map_cons, List.forIn_cons, hf, Cors.computeAllowedMethods]
    unfold outerStep onMatch
    cases Jsr.compile ws.rootPath with
    | none => rfl
    | some ex =>
      dsimp only
      cases Jsr.matchExpr E ex.toks requestPath with
      | none => exact ih acc
      | some r =>
        obtain ⟨caps, fm⟩ := r
        dsimp only
        cases Cors.routeMethods E ws.routes fm with
        | none => rfl
        | some a =>
          refine (ih _).trans ?_
          cases Cors.computeAllowedMethods E rest requestPath <;> simp

end T9

/-- container.go `Container.computeAllowedMethods` (OPTIONS filter, CORS preflight): every route, of
    every registered service whose expression matches the URL, whose own expression matches the rest up to
    an optional final slash contributes its method — as translated on this run IS the model's, with the
    compiled expressions read through the closed form (`reOf`); a nil `pathExpr` (template that does not
    compile) is a panic where the model says `none` -/
theorem compute_allowed_methods (E : ReEnv) (X : ImpGen.Ext)
    (mk : RouteDecl → Option ImpGen.GoPathExpression → ImpGen.GoRoute)
    (hmk : ∀ rt pe, (mk rt pe).Method = rt.method ∧ (mk rt pe).pathExpr = pe)
    (svcs : List Service) (hr : HttpRequest) :
    ImpGen.Container_computeAllowedMethods X (some { webServices := svcs.map (fun ws => some (genWS E mk ws)) }) (some { Request := hr })
      = Cors.computeAllowedMethods E svcs hr.path := by
  unfold ImpGen.Container_computeAllowedMethods
  unfold_gen_helpers
  simp only [deref, Option.bind_eq_bind, Option.bind_some, Option.pure_def]
  rw [T9.outer_loop E hr.path (fun ws => some (genWS E mk ws)) _ ?hf]
  case hf =>
    intro ws acc
    simp only [Option.bind_some]
    rw [show (genWS E mk ws).pathExpr = genPE E ws.rootPath from rfl,
        show (genWS E mk ws).routes = ws.routes.map (fun rt => mk rt (genPE E rt.relPath)) from rfl]
    unfold T9.outerStep
    -- (when the per-service part is a helper, its call is bound before the `append`: re-associate)
    try simp only [Option.bind_assoc]
    refine T9.onMatch_gen E _ _ acc _ _ (fun pe => ⟨fun h0 => ?_, fun caps finalMatch h1 => ?_⟩)
    · simp [h0]
    · simp only [h1, List.isEmpty_cons, Bool.not_false, Bool.not_true, Bool.false_eq_true, if_true, if_false,
        ↓reduceIte, at?_last_snoc, Option.bind_some, Option.pure_def, Option.bind_eq_bind]
      rw [T9.inner_loop E finalMatch (fun rt => mk rt (genPE E rt.relPath)) _ ?hf2]
      case hf2 =>
        intro rt acc
        rw [(hmk rt _).2, (hmk rt _).1]
        unfold T9.innerStep
        refine T9.onMatch_gen E _ _ acc _ _ (fun pe => ⟨fun h0 => ?_, fun caps last h1 => ?_⟩)
        · simp [h0]
        · simp only [h1, List.isEmpty_cons, Bool.not_false, Bool.not_true, Bool.false_eq_true, if_true, if_false,
            ↓reduceIte, at?_last_snoc, Option.bind_some, Option.pure_def, Option.bind_eq_bind]
          by_cases hl : (last = [] || last = ['/']) = true <;>
            simp_all [push]
      · cases Cors.routeMethods E ws.routes finalMatch <;> rfl
  · cases Cors.computeAllowedMethods E svcs hr.path <;> simp

#print axioms compute_allowed_methods

end TieImp
end Restful
