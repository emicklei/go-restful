/-
C18, part 1: on a normal request path the two routers segment the path the same way, and a
template of the common fragment (literals and plain variables) admits the same requests with the
same expected parameters under both readings.
-/
import Restful.Spec.Common
import Restful.Spec.Params
import Restful.Lemmas.SplitOn
import Restful.Lemmas.Tokenize
import Restful.Lemmas.JsrMatch
namespace Restful
open Str

namespace Str

theorem split_snoc (c : Char) : ∀ (s : Str), split c (s ++ [c]) = split c s ++ [[]]
  | [] => by
    show List.splitOn c [c] = List.splitOn c [] ++ [[]]
    rw [List.splitOn_cons_eq_if_modifyHead]
    simp
  | x :: xs => by
    have ih := split_snoc c xs
    show List.splitOn c (x :: (xs ++ [c])) = List.splitOn c (x :: xs) ++ [[]]
    rw [List.splitOn_cons_eq_if_modifyHead, List.splitOn_cons_eq_if_modifyHead]
    have ih' : List.splitOn c (xs ++ [c]) = List.splitOn c xs ++ [[]] := ih
    rw [ih']
    split
    · rfl
    · have hne := List.splitOn_ne_nil c xs
      cases hsp : List.splitOn c xs with
      | nil => exact absurd hsp hne
      | cons h t => rfl

theorem join_cons_snoc (c : Char) (x : Str) (rest : List Str) :
    join [c] (x :: (rest ++ [[]])) = x ++ c :: join [c] (rest ++ [[]]) := by
  cases rest <;> simp [join, List.intercalate, List.intersperse]

/-- a text whose last piece is empty is empty or ends with the separator: it is its pieces joined -/
theorem split_getLast_nil (c : Char) (s : Str) (h : (split c s).getLast? = some []) :
    s = [] ∨ s.getLast? = some c := by
  have hj := join_split c s
  rw [getLast?_dropLast_eq h] at hj
  rw [← hj]
  generalize (split c s).dropLast = init
  induction init with
  | nil => left; rfl
  | cons x rest ih =>
    right
    rw [List.cons_append, join_cons_snoc, List.getLast?_append, List.getLast?_cons]
    rcases ih with h | h <;> simp [h]

/-- a text all of whose `/`-separated pieces are non-empty neither starts nor ends with `/`: after a
    leading slash its tokens are those pieces -/
theorem tokenize_of_segs_ne {r : Str} (h : ∀ q ∈ split '/' r, q ≠ []) :
    tokenize ('/' :: r) = split '/' r ∧ ∃ c ∈ '/' :: r, c ≠ '/' := by
  have hhead : r.head? ≠ some '/' := by
    intro hh
    obtain ⟨xs, rfl⟩ : ∃ xs, r = '/' :: xs := by
      cases r with
      | nil => cases hh
      | cons x xs => exact ⟨xs, by rw [Option.some.inj hh]⟩
    exact h [] (List.mem_of_head? (by rw [split_eq]; simp : (split '/' ('/' :: xs)).head? = some [])) rfl
  have hne : r ≠ [] := by
    rintro rfl
    exact h [] (by simp [split, List.splitOn_nil]) rfl
  have hlast : r.getLast? ≠ some '/' := by
    intro hl
    rw [getLast?_dropLast_eq hl, split_snoc] at h
    exact h [] (by simp) rfl
  constructor
  · have hne' : '/' :: r ≠ ['/'] := by simpa using hne
    have hl : trimLeft '/' ('/' :: r) = r := by
      simp only [trimLeft, List.dropWhile_cons, beq_self_eq_true, if_true]
      exact trimLeft_id hhead
    simp only [tokenize, hne', if_false, trim]
    rw [hl, trimRight_id hlast]
  · cases r with
    | nil => exact absurd rfl hne
    | cons x xs => exact ⟨x, by simp, fun hx => hhead (by rw [hx]; rfl)⟩

end Str

namespace Spec

/-- what a normal path is: `/` followed by non-empty, slash-free segments joined by `/`, and
    possibly one trailing `/`; both routers' segmentations, minus the final empty raw segment -/
theorem normalPath_spec {p : Str} (hp : normalPath p = true) :
    ∃ r body, p = '/' :: r ∧ '\n' ∉ r ∧ tokenize p = body ∧ (∀ q ∈ body, q ≠ []) ∧
      (split '/' r = body ∨ split '/' r = body ++ [[]]) := by
  unfold normalPath at hp
  split at hp
  · rename_i r
    simp only [Bool.and_eq_true, Bool.not_eq_true', List.contains_eq_mem, decide_eq_false_iff_not] at hp
    obtain ⟨hnl, hall⟩ := hp
    refine ⟨r, _, rfl, hnl, rfl, ?_⟩
    by_cases hlast : (split '/' r).getLast? = some []
    · -- a trailing slash (or the root path `/`)
      simp only [hlast, beq_self_eq_true, if_true, List.all_eq_true, Bool.not_eq_true',
        List.isEmpty_eq_false_iff] at hall
      rcases split_getLast_nil '/' r hlast with rfl | hr
      · refine ⟨by simp [tokenize], Or.inr ?_⟩
        simp [tokenize, split, List.splitOn_nil]
      · rw [getLast?_dropLast_eq hr, split_snoc] at hall ⊢
        simp only [List.dropLast_concat] at hall
        obtain ⟨htok, hex⟩ := tokenize_of_segs_ne hall
        rw [← List.cons_append, tokenize_trailing_slash _ hex, htok]
        exact ⟨hall, Or.inr rfl⟩
    · -- no trailing slash
      have hb : ((split '/' r).getLast? == some []) = false := by simpa using hlast
      simp only [hb, Bool.false_eq_true, if_false, List.all_eq_true, Bool.not_eq_true',
        List.isEmpty_eq_false_iff] at hall
      rw [(tokenize_of_segs_ne hall).1]
      exact ⟨hall, Or.inl rfl⟩
  · simp at hp

theorem normalPath_newline {p : Str} (hp : normalPath p = true) : '\n' ∉ p := by
  obtain ⟨r, _, rfl, hnl, _⟩ := normalPath_spec hp
  simpa using hnl

variable (E : ReEnv)

theorem tokCommon_cases {t : TTok} (h : tokCommon t = true) :
    (∃ l, t = ⟨.lit l, none⟩) ∨ ∃ n, t = ⟨.var n, none⟩ := by
  obtain ⟨base, verb⟩ := t
  cases verb <;> cases base <;> simp_all [tokCommon]

theorem admits_common_cons {t : TTok} (hc : tokCommon t = true) (k : RouterKind) (ts : List TTok) (q : Str)
    (qs : List Str) : admits E k (t :: ts) (q :: qs) = (segOK E k t q && admits E k ts qs) := by
  rcases tokCommon_cases hc with ⟨l, rfl⟩ | ⟨n, rfl⟩ <;> simp [admits, Tok.isWild]

/-- the two routers read a common-fragment token alike, except that RouterJSR311's variable refuses
    the empty segment -/
theorem segOK_common {t : TTok} (hc : tokCommon t = true) {q : Str} (hq : q ≠ []) :
    segOK E .jsr t q = segOK E .curly t q := by
  rcases tokCommon_cases hc with ⟨l, rfl⟩ | ⟨n, rfl⟩ <;> simp [segOK, tokOK, hq]

theorem segOK_jsr_nil {t : TTok} (hw : t.wf = true) (hc : tokCommon t = true) : segOK E .jsr t [] = false := by
  rcases tokCommon_cases hc with ⟨l, rfl⟩ | ⟨n, rfl⟩
  · have : l ≠ [] := by rintro rfl; simp [TTok.wf, Tok.wf, litOK] at hw
    simpa [segOK, tokOK] using this.symm
  · rfl

theorem admits_common_eq : ∀ (ts : List TTok) (qs : List Str), (∀ t ∈ ts, tokCommon t = true) →
    (∀ q ∈ qs, q ≠ []) → admits E .jsr ts qs = admits E .curly ts qs
  | [], _, _, _ => rfl
  | _ :: _, [], _, _ => rfl
  | t :: ts, q :: qs, hc, hq => by
    have hct := hc t List.mem_cons_self
    rw [admits_common_cons E hct, admits_common_cons E hct, segOK_common E hct (hq q List.mem_cons_self),
      admits_common_eq ts qs (fun x hx => hc x (List.mem_cons_of_mem _ hx))
        (fun x hx => hq x (List.mem_cons_of_mem _ hx))]

/-- a common-fragment template never admits a segment list that ends in an empty segment
    (RouterJSR311's reading) -/
theorem admits_jsr_snoc_nil : ∀ (ts : List TTok) (qs : List Str), (∀ t ∈ ts, t.wf = true) →
    (∀ t ∈ ts, tokCommon t = true) → admits E .jsr ts (qs ++ [[]]) = false
  | [], qs, _, _ => by simp [admits]
  | t :: ts, [], hw, hc => by
    rw [List.nil_append, admits_common_cons E (hc t List.mem_cons_self),
      segOK_jsr_nil E (hw t List.mem_cons_self) (hc t List.mem_cons_self), Bool.false_and]
  | t :: ts, q :: qs, hw, hc => by
    rw [List.cons_append, admits_common_cons E (hc t List.mem_cons_self),
      admits_jsr_snoc_nil ts qs (fun x hx => hw x (List.mem_cons_of_mem _ hx))
        (fun x hx => hc x (List.mem_cons_of_mem _ hx)), Bool.and_false]

/-- RouterJSR311's admitted segmentation of a normal path, for a common-fragment template, is
    CurlyRouter's token list -/
theorem admittedSegments_jsr_normal (ts : List TTok) (hw : ∀ t ∈ ts, t.wf = true)
    (hc : ∀ t ∈ ts, tokCommon t = true) {p : Str} (hp : normalPath p = true) :
    admittedSegments E .jsr ts p = if admits E .curly ts (tokenize p) = true then some (tokenize p) else none := by
  obtain ⟨r, body, rfl, _, htok, hne, hsplit⟩ := normalPath_spec hp
  rw [htok]
  have heq := admits_common_eq E ts body hc hne
  unfold admittedSegments
  simp only [rawSegments]
  rcases hsplit with hs | hs
  · rw [hs, heq]
    by_cases ha : admits E .curly ts body = true
    · simp [ha]
    · have hl : (body.getLast? == some []) = false :=
        beq_eq_false_iff_ne.2 fun hg => hne [] (List.mem_of_getLast? hg) rfl
      simp [ha, hl]
  · rw [hs, admits_jsr_snoc_nil E ts body hw hc]
    simp only [Bool.false_eq_true, if_false, List.getLast?_concat, beq_self_eq_true, Bool.true_and,
      List.dropLast_concat, heq]

end Spec

/-- **C18, candidate sets coincide**: on a normal path a template of the common fragment is
    admitted by CurlyRouter's reading iff by RouterJSR311's, with the same segmentation — hence the
    same expected path parameters -/
theorem C18_admission_agrees (E : ReEnv) (ts : List TTok) (hts : ∀ t ∈ ts, t.wf = true ∧ Spec.tokCommon t = true)
    (p : Str) (hp : Spec.normalPath p = true) :
    Spec.admits E .curly ts (tokenize p) = (Spec.admittedSegments E .jsr ts p).isSome ∧
    ∀ segs, Spec.admittedSegments E .jsr ts p = some segs →
      segs = tokenize p ∧ Spec.expectedParams ts segs = Spec.expectedParams ts (tokenize p) := by
  rw [Spec.admittedSegments_jsr_normal E ts (fun t ht => (hts t ht).1) (fun t ht => (hts t ht).2) hp]
  constructor
  · cases Spec.admits E .curly ts (tokenize p) <;> simp
  · intro segs h
    split at h
    · simp only [Option.some.injEq] at h
      subst h
      exact ⟨rfl, rfl⟩
    · simp at h

end Restful
