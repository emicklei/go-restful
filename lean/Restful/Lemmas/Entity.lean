/- helper lemmas for C16 (Props/C16.lean); the reverse-lookup lemmas are shared with Lemmas/Mime.lean -/
import Restful.Model.Entity
import Restful.Spec.Entity
import Restful.Lemmas.Nodup
import Restful.Lemmas.DecideLits
namespace Restful
namespace Entity
open Str

theorem indexSub_of_isPrefixOf {k v : Str} (h : k.isPrefixOf v = true) : indexSub k v = some 0 := by
  cases v with
  | nil =>
    cases k with
    | nil => rfl
    | cons a as => simp at h
  | cons c cs => unfold indexSub; simp [h]

theorem containsSub_of_isPrefixOf {m s : Str} (h : m.isPrefixOf s = true) : containsSub m s = true := by
  simp [containsSub, indexSub_of_isPrefixOf h]

theorem containsSub_append (m p : Str) : containsSub m (m ++ p) = true :=
  containsSub_of_isPrefixOf (List.isPrefixOf_iff_prefix.mpr (List.prefix_append m p))

theorem containsSub_self (m : Str) : containsSub m m = true := by
  simpa using containsSub_append m []

theorem containsSub_nil_right {m : Str} (h : containsSub m [] = true) : m = [] := by
  unfold containsSub indexSub at h
  cases m with
  | nil => rfl
  | cons a as => simp at h

theorem indexSub_prefix : ∀ {v k : Str} {i : Nat}, indexSub k v = some i → k.isPrefixOf (v.drop i) = true
  | [], k, i, h => by
    unfold indexSub at h
    cases k with
    | nil => simp
    | cons a as => simp at h
  | c :: cs, k, i, h => by
    unfold indexSub at h
    by_cases hp : k.isPrefixOf (c :: cs) = true
    · simp only [hp, if_true, Option.some.injEq] at h
      subst h
      simpa using hp
    · simp only [hp, Bool.false_eq_true, if_false, Option.map_eq_some_iff] at h
      obtain ⟨j, hj, rfl⟩ := h
      simpa using indexSub_prefix hj

theorem firstLongest_iff {keys : List Str} {v k : Str} :
    firstLongest keys v k = true ↔ ∃ i, indexSub k v = some i ∧
      ∀ k' ∈ keys, ∀ j, indexSub k' v = some j → i < j ∨ (i = j ∧ k'.length ≤ k.length) := by
  unfold firstLongest
  cases hi : indexSub k v with
  | none => simp
  | some i =>
    simp only [List.all_eq_true, Option.some.injEq, exists_eq_left']
    constructor
    · intro h k' hk' j hj
      have := h k' hk'
      rw [hj] at this
      simpa using this
    · intro h k' hk'
      cases hj : indexSub k' v with
      | none => rfl
      | some j => simpa using h k' hk' j hj

theorem containsSub_of_firstLongest {keys : List Str} {v k : Str} (h : firstLongest keys v k = true) :
    containsSub k v = true := by
  obtain ⟨i, hi, _⟩ := firstLongest_iff.mp h
  simp [containsSub, hi]

theorem firstLongest_unique {keys : List Str} {v k k' : Str} (hk : k ∈ keys) (hk' : k' ∈ keys)
    (h : firstLongest keys v k = true) (h' : firstLongest keys v k' = true) : k = k' := by
  obtain ⟨i, hi, hb⟩ := firstLongest_iff.mp h
  obtain ⟨j, hj, hb'⟩ := firstLongest_iff.mp h'
  have h1 := hb k' hk' j hj
  have h2 := hb' k hk i hi
  have hij : i = j := by omega
  subst hij
  have hp := List.isPrefixOf_iff_prefix.mp (indexSub_prefix hi)
  have hp' := List.isPrefixOf_iff_prefix.mp (indexSub_prefix hj)
  exact (List.prefix_of_prefix_length_le hp hp' (by omega)).eq_of_length (by omega)

theorem firstLongest_exists {keys : List Str} {v : Str} (h : ∃ k ∈ keys, containsSub k v = true) :
    ∃ k ∈ keys, firstLongest keys v k = true := by
  -- among the keys that occur: the first one by (position, then longer first)
  let idx (k : Str) := (indexSub k v).getD 0
  have hne : keys.filter (containsSub · v) ≠ [] := by
    obtain ⟨k, hk, hc⟩ := h
    exact List.ne_nil_of_mem (List.mem_filter.mpr ⟨hk, hc⟩)
  obtain ⟨k, hk, hmin⟩ := Registry.exists_first
    (fun a b : Str => idx a < idx b ∨ (idx a = idx b ∧ b.length ≤ a.length))
    (fun a b => by omega) (fun h1 h2 => by omega) hne
  obtain ⟨hk, hc⟩ := List.mem_filter.mp hk
  obtain ⟨i, hi⟩ := Option.isSome_iff_exists.mp hc
  refine ⟨k, hk, firstLongest_iff.mpr ⟨i, hi, fun k' hk' j hj => ?_⟩⟩
  simpa [idx, hi, hj] using hmin k' (List.mem_filter.mpr ⟨hk', by simp [containsSub, hj]⟩)

theorem mem_dedup {k : Kind} : ∀ {l : List Kind}, k ∈ dedup l ↔ k ∈ l
  | [] => by simp [dedup]
  | x :: xs => by
    simp only [dedup, List.mem_cons, List.mem_filter, mem_dedup (l := xs), bne_iff_ne, ne_eq]
    by_cases hk : k = x <;> simp [hk]

theorem dedup_all_eq (k : Kind) : ∀ (l : List Kind), (∀ x ∈ l, x = k) → l ≠ [] → dedup l = [k]
  | [], _, hne => absurd rfl hne
  | x :: xs, hall, _ => by
    have hx : x = k := hall x (List.mem_cons_self ..)
    subst hx
    simp only [dedup, List.cons.injEq, true_and, List.filter_eq_nil_iff]
    intro y hy
    have : y = x := hall y (List.mem_cons_of_mem _ (mem_dedup.mp hy))
    simp [this]

theorem wf_nodup {cfg : Cfg} (h : cfg.wf = true) : (cfg.registry.map (·.1)).Nodup := by
  unfold Cfg.wf at h
  simp only [Bool.and_eq_true, decide_eq_true_eq] at h
  exact h.1

theorem wf_key {cfg : Cfg} (h : cfg.wf = true) {e : Str × Kind} (he : e ∈ cfg.registry) :
    e.1 ≠ [] ∧ ∀ c ∈ e.1, c ≠ ';' ∧ c ≠ ' ' := by
  unfold Cfg.wf at h
  simp only [Bool.and_eq_true, decide_eq_true_eq, List.all_eq_true, Bool.not_eq_true', bne_iff_ne, ne_eq] at h
  have := h.2 e he
  refine ⟨?_, this.2⟩
  intro hn
  rw [hn] at this
  simp at this

theorem mem_keys {reg : List (Str × Kind)} {e : Str × Kind} (he : e ∈ reg) : e.1 ∈ reg.map (·.1) :=
  List.mem_map.mpr ⟨e, he, rfl⟩

theorem accessorAt_of_firstLongest {reg : List (Str × Kind)} (hnd : (reg.map (·.1)).Nodup) {ct m : Str} {k : Kind}
    (hm : (m, k) ∈ reg) (hw : firstLongest (reg.map (·.1)) ct m = true) : accessorAt reg ct = [k] := by
  unfold accessorAt
  cases hf : reg.find? (fun e => e.1 == ct) with
  | some e =>
    have hmem : e ∈ reg := List.mem_of_find?_eq_some hf
    have hkey : e.1 = ct := by simpa using List.find?_some hf
    -- the value itself is a key: it occurs at 0 and nothing that occurs in it is longer
    obtain ⟨i, hi, hb⟩ := firstLongest_iff.mp hw
    have h0 := hb e.1 (mem_keys hmem) 0 (indexSub_of_isPrefixOf (by rw [hkey]; simp))
    obtain ⟨rfl, hlen⟩ : i = 0 ∧ e.1.length ≤ m.length := by omega
    have hpre : m <+: ct := List.isPrefixOf_iff_prefix.mp (by simpa using indexSub_prefix hi)
    have hmc : m = e.1 := hkey ▸ hpre.eq_of_length (Nat.le_antisymm hpre.length_le (hkey ▸ hlen))
    rw [Registry.nodup_map_inj hnd hmem hm hmc.symm]
  | none =>
    refine dedup_all_eq k _ (fun x hx => ?_) (List.ne_nil_of_mem (List.mem_map_of_mem (List.mem_filter.mpr ⟨hm, hw⟩)))
    obtain ⟨e, he, rfl⟩ := List.mem_map.mp hx
    obtain ⟨hmem, hc⟩ := List.mem_filter.mp he
    rw [Registry.nodup_map_inj hnd hmem hm (firstLongest_unique (mem_keys hmem) (mem_keys hm) hc hw)]

theorem accessorAt_length_le_one {reg : List (Str × Kind)} (hnd : (reg.map (·.1)).Nodup) (ct : Str) :
    (accessorAt reg ct).length ≤ 1 := by
  cases hW : reg.filter (fun e => firstLongest (reg.map (·.1)) ct e.1) with
  | nil =>
    unfold accessorAt
    split <;> simp [hW, dedup]
  | cons e _ =>
    obtain ⟨he, hw⟩ := List.mem_filter.mp (hW ▸ List.mem_cons_self)
    simp [accessorAt_of_firstLongest hnd (m := e.1) (k := e.2) he hw]

theorem accessorAt_nil {cfg : Cfg} (h : cfg.wf = true) : accessorAt cfg.registry [] = [] := by
  unfold accessorAt
  cases hf : cfg.registry.find? (fun e => e.1 == []) with
  | some e =>
    have hmem : e ∈ cfg.registry := List.mem_of_find?_eq_some hf
    have hkey : e.1 = [] := by simpa using List.find?_some hf
    exact absurd hkey (wf_key h hmem).1
  | none =>
    have : cfg.registry.filter (fun e => firstLongest (cfg.registry.map (·.1)) [] e.1) = [] :=
      List.filter_eq_nil_iff.mpr fun e hmem hc =>
        (wf_key h hmem).1 (containsSub_nil_right (containsSub_of_firstLongest hc))
    simp [this, dedup]

theorem mem_of_prefix_of_lt {a b x : Str} (ha : a <+: x) (hb : b <+: x) (hl : a.length < b.length) :
    ∃ c, (x.drop a.length).head? = some c ∧ c ∈ b := by
  obtain ⟨u, rfl⟩ := List.prefix_of_prefix_length_le ha hb (Nat.le_of_lt hl)
  obtain ⟨w, rfl⟩ := hb
  cases u with
  | nil => simp at hl
  | cons c us => exact ⟨c, by simp, by simp⟩

open Spec.C16 in
/-- a registered key that is the media type of the value — the value starts with it, and what
    follows starts with `;` or a blank — is THE key the lookup answers with: it occurs at position
    0, and a key that also starts there cannot be longer, it would contain the `;` or the blank -/
theorem firstLongest_of_startsMedia {cfg : Cfg} (h : cfg.wf = true) {x : Str} {e : Str × Kind}
    (hst : startsMedia e.1 x = true) :
    firstLongest (cfg.registry.map (·.1)) x e.1 = true := by
  unfold startsMedia at hst
  simp only [Bool.and_eq_true] at hst
  obtain ⟨hpre, hrest⟩ := hst
  refine firstLongest_iff.mpr ⟨0, indexSub_of_isPrefixOf hpre, fun k' hk' j hj => ?_⟩
  cases j with
  | succ j => exact Or.inl (Nat.succ_pos j)
  | zero =>
    refine Or.inr ⟨rfl, Nat.le_of_not_lt fun hlt => ?_⟩
    obtain ⟨e', hmem', rfl⟩ := List.mem_map.mp hk'
    have hpre' : e'.1 <+: x := List.isPrefixOf_iff_prefix.mp (by simpa using indexSub_prefix hj)
    obtain ⟨c, hc, hmem⟩ := mem_of_prefix_of_lt (List.isPrefixOf_iff_prefix.mp hpre) hpre' hlt
    have hkey := (wf_key h hmem').2 c hmem
    cases hd : x.drop e.1.length with
    | nil => rw [hd] at hc; cases hc
    | cons c' cs =>
      rw [hd] at hc hrest
      cases hc
      simp only [Bool.or_eq_true, beq_iff_eq] at hrest
      exact hrest.elim hkey.1 hkey.2

open Spec.C16 in
theorem accessorAt_of_mediaSelects {cfg : Cfg} (h : cfg.wf = true) {x : Str} {k : Kind}
    (hs : mediaSelects cfg.registry x k = true) : accessorAt cfg.registry x = [k] := by
  unfold mediaSelects at hs
  simp only [List.any_eq_true, Bool.and_eq_true, beq_iff_eq] at hs
  obtain ⟨e, hmem, hk, hst⟩ := hs
  have he : (e.1, k) ∈ cfg.registry := by rw [← hk]; exact hmem
  exact accessorAt_of_firstLongest (wf_nodup h) he (firstLongest_of_startsMedia h hst)

open Spec.C16 in
theorem accessorsFor_of_selected {cfg : Cfg} (h : cfg.wf = true) {ct : Str} {k : Kind}
    (hs : selected cfg ct k = true) : accessorsFor cfg ct = [k] := by
  unfold selected at hs
  simp only [Bool.or_eq_true, Bool.and_eq_true, List.isEmpty_iff] at hs
  unfold accessorsFor
  rcases hs with hs | ⟨hct, hs⟩
  · rw [accessorAt_of_mediaSelects h hs]
  · subst hct
    rw [accessorAt_nil h]
    have hd : cfg.dflt ≠ [] := fun hx => by
      have := accessorAt_of_mediaSelects h hs
      rw [hx, accessorAt_nil h] at this
      cases this
    simp only [List.isEmpty_iff, hd, if_false]
    exact accessorAt_of_mediaSelects h hs

theorem accessorsFor_length_le_one {cfg : Cfg} (hnd : (cfg.registry.map (·.1)).Nodup) (ct : Str) :
    (accessorsFor cfg ct).length ≤ 1 := by
  unfold accessorsFor
  have h1 := accessorAt_length_le_one hnd ct
  cases ha : accessorAt cfg.registry ct with
  | nil =>
    simp only
    split
    · simp
    · exact accessorAt_length_le_one hnd _
  | cons a as => rw [ha] at h1; simpa using h1

variable {Value : Type}

theorem drain_clean {s : Stream} (h : s.clean = true) (r : Result Value) : drain s r = r := by
  cases r <;> simp [drain, h]

theorem drain_err {Value : Type} (s : Stream) (k : ErrKind) : drain s (.err k : Result Value) = .err k := rfl

theorem drain_eq_ok {s : Stream} {r : Result Value} {v : Value} :
    drain s r = .ok v ↔ s.clean = true ∧ r = .ok v := by
  cases r <;> cases hc : s.clean <;> simp [drain, hc]

/-- on a stream that ends in an error every reader ends with the error of the coding: it fails on
    that error, or its value is dropped by the drain -/
theorem drain_entityRead_dirty (C : Codec Value) (cfg : Cfg) (k : Kind) {s : Stream}
    (h : s.clean = false) : drain s (entityRead C cfg k s) = .err .badEncoding := by
  unfold entityRead
  split <;> simp [drain, h]

theorem map_drain_clean {s : Stream} (h : s.clean = true) (rs : List (Result Value)) : rs.map (drain s) = rs :=
  (List.map_congr_left fun r _ => drain_clean h r).trans (List.map_id _)

theorem lookupAndRead_length (C : Codec Value) {cfg : Cfg} (hnd : (cfg.registry.map (·.1)).Nodup)
    (ct : Str) (s : Stream) : (lookupAndRead C cfg ct s).length = 1 := by
  unfold lookupAndRead
  have := accessorsFor_length_le_one hnd ct
  cases ha : accessorsFor cfg ct with
  | nil => rfl
  | cons a as => rw [ha] at this; simpa using this

/-- the results of reading the stream `s` (`none`: `zlib.NewReader` refused the header): by the
    entity reader first, then on to its end (`drain`; for an undeclared coding the stream is the body
    followed by a clean EOF, on which `drain` changes nothing) -/
def resultsOn (C : Codec Value) (cfg : Cfg) (ct : Str) : Option Stream → List (Result Value)
  | none => [.err .badEncoding]
  | some s => (lookupAndRead C cfg ct s).map (drain s)

/-- the stream `ReadEntity` installs on this pool: for gzip, what the acquired reader object
    delivers once reset onto the body -/
def streamRead (C : Codec Value) (pool : Pool) (req : RequestIn) : Option Stream :=
  if req.contentEncoding = ENCODING_GZIP then some (C.gzRead { (pool.acquire C).1 with src := req.body })
  else if req.contentEncoding = ENCODING_DEFLATE then C.unzl req.body
  else some ⟨req.body, true⟩

/-- `ReadEntity` branch by branch, any codec: the results are those of reading the installed stream;
    the provider is left alone, or one reader is acquired, used and given back -/
theorem readEntity_spec (C : Codec Value) (cfg : Cfg) (pool : Pool) (req : RequestIn) :
    (readEntity C cfg pool req).results = resultsOn C cfg req.contentType (streamRead C pool req) ∧
    (((readEntity C cfg pool req).events = [] ∧ (readEntity C cfg pool req).pool = pool) ∨
     ((readEntity C cfg pool req).events = [.acquire, .use, .release] ∧
       ∃ r, (readEntity C cfg pool req).pool = (pool.acquire C).2.release r)) := by
  unfold readEntity streamRead
  split
  · exact ⟨rfl, .inr ⟨rfl, _, rfl⟩⟩
  · split
    · cases C.unzl req.body <;> exact ⟨rfl, .inl ⟨rfl, rfl⟩⟩
    · exact ⟨(map_drain_clean rfl _).symm, .inl ⟨rfl, rfl⟩⟩

theorem resultsOn_ne_nil (C : Codec Value) (cfg : Cfg) (ct : Str) (s : Option Stream) :
    resultsOn C cfg ct s ≠ [] := by
  cases s with
  | none => simp [resultsOn]
  | some s =>
    unfold resultsOn lookupAndRead
    cases accessorsFor cfg ct <;> simp

theorem mem_resultsOn {C : Codec Value} {cfg : Cfg} {ct : Str} {s : Option Stream} {r : Result Value}
    (h : r ∈ resultsOn C cfg ct s) :
    (s = none ∧ r = .err .badEncoding) ∨ (accessorsFor cfg ct = [] ∧ r = .err .noReader400) ∨
      ∃ s' k, s = some s' ∧ k ∈ accessorsFor cfg ct ∧ r = drain s' (entityRead C cfg k s') := by
  cases s with
  | none => exact Or.inl ⟨rfl, by simpa [resultsOn] using h⟩
  | some s' =>
    unfold resultsOn lookupAndRead at h
    cases ha : accessorsFor cfg ct with
    | nil => exact Or.inr (Or.inl ⟨rfl, by simpa [ha, drain] using h⟩)
    | cons a as =>
      rw [ha] at h
      simp only [List.map_map, List.mem_map, Function.comp_apply] at h
      obtain ⟨k, hk, rfl⟩ := h
      exact Or.inr (Or.inr ⟨s', k, rfl, hk, rfl⟩)

/-- `ReadEntity`'s possible results without any pool: the declared coding read by a fresh
    decompressor — by the entity reader first, then on to its end (`drain`; for an undeclared coding
    the stream is the body followed by a clean EOF, on which `drain` changes nothing) -/
def readPure {Value : Type} (C : Codec Value) (cfg : Cfg) (req : RequestIn) : List (Result Value) :=
  match declaredStream C req with
  | none => [.err .badEncoding]
  | some s => (lookupAndRead C cfg req.contentType s).map (drain s)

theorem readPure_ne_nil {Value : Type} (C : Codec Value) (cfg : Cfg) (req : RequestIn) : readPure C cfg req ≠ [] :=
  resultsOn_ne_nil C cfg req.contentType (declaredStream C req)

/-- under the `Reset` law the pool (which object is acquired, what it was used for before) is
    irrelevant to the result -/
theorem readEntity_results (L : CodecLaws Value) (cfg : Cfg) (pool : Pool) (req : RequestIn) :
    (readEntity L.toCodec cfg pool req).results =
      resultsOn L.toCodec cfg req.contentType (declaredStream L.toCodec req) := by
  rw [(readEntity_spec _ cfg pool req).1]
  unfold streamRead declaredStream
  rw [L.reset_law]

theorem Pool.release_acquire (C : Codec Value) {pool : Pool} {cap : Nat}
    (hp : pool.provider = .bounded cap) (hfull : pool.idle.length = cap) (r : GzReader) :
    ((pool.acquire C).2.release r).provider = .bounded cap ∧ ((pool.acquire C).2.release r).idle.length = cap := by
  unfold Pool.acquire
  cases hi : pool.idle with
  | nil => simp [Pool.release, hp, ← hfull, hi]
  | cons r' rest => simp [Pool.release, hp, ← hfull, hi]

theorem entityRead_of_not_doc (C : Codec Value) (cfg : Cfg) (k : Kind) {s : Stream}
    (hc : s.clean = true) (hdoc : docFor C cfg k s.data = false) : entityRead C cfg k s = .err .badSyntax := by
  obtain ⟨d, c⟩ := s
  subst hc
  unfold docFor at hdoc
  unfold entityRead
  cases k <;> simp_all

theorem readEntity_results_length (C : Codec Value) {cfg : Cfg} (hnd : (cfg.registry.map (·.1)).Nodup)
    (pool : Pool) (req : RequestIn) : (readEntity C cfg pool req).results.length = 1 := by
  rw [(readEntity_spec C cfg pool req).1]
  cases streamRead C pool req with
  | none => rfl
  | some s => simp [resultsOn, lookupAndRead_length C hnd]

theorem nil_ne_gzip : ([] : Str) ≠ ENCODING_GZIP := by decide_lits [ENCODING_GZIP]
theorem nil_ne_deflate : ([] : Str) ≠ ENCODING_DEFLATE := by decide_lits [ENCODING_DEFLATE]
theorem deflate_ne_gzip : ENCODING_DEFLATE ≠ ENCODING_GZIP := by decide_lits [ENCODING_DEFLATE, ENCODING_GZIP]

/-- what a client sends back yields, under the coding it declares, the written bytes and a clean end -/
theorem declaredStream_requestOf (L : CodecLaws Value) (k : Kind) (pretty : Bool) (v : Value) (ct : Str)
    (c : Coding) : declaredStream L.toCodec (requestOf L.toCodec k pretty v ct c) =
      some ⟨writeEntity L.toCodec k pretty v, true⟩ := by
  cases c <;> simp [declaredStream, requestOf, Coding.header, encodeBody, nil_ne_gzip.symm, nil_ne_deflate.symm,
    deflate_ne_gzip, L.gz_round, L.zl_round]

theorem entityRead_writeEntity (L : CodecLaws Value) {cfg : Cfg} (hu : cfg.useNumber = true) (k : Kind)
    (pretty : Bool) (v : Value) : entityRead L.toCodec cfg k ⟨writeEntity L.toCodec k pretty v, true⟩ = .ok v := by
  cases k <;> simp [entityRead, writeEntity, hu, L.json_round, L.xml_round]

end Entity

namespace Entity
open Str Spec.C16
variable {Value : Type}

/-- a read of a history: the request, and how its body came about -/
structure Item (Value : Type) where
  req : RequestIn
  kind : Kind
  v : Value
  faithful : Bool

/-- `faithful` means: the body is `kind`'s writer output for `v`, coded as `Content-Encoding` says -/
def Item.sound (C : Codec Value) (it : Item Value) : Prop :=
  it.faithful = true → ∃ pretty c, it.req = requestOf C it.kind pretty it.v it.req.contentType c

def toObs (canon : Value → Str) : Result Value → Obs
  | .ok v => .ok (canon v)
  | .err .noReader400 => .err400
  | .err _ => .err

def pick (canon : Value → Str) (rs : List (Result Value)) : Obs := (rs.head?.map (toObs canon)).getD .err

def factsOf (C : Codec Value) (cfg : Cfg) (req : RequestIn) : Facts :=
  match declaredStream C req with
  | none => ⟨false, false, false⟩
  | some s => ⟨s.clean, docFor C cfg .json s.data, docFor C cfg .xml s.data⟩

/-- what the harness would record if the real code were the model -/
def observe (C : Codec Value) (cfg : Cfg) (canon : Value → Str) (prov : Provider) : Pool → List (Item Value) → List ReadObs
  | _, [] => []
  | pool, it :: its =>
    { ct := it.req.contentType, ce := it.req.contentEncoding, kind := it.kind, written := canon it.v,
      faithful := it.faithful, facts := factsOf C cfg it.req,
      real := pick canon (readEntity C cfg pool it.req).results,
      alone := pick canon (readOne C cfg prov it.req),
      events := (readEntity C cfg pool it.req).events } :: observe C cfg canon prov (readEntity C cfg pool it.req).pool its

theorem factsOf_clean {C : Codec Value} {cfg : Cfg} {req : RequestIn} (h : (factsOf C cfg req).clean = true) :
    ∃ s, declaredStream C req = some s ∧ s.clean = true ∧ ∀ k, (factsOf C cfg req).doc k = docFor C cfg k s.data := by
  unfold factsOf at h ⊢
  cases hs : declaredStream C req with
  | none => rw [hs] at h; cases h
  | some s => rw [hs] at h; exact ⟨s, rfl, h, fun k => by cases k <;> rfl⟩

theorem factsOf_dirty {C : Codec Value} {cfg : Cfg} {req : RequestIn} (h : (factsOf C cfg req).clean = false) :
    ∀ s, declaredStream C req = some s → s.clean = false := by
  intro s hs
  simpa [factsOf, hs] using h

theorem pick_isErr (canon : Value → Str) (rs : List (Result Value)) (h : ∀ r ∈ rs, r.isErr = true) : (pick canon rs).isErr = true := by
  unfold pick
  cases rs with
  | nil => rfl
  | cons r rs =>
    have := h r (List.mem_cons_self ..)
    cases r with
    | ok v => simp [Result.isErr] at this
    | err k => cases k <;> rfl

theorem pick_ne_panic (canon : Value → Str) (rs : List (Result Value)) : pick canon rs ≠ .panic := by
  unfold pick
  cases rs with
  | nil => simp
  | cons r rs =>
    cases r with
    | ok v => simp [toObs]
    | err k => cases k <;> simp [toObs]

end Entity
end Restful
