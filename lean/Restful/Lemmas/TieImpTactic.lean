/-
The three tactics of the ties, each explained at its definition.  `unfold_gen_helpers` inlines, in the goal, every
translated function (a definition directly in the namespace `Restful.ImpGen`) that still occurs there: it is used
after `unfold ImpGen.F` in the tie of a function `F` that calls no other tied function, so that a piece of `F`
extracted into a helper (which tools/goimp then translates on demand, before `F`) is put back and the tie goes on
as before.  `tie_norm` brings the spellings of "is empty" into one form; `tie_step` shows that a generated loop body
is a hand-written step.

Simp arguments the linter calls unused: several tie modules set `linter.unusedSimpArgs false`.  The arguments it
reports are unused on the translation of the sources as they are; they are what lets the same proof go through
when the Go function is rewritten without changing what it does (a guard clause for a nested `if`, `!=` for `==`,
`strings.Contains` for `strings.Index … != -1`, a helper extracted): `seeded/controls/*.diff`, `bin/tietest`.
-/
import Lean
import Restful.Gen.Imp
import Restful.Lemmas.TieImpBridge
namespace Restful
namespace TieImp
open Lean Elab Tactic Meta

/-- the translated functions (definitions directly in `Restful.ImpGen`, no instances) occurring in `e` -/
def genHelpersOf (e : Expr) : MetaM (Array Name) := do
  let env ← getEnv
  return e.getUsedConstants.filter fun n =>
    n.getPrefix == `Restful.ImpGen &&
      !(n.getString!.startsWith "inst") &&
      (match env.find? n with | some (.defnInfo _) => true | _ => false)

/-- `unfold_gen_helpers keeping F G`: the same, except that the calls of the tied functions `F`, `G` (about which
    the proof uses their own tie theorems) stay folded -/
syntax "unfold_gen_helpers" (" keeping" (ppSpace colGt ident)+)? : tactic

def unfoldGenHelpers (keep : Array Name) : TacticM Unit := do
  -- one round per level of helpers that call helpers; the bound only keeps a recursive helper from looping
  for _ in [0:8] do
    let g ← getMainGoal
    let tgt ← instantiateMVars (← g.getType)
    let ns := (← genHelpersOf tgt).filter fun n => !keep.contains n
    if ns.isEmpty then return
    for n in ns do
      evalTactic (← `(tactic| try unfold $(mkIdent n):ident))

elab_rules : tactic
  | `(tactic| unfold_gen_helpers) => unfoldGenHelpers #[]
  | `(tactic| unfold_gen_helpers keeping $ids*) => do
      let ns ← ids.mapM fun i => realizeGlobalConstNoOverloadWithInfo i
      unfoldGenHelpers ns

/-- `tie_norm`: the ways Go code asks "is this string / slice empty" (`len(x) == 0`, `x == ""`, `len(x) > 0`,
    `x != ""`, …) all become `x.isEmpty` / `!x.isEmpty`; string literals become lists of characters; a redundant
    emptiness test in front of a `HasPrefix` with a non-empty prefix is dropped -/
macro "tie_norm" : tactic => `(tactic|
  try simp only [String.reduceToList, Restful.TieImp.nonempty_and_hasPrefix, Restful.TieImp.len_beq_zero', Restful.TieImp.zero_beq_len',
    Restful.TieImp.len_bne_zero', Restful.TieImp.len_pos', Restful.TieImp.len_pos'',
    Restful.TieImp.str_beq_nil, Restful.TieImp.str_nil_beq,
    Restful.TieImp.str_bne_nil, Restful.TieImp.str_nil_bne])

/-- `tie_step [defs]` closes "one iteration of the translated loop is the hand-written step": the two sides are
    `do`-blocks of `Option` that make the same calls in the same order and may differ in how the branches are
    associated (an early `continue` for a nested block, a guard clause, De Morgan, `!=` for a negated `==`).
    `rfl` when the texts agree; otherwise the listed definitions are unfolded, the calls are matched one by one
    (`bind_congr_fun`), tuples are destructured, every `if` / `match` is split and the leaves are closed by
    `simp_all` — nothing about the particular loop is used.  What the step does is proved elsewhere: the hand-written
    step is tied to the model by its loop lemma; `tie_step` only shows that the generated body IS that step, so it
    fails as soon as the Go body makes another call, or takes a branch on another condition. -/
syntax "tie_step" (" [" Lean.Parser.Tactic.simpLemma,* "]")? : tactic
macro_rules
  | `(tactic| tie_step) => `(tactic| tie_step [])
  | `(tactic| tie_step [$ls,*]) => `(tactic|
      first
      | rfl
      | (simp only [$ls,*, bind, Option.bind_eq_bind, Option.pure_def, Option.bind_some, bne, Imp.deref]
         repeat' (first
           | rfl
           | (apply Restful.TieImp.bind_congr_fun; intro _)
           | split
           | (rename_i x; rcases x with ⟨_, _⟩))
         all_goals (first | rfl | simp_all)))

end TieImp
end Restful
