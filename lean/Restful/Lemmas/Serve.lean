/-
What the proofs about the serve interpreter (Model/Serve.lean) share: the recorder operations by
cases; what a chain returns besides the recorder as a function of the chain alone (`chainPanic`,
`runChain_cons`); ONE simulation lemma for two runs of the same chain in the same context
(`runChain_rel`, for any relation every writer operation preserves); whoever installed the
compressing writer closes it (`serve_closed`); `serve` as `entryBody` on the initial state.
-/
import Restful.Spec.Serve
namespace Restful
open Str
namespace Serve

@[simp] theorem lockStatus_comp (r : Rec) (c : Nat) : (lockStatus r c).comp = r.comp := by
  unfold lockStatus; split <;> rfl
@[simp] theorem lockStatus_body (r : Rec) (c : Nat) : (lockStatus r c).body = r.body := by
  unfold lockStatus; split <;> rfl
@[simp] theorem lockStatus_headers (r : Rec) (c : Nat) : (lockStatus r c).headers = r.headers := by
  unfold lockStatus; split <;> rfl
@[simp] theorem lockStatus_writeAfterClose (r : Rec) (c : Nat) : (lockStatus r c).writeAfterClose = r.writeAfterClose := by
  unfold lockStatus; split <;> rfl
@[simp] theorem lockStatus_closeErrors (r : Rec) (c : Nat) : (lockStatus r c).closeErrors = r.closeErrors := by
  unfold lockStatus; split <;> rfl

theorem lockStatus_of_none {r : Rec} {c : Nat} (h : r.status = none) : (lockStatus r c).status = some c := by
  simp [lockStatus, h]

theorem lockStatus_of_some {r : Rec} {c d : Nat} (h : r.status = some d) : (lockStatus r c).status = some d := by
  simp [lockStatus, h]

theorem lockStatus_ne_none (r : Rec) (c : Nat) : (lockStatus r c).status ≠ none := by
  cases h : r.status with
  | none => simp [lockStatus_of_none h]
  | some d => simp [lockStatus_of_some h]

theorem baseWrite_none {r : Rec} (h : r.comp = none) (b : Str) :
    baseWrite r b = { lockStatus r 200 with body := r.body ++ b } := by
  unfold baseWrite; rw [h]

theorem baseWrite_open {r : Rec} {c : Comp} (h : r.comp = some c) (hc : c.closed = false) (b : Str) :
    baseWrite r b = { lockStatus r 200 with comp := some { c with payload := c.payload ++ b } } := by
  unfold baseWrite
  rw [h]
  simp [hc]

def Closed (r : Rec) : Prop := ∀ c, r.comp = some c → c.closed = true

theorem closeComp_none {s : St} (h : s.rc.comp = none) : closeComp s = s := by
  unfold closeComp; rw [h]

theorem closeComp_open {s : St} {c : Comp} (h : s.rc.comp = some c) (hc : c.closed = false) :
    closeComp s = { s with rc := { lockStatus s.rc 200 with comp := some { c with closed := true } } } := by
  unfold closeComp
  rw [h]
  simp [hc]

/-- a second `Close` changes nothing but the error count: same compressor record (payload, closed
    flag — hence the same ledger), same status, headers and body -/
theorem closeComp_again {s : St} {c : Comp} (hc : s.rc.comp = some c) (hcl : c.closed = true) :
    closeComp s = { s with rc := { s.rc with closeErrors := s.rc.closeErrors + 1 } } := by
  unfold closeComp
  rw [hc]
  simp [hcl]

/-- `Close` finds no compressing writer, a closed one (refused and counted), or an open one (closed
    now; the coding's trailer goes out, so the status is locked) -/
theorem closeComp_cases (s : St) :
    (s.rc.comp = none ∧ closeComp s = s) ∨
      (∃ c, s.rc.comp = some c ∧ c.closed = true ∧
        closeComp s = { s with rc := { s.rc with closeErrors := s.rc.closeErrors + 1 } }) ∨
      ∃ c, s.rc.comp = some c ∧ c.closed = false ∧
        closeComp s = { s with rc := { lockStatus s.rc 200 with comp := some { c with closed := true } } } := by
  cases hc : s.rc.comp with
  | none => exact .inl ⟨rfl, closeComp_none hc⟩
  | some c =>
    cases hcl : c.closed with
    | true => exact .inr (.inl ⟨c, rfl, hcl, closeComp_again hc hcl⟩)
    | false => exact .inr (.inr ⟨c, rfl, hcl, closeComp_open hc hcl⟩)

theorem closeComp_closed (s : St) : Closed (closeComp s).rc := by
  intro c h
  rcases closeComp_cases s with ⟨hc, h'⟩ | ⟨c0, hc, hcl, h'⟩ | ⟨c0, _, _, h'⟩ <;> rw [h'] at h
  · cases hc.symm.trans h
  · cases hc.symm.trans h
    exact hcl
  · cases h
    rfl

theorem closeComp_isSome (s : St) : (closeComp s).rc.comp.isSome = s.rc.comp.isSome := by
  rcases closeComp_cases s with ⟨_, h⟩ | ⟨c, hc, _, h⟩ | ⟨c, hc, _, h⟩ <;> rw [h]
  rw [hc]
  rfl

@[simp] theorem wants_nil (r : Rec) : wants r [] = none := by
  unfold wants
  split <;> rfl

theorem maybeInstall_cases (en : Bool) (s : St) (ae : Str) :
    maybeInstall en s ae = s ∨
      ∃ c, en = true ∧ s.rc.comp = none ∧ wants s.rc ae = some c ∧ maybeInstall en s ae = install s c := by
  unfold maybeInstall
  split
  · exact .inl rfl
  · rename_i h
    split
    · rename_i c hw
      cases en <;> cases hc : s.rc.comp <;> simp [hc] at h
      exact .inr ⟨c, rfl, rfl, hw, rfl⟩
    · exact .inl rfl

@[simp] theorem maybeInstall_nil (en : Bool) (s : St) : maybeInstall en s [] = s := by
  rcases maybeInstall_cases en s [] with h | ⟨c, _, _, hw, _⟩
  · exact h
  · simp at hw

@[simp] theorem maybeInstall_false (s : St) (ae : Str) : maybeInstall false s ae = s := by
  simp [maybeInstall]

theorem serveWrapper_cases (cfg : Cfg) (sr : SReq) (s0 : St) (inner : St → St × Option Str × Nat) :
    serveWrapper cfg sr s0 inner = inner s0 ∨
      ∃ s1, (s1 = s0 ∨ ∃ c, wants s0.rc sr.acceptEncoding = some c ∧ s1 = install s0 c) ∧
        cfg.encoding = true ∧ s0.rc.comp = none ∧
        serveWrapper cfg sr s0 inner = (closeComp (inner s1).1, (inner s1).2.1, (inner s1).2.2) := by
  unfold serveWrapper
  split
  · exact .inl rfl
  · rename_i h
    have he : cfg.encoding = true ∧ s0.rc.comp = none := by
      cases henc : cfg.encoding <;> cases hc : s0.rc.comp <;> simp [henc, hc] at h ⊢
    right
    cases hw : wants s0.rc sr.acceptEncoding with
    | none => exact ⟨s0, .inl rfl, he.1, he.2, rfl⟩
    | some c => exact ⟨install s0 c, .inr ⟨c, rfl, rfl⟩, he.1, he.2, rfl⟩

theorem serveWrapper_off (cfg : Cfg) (sr : SReq) (s0 : St) (inner : St → St × Option Str × Nat)
    (h : cfg.encoding = false) : serveWrapper cfg sr s0 inner = inner s0 := by
  simp [serveWrapper, h]

abbrev plainReq (sr : SReq) : SReq := { sr with acceptEncoding := [] }

/-- the configuration `c10Holds` compares with: no coding, no recovery -/
abbrev rawCfg (cfg : Cfg) : Cfg := { Spec.noCoding cfg with recover := false }

/-- without Accept-Encoding the closure `Handle` registers installs nothing -/
theorem handleWrapper_plain (cfg : Cfg) (sr : SReq) {s : St} (h : s.rc.comp = none)
    (b : St → St × Option Str × Nat) : (handleWrapper cfg (plainReq sr) s b).1 = closeComp (b s).1 := by
  unfold handleWrapper
  rw [h]
  simp only [maybeInstall_nil]
  rfl

/-- `routeX` / `svcX` look the extension record up by id: a registered one, or the empty default -/
theorem routeX_mem (cfg : Cfg) (rid : Nat) : routeX cfg rid ∈ cfg.routes ∨ routeX cfg rid = { id := rid } := by
  unfold routeX
  cases h : cfg.routes.find? (·.id == rid) with
  | none => exact .inr rfl
  | some r => exact .inl (List.mem_of_find?_eq_some h)

theorem svcX_mem (cfg : Cfg) (svc : Nat) : svcX cfg svc ∈ cfg.svcs ∨ svcX cfg svc = { id := svc } := by
  unfold svcX
  cases h : cfg.svcs.find? (·.id == svc) with
  | none => exact .inr rfl
  | some sv => exact .inl (List.mem_of_find?_eq_some h)

theorem routeX_noCoding (cfg : Cfg) (rid : Nat) :
    routeX (Spec.noCoding cfg) rid = { routeX cfg rid with enc := none } := by
  unfold routeX Spec.noCoding
  simp only [List.find?_map]
  have : ((fun x : RouteX => x.id == rid) ∘ fun r : RouteX => { r with enc := none }) = fun x : RouteX => x.id == rid := rfl
  rw [this]
  cases cfg.routes.find? (fun x => x.id == rid) <;> rfl

theorem allFilters_noCoding (cfg : Cfg) (svc rid : Nat) :
    allFilters (Spec.noCoding cfg) svc rid = allFilters cfg svc rid := by
  unfold allFilters
  rw [routeX_noCoding]
  rfl

namespace Panic

/-- the value of the first `.panic` of a script -/
def firstPanic : List Act → Option Str
  | [] => none
  | .panic v :: _ => some v
  | _ :: as => firstPanic as

/-- the panic with which a chain ends: the first one raised in execution order (a filter's `post`
    part runs only if neither its `pre` part nor anything further in panicked) -/
def chainPanic : List (Stage × Filter) → List Act → Option Str
  | [], t => firstPanic t
  | (_, f) :: fs, t =>
    match firstPanic f.pre with
    | some v => some v
    | none =>
      match f.kind with
      | .stop => firstPanic f.post
      | _ =>
        match chainPanic fs t with
        | some v => some v
        | none => firstPanic f.post

end Panic
open Panic

theorem runActs_panic (as : List Act) (cx : Ctx) (s : St) : (runActs as cx s).2.2 = firstPanic as := by
  induction as generalizing cx s with
  | nil => rfl
  | cons a as ih => cases a <;> simp [runActs, firstPanic, ih]

theorem runStage_panic (st : Stage) (post : Bool) (as : List Act) (cx : Ctx) (s : St) :
    (runStage st post as cx s).2.2 = firstPanic as := runActs_panic _ _ _

/-- `runChain` with the intermediate results named by projections -/
theorem runChain_cons (st : Stage) (f : Filter) (fs : List (Stage × Filter)) (t : Target) (cx : Ctx) (s : St) :
    runChain ((st, f) :: fs) t cx s =
      (let r1 := runStage st false f.pre cx s
       match r1.2.2 with
       | some v => (r1.1, r1.2.1, some v)
       | none =>
         match f.kind with
         | .stop => runStage st true f.post r1.1 r1.2.1
         | .pass =>
           let r2 := runChain fs t r1.1 r1.2.1
           match r2.2.2 with
           | some v => (r2.1, r2.2.1, some v)
           | none => runStage st true f.post r2.1 r2.2.1
         | .replace =>
           let r2 := runChain fs t { attrs := [("who".toList, (toString f.id).toList)], params := [], selPath := [], wrappers := f.id :: r1.1.wrappers } r1.2.1
           match r2.2.2 with
           | some v => (r1.1, r2.2.1, some v)
           | none => runStage st true f.post r1.1 r2.2.1
         | .middle =>
           let r2 := runChain fs t { r1.1 with wrappers := f.id :: r1.1.wrappers } r1.2.1
           match r2.2.2 with
           | some v => (r2.1, r2.2.1, some v)
           | none =>
             let r3 := runStage st true f.post { r2.1 with wrappers := r1.1.wrappers } r2.2.1
             ({ r3.1 with wrappers := r2.1.wrappers }, r3.2.1, r3.2.2)) := by
  rw [runChain]
  generalize runStage st false f.pre cx s = r1
  obtain ⟨cx1, s1, p1⟩ := r1
  cases p1 with
  | some v => rfl
  | none =>
    cases f.kind with
    | stop => rfl
    | pass =>
      simp only []
      generalize runChain fs t cx1 s1 = r2
      obtain ⟨cx2, s2, p2⟩ := r2
      cases p2 <;> rfl
    | replace =>
      simp only []
      generalize runChain fs t _ s1 = r2
      obtain ⟨cx2, s2, p2⟩ := r2
      cases p2 <;> rfl
    | middle =>
      simp only []
      generalize runChain fs t _ s1 = r2
      obtain ⟨cx2, s2, p2⟩ := r2
      cases p2 <;> rfl

/-- the panic result of a chain is `chainPanic` — independent of the writer state, of the context,
    hence of coding and of the recovery switch -/
theorem runChain_panic (fs : List (Stage × Filter)) (t : Target) (cx : Ctx) (s : St) :
    (runChain fs t cx s).2.2 = chainPanic fs t.script := by
  induction fs generalizing cx s with
  | nil => simp [runChain, chainPanic, runStage_panic]
  | cons sf fs ih =>
    obtain ⟨st, f⟩ := sf
    rw [runChain_cons]
    simp only [runStage_panic, ih, chainPanic]
    cases firstPanic f.pre with
    | some v => rfl
    | none =>
      cases f.kind with
      | stop => simp [runStage_panic]
      | pass => cases chainPanic fs t.script <;> first | rfl | simp [runStage_panic]
      | replace => cases chainPanic fs t.script <;> first | rfl | simp [runStage_panic]
      | middle => cases chainPanic fs t.script <;> first | rfl | simp [runStage_panic]

theorem plainFilteredBody_eq (cfg : Cfg) (s : St) (hne : cfg.cfilters.isEmpty = false) :
    plainFilteredBody cfg s =
      (match chainPanic (label .cfilter cfg.cfilters) cfg.plainScript with
       | none => ((runChain (label .cfilter cfg.cfilters) ⟨.plain 0, cfg.plainScript⟩ {} s).2.1, none, 0)
       | some v =>
         if cfg.recover then
           (runRecover cfg (runChain (label .cfilter cfg.cfilters) ⟨.plain 0, cfg.plainScript⟩ {} s).2.1, none, 1)
         else ((runChain (label .cfilter cfg.cfilters) ⟨.plain 0, cfg.plainScript⟩ {} s).2.1, some v, 0)) := by
  unfold plainFilteredBody
  simp only [hne, Bool.false_eq_true, if_false]
  have hp := runChain_panic (label .cfilter cfg.cfilters) ⟨.plain 0, cfg.plainScript⟩ {} s
  generalize runChain (label .cfilter cfg.cfilters) ⟨.plain 0, cfg.plainScript⟩ {} s = Q at hp ⊢
  obtain ⟨cx1, s1, p⟩ := Q
  simp only at hp
  subst hp
  rfl

theorem plainFilteredBody_nil (cfg : Cfg) (s : St) (he : cfg.cfilters.isEmpty = true) :
    plainFilteredBody cfg s = plainBody cfg s := by
  simp [plainFilteredBody, he]

namespace Enc

/-- a relation between two recorders that every operation on the base writer preserves when done on
    both sides; `ok k`: a header named `k` may be added -/
structure Stable (R : Rec → Rec → Prop) (ok : Str → Prop) : Prop where
  write : ∀ {r₁ r₂ : Rec} (b : Str), R r₁ r₂ → R (baseWrite r₁ b) (baseWrite r₂ b)
  writeHeader : ∀ {r₁ r₂ : Rec} (c : Nat), R r₁ r₂ → R (baseWriteHeader r₁ c) (baseWriteHeader r₂ c)
  addHeader : ∀ {r₁ r₂ : Rec} (k v : Str), ok k → R r₁ r₂ → R (Serve.addHeader r₁ k v) (Serve.addHeader r₂ k v)

def ScriptOk (ok : Str → Prop) (acts : List Act) : Prop := ∀ k v, Act.addHeader k v ∈ acts → ok k
def FilterOk (ok : Str → Prop) (f : Filter) : Prop := ScriptOk ok f.pre ∧ ScriptOk ok f.post
def ChainOk (ok : Str → Prop) (fs : List (Stage × Filter)) (t : Target) : Prop :=
  (∀ sf ∈ fs, FilterOk ok sf.2) ∧ ScriptOk ok t.script

structure CfgOk (ok : Str → Prop) (cfg : Cfg) : Prop where
  cfilters : ∀ f ∈ cfg.cfilters, FilterOk ok f
  svcs : ∀ sv ∈ cfg.svcs, ∀ f ∈ sv.filters, FilterOk ok f
  routes : ∀ r ∈ cfg.routes, (∀ f ∈ r.filters, FilterOk ok f) ∧ ScriptOk ok r.script
  recover : ∀ sc, cfg.recoverScript = some sc → ScriptOk ok sc
  plain : ScriptOk ok cfg.plainScript

theorem ScriptOk.tail {ok : Str → Prop} {a : Act} {as : List Act} (h : ScriptOk ok (a :: as)) : ScriptOk ok as :=
  fun k v hm => h k v (List.mem_cons_of_mem _ hm)

theorem ChainOk.tail {ok : Str → Prop} {sf : Stage × Filter} {fs : List (Stage × Filter)} {t : Target}
    (h : ChainOk ok (sf :: fs) t) : ChainOk ok fs t :=
  ⟨fun x hx => h.1 x (List.mem_cons_of_mem _ hx), h.2⟩

theorem ScriptOk.of_all {ok : Str → Prop} (h : ∀ k, ok k) (acts : List Act) : ScriptOk ok acts :=
  fun k _ _ => h k

theorem ChainOk.trivial (fs : List (Stage × Filter)) (t : Target) : ChainOk (fun _ => True) fs t :=
  ⟨fun _ _ => ⟨fun _ _ _ => True.intro, fun _ _ _ => True.intro⟩, fun _ _ _ => True.intro⟩

theorem CfgOk.trivial (cfg : Cfg) : CfgOk (fun _ => True) cfg :=
  ⟨fun _ _ => ⟨fun _ _ _ => True.intro, fun _ _ _ => True.intro⟩, fun _ _ _ _ => ⟨fun _ _ _ => True.intro, fun _ _ _ => True.intro⟩,
   fun _ _ => ⟨fun _ _ => ⟨fun _ _ _ => True.intro, fun _ _ _ => True.intro⟩, fun _ _ _ => True.intro⟩,
   fun _ _ _ _ _ => True.intro, fun _ _ _ => True.intro⟩

theorem mem_label {mk : Nat → Stage} {fs : List Filter} {sf : Stage × Filter} (h : sf ∈ label mk fs) :
    sf.2 ∈ fs := by
  obtain ⟨f, hf, rfl⟩ := List.mem_map.mp h
  exact hf

theorem chainOk_cfilters {ok : Str → Prop} {cfg : Cfg} (h : CfgOk ok cfg) {t : Target} (ht : ScriptOk ok t.script) :
    ChainOk ok (label .cfilter cfg.cfilters) t :=
  ⟨fun _ hsf => h.cfilters _ (mem_label hsf), ht⟩

theorem chainOk_allFilters {ok : Str → Prop} {cfg : Cfg} (h : CfgOk ok cfg) (svc rid : Nat) :
    ChainOk ok (allFilters cfg svc rid) ⟨.handler rid, (routeX cfg rid).script⟩ := by
  have hr : (∀ f ∈ (routeX cfg rid).filters, FilterOk ok f) ∧ ScriptOk ok (routeX cfg rid).script := by
    rcases routeX_mem cfg rid with hm | he
    · exact h.routes _ hm
    · rw [he]
      exact ⟨nofun, nofun⟩
  have hs : ∀ f ∈ (svcX cfg svc).filters, FilterOk ok f := by
    rcases svcX_mem cfg svc with hm | he
    · exact h.svcs _ hm
    · rw [he]
      exact nofun
  refine ⟨?_, hr.2⟩
  intro sf hsf
  unfold allFilters at hsf
  rcases List.mem_append.mp hsf with hsf | hsf
  · rcases List.mem_append.mp hsf with hsf | hsf
    · exact h.cfilters _ (mem_label hsf)
    · exact hs _ (mem_label hsf)
  · exact hr.1 _ (mem_label hsf)

end Enc
open Enc

section rel
variable {R : Rec → Rec → Prop} {ok : Str → Prop} (hR : Stable R ok)
include hR

theorem runActs_rel (acts : List Act) (cx : Ctx) {s₁ s₂ : St} (hok : ScriptOk ok acts) (h : R s₁.rc s₂.rc) :
    (runActs acts cx s₁).1 = (runActs acts cx s₂).1 ∧ R (runActs acts cx s₁).2.1.rc (runActs acts cx s₂).2.1.rc := by
  induction acts generalizing cx s₁ s₂ with
  | nil => exact ⟨rfl, h⟩
  | cons a as ih =>
    cases a with
    | write b => exact ih cx hok.tail (hR.write _ h)
    | writeHeader c => exact ih cx hok.tail (hR.writeHeader _ h)
    | addHeader k v => exact ih cx hok.tail (hR.addHeader _ _ (hok _ _ List.mem_cons_self) h)
    | setAttr k v => exact ih _ hok.tail h
    | panic v => exact ⟨rfl, h⟩

theorem runStage_rel (st : Stage) (post : Bool) (acts : List Act) (cx : Ctx) {s₁ s₂ : St}
    (hok : ScriptOk ok acts) (h : R s₁.rc s₂.rc) :
    (runStage st post acts cx s₁).1 = (runStage st post acts cx s₂).1 ∧
      R (runStage st post acts cx s₁).2.1.rc (runStage st post acts cx s₂).2.1.rc :=
  runActs_rel hR acts cx (s₁ := logStart st post cx s₁) (s₂ := logStart st post cx s₂) hok h

/-- two runs of the same chain in the same context, from related recorders: equal contexts, related
    recorders (and the same panic: `runChain_panic`) -/
theorem runChain_rel (fs : List (Stage × Filter)) (t : Target) (cx : Ctx) {s₁ s₂ : St}
    (hok : ChainOk ok fs t) (h : R s₁.rc s₂.rc) :
    (runChain fs t cx s₁).1 = (runChain fs t cx s₂).1 ∧ R (runChain fs t cx s₁).2.1.rc (runChain fs t cx s₂).2.1.rc := by
  induction fs generalizing cx s₁ s₂ with
  | nil => exact runStage_rel hR _ _ _ _ hok.2 h
  | cons sf fs ih =>
    obtain ⟨st, f⟩ := sf
    have hpost : ScriptOk ok f.post := (hok.1 _ List.mem_cons_self).2
    obtain ⟨hc1, h1⟩ := runStage_rel hR st false f.pre cx (hok.1 _ List.mem_cons_self).1 h
    rw [runChain_cons, runChain_cons]
    simp only [runStage_panic, runChain_panic]
    cases firstPanic f.pre with
    | some v => exact ⟨hc1, h1⟩
    | none =>
      cases f.kind with
      | stop =>
        simp only [hc1]
        exact runStage_rel hR _ _ _ _ hpost h1
      | pass =>
        simp only [hc1]
        obtain ⟨hc2, h2⟩ := ih (runStage st false f.pre cx s₂).1 hok.tail h1
        cases chainPanic fs t.script with
        | some v => exact ⟨hc2, h2⟩
        | none =>
          simp only [hc2]
          exact runStage_rel hR _ _ _ _ hpost h2
      | replace =>
        simp only [hc1]
        obtain ⟨_, h2⟩ := ih { attrs := [("who".toList, (toString f.id).toList)], params := [], selPath := [], wrappers := f.id :: (runStage st false f.pre cx s₂).1.wrappers } hok.tail h1
        cases chainPanic fs t.script with
        | some v => exact ⟨rfl, h2⟩
        | none => exact runStage_rel hR _ _ _ _ hpost h2
      | middle =>
        simp only [hc1]
        obtain ⟨hc2, h2⟩ := ih { (runStage st false f.pre cx s₂).1 with wrappers := f.id :: (runStage st false f.pre cx s₂).1.wrappers } hok.tail h1
        cases chainPanic fs t.script with
        | some v => exact ⟨hc2, h2⟩
        | none =>
          simp only [hc2]
          obtain ⟨hc3, h3⟩ := runStage_rel hR st true f.post
            { (runChain fs t { (runStage st false f.pre cx s₂).1 with wrappers := f.id :: (runStage st false f.pre cx s₂).1.wrappers } (runStage st false f.pre cx s₂).2.1).1 with wrappers := (runStage st false f.pre cx s₂).1.wrappers } hpost h2
          exact ⟨by rw [hc3], h3⟩

theorem runRecover_rel (cfg : Cfg) {s₁ s₂ : St} (hok : ∀ sc, cfg.recoverScript = some sc → ScriptOk ok sc)
    (h : R s₁.rc s₂.rc) : R (runRecover cfg s₁).rc (runRecover cfg s₂).rc := by
  unfold runRecover
  split
  · rename_i sc hsc
    exact (runStage_rel hR _ _ _ _ (hok sc hsc) h).2
  · exact hR.write _ (hR.writeHeader 500 h)

theorem plainBody_rel (cfg : Cfg) {s₁ s₂ : St} (hok : ScriptOk ok cfg.plainScript) (h : R s₁.rc s₂.rc) :
    R (plainBody cfg s₁).1.rc (plainBody cfg s₂).1.rc :=
  (runStage_rel hR (.plain 0) false cfg.plainScript {} hok h).2

theorem plainFilteredBody_rel (cfg : Cfg) {s₁ s₂ : St} (hok : CfgOk ok cfg) (h : R s₁.rc s₂.rc) :
    R (plainFilteredBody cfg s₁).1.rc (plainFilteredBody cfg s₂).1.rc := by
  cases hne : cfg.cfilters.isEmpty with
  | true =>
    rw [plainFilteredBody_nil cfg _ hne, plainFilteredBody_nil cfg _ hne]
    exact plainBody_rel hR cfg hok.plain h
  | false =>
    rw [plainFilteredBody_eq cfg _ hne, plainFilteredBody_eq cfg _ hne]
    have hc := (runChain_rel hR _ ⟨.plain 0, cfg.plainScript⟩ {} (chainOk_cfilters hok hok.plain) h).2
    cases chainPanic (label .cfilter cfg.cfilters) cfg.plainScript with
    | none => exact hc
    | some v =>
      cases cfg.recover with
      | true => exact runRecover_rel hR cfg hok.recover hc
      | false => exact hc

end rel

section pres
variable {P : Rec → Prop} {ok : Str → Prop} (hP : Stable (fun r _ => P r) ok)
include hP

/-- a property of the recorder that every writer operation preserves is preserved by a chain, by the
    recover handler and by the plain handlers -/
theorem runChain_pres (fs : List (Stage × Filter)) (t : Target) (cx : Ctx) (s : St) (hok : ChainOk ok fs t)
    (h : P s.rc) : P (runChain fs t cx s).2.1.rc :=
  (runChain_rel hP fs t cx (s₂ := s) hok h).2

theorem runRecover_pres (cfg : Cfg) (s : St) (hok : CfgOk ok cfg) (h : P s.rc) : P (runRecover cfg s).rc :=
  runRecover_rel hP cfg (s₂ := s) hok.recover h

theorem plainBody_pres (cfg : Cfg) (s : St) (hok : CfgOk ok cfg) (h : P s.rc) : P (plainBody cfg s).1.rc :=
  plainBody_rel hP cfg (s₂ := s) hok.plain h

theorem plainFilteredBody_pres (cfg : Cfg) (s : St) (hok : CfgOk ok cfg) (h : P s.rc) :
    P (plainFilteredBody cfg s).1.rc :=
  plainFilteredBody_rel hP cfg (s₂ := s) hok h

end pres

section dispatch
variable {P Q : Rec → Prop} {ok : Str → Prop} (hP : Stable (fun r _ => P r) ok)
  (hc : ∀ s : St, P s.rc → Q (closeComp s).rc) {cfg : Cfg} (hok : CfgOk ok cfg)
include hP hc hok

/-- `dispatch` runs scripts on the writer it finds or installs and closes once at the end: what every
    writer operation preserves (`P`) and `Close` turns into `Q` -/
theorem finishDispatch_pres {s : St} (p : Option Str) (h : P s.rc) : Q (finishDispatch cfg s p).1.rc := by
  unfold finishDispatch
  cases p with
  | none => exact hc _ h
  | some v =>
    cases cfg.recover with
    | true => exact hc _ (runRecover_pres hP cfg s hok h)
    | false => exact hc _ h

theorem dispatch_pres (E : ReEnv) (herr : ∀ code allow msg, ScriptOk ok (errorScript code allow msg)) (sr : SReq)
    {s : St} (h : P s.rc) (hm : ∀ en, P (maybeInstall en s sr.acceptEncoding).rc) : Q (dispatch E cfg sr s).1.rc := by
  unfold dispatch
  split
  · exact finishDispatch_pres hP hc hok _ h
  · split
    · exact finishDispatch_pres hP hc hok _ h
    · exact finishDispatch_pres hP hc hok _ (runChain_pres hP _ _ _ _ (chainOk_cfilters hok (herr _ _ _)) h)
    · exact finishDispatch_pres hP hc hok _ (runChain_pres hP _ _ _ _ (chainOk_allFilters hok _ _) (hm _))

end dispatch

theorem dispatch_closed (E : ReEnv) (cfg : Cfg) (sr : SReq) (s : St) : Closed (dispatch E cfg sr s).1.rc :=
  dispatch_pres (P := fun _ => True) ⟨fun _ _ => trivial, fun _ _ => trivial, fun _ _ _ _ => trivial⟩
    (fun s _ => closeComp_closed s) (.trivial cfg) E (fun _ _ _ => .of_all (fun _ => trivial) _) sr trivial (fun _ => trivial)

/-- `Handle`: the `Close` is deferred, it runs also when a panic propagates -/
theorem handleWrapper_closed (cfg : Cfg) (sr : SReq) (s0 : St) (body : St → St × Option Str × Nat)
    (h : s0.rc.comp = none) : Closed (handleWrapper cfg sr s0 body).1.rc := by
  unfold handleWrapper
  rw [h]
  exact closeComp_closed _

theorem serveWrapper_closed (cfg : Cfg) (sr : SReq) (s0 : St) (inner : St → St × Option Str × Nat)
    (h : Closed (inner s0).1.rc) : Closed (serveWrapper cfg sr s0 inner).1.rc := by
  unfold serveWrapper
  split
  · exact h
  · exact closeComp_closed _

def entryBody (E : ReEnv) (cfg : Cfg) (e : Entry) (sr : SReq) : St → St × Option Str × Nat :=
  match e with
  | .dispatch => dispatch E cfg sr
  | .serveDispatch => fun s0 => serveWrapper cfg sr s0 (dispatch E cfg sr)
  | .muxHandle => fun s0 => handleWrapper cfg sr s0 (plainBody cfg)
  | .serveHandle => fun s0 => serveWrapper cfg sr s0 (fun s => handleWrapper cfg sr s (plainBody cfg))
  | .muxHandleF => fun s0 => handleWrapper cfg sr s0 (plainFilteredBody cfg)
  | .serveHandleF => fun s0 => serveWrapper cfg sr s0 (fun s => handleWrapper cfg sr s (plainFilteredBody cfg))

abbrev serveCore (E : ReEnv) (cfg : Cfg) (e : Entry) (sr : SReq) : St × Option Str × Nat :=
  entryBody E cfg e sr (initial sr)

theorem serve_eq (E : ReEnv) (cfg : Cfg) (e : Entry) (w : World) (sr : SReq) :
    serve E cfg e w sr =
      { rc := (serveCore E cfg e sr).1.rc, log := (serveCore E cfg e sr).1.log.reverse,
        world := ledger w (serveCore E cfg e sr).1.rc,
        escaped := (serveCore E cfg e sr).2.1, recoverCalls := (serveCore E cfg e sr).2.2 } := by
  cases e <;> rfl

theorem serve_rc (E : ReEnv) (cfg : Cfg) (e : Entry) (w : World) (sr : SReq) :
    (serve E cfg e w sr).rc = (serveCore E cfg e sr).1.rc := by
  rw [serve_eq]

theorem serve_world (E : ReEnv) (cfg : Cfg) (e : Entry) (w : World) (sr : SReq) :
    (serve E cfg e w sr).world = ledger w (serve E cfg e w sr).rc := by
  rw [serve_eq]

/-- on every path through every entry point the compressing writer installed for the request has
    been closed when the entry point is left -/
theorem serve_closed (E : ReEnv) (cfg : Cfg) (e : Entry) (w : World) (sr : SReq) : Closed (serve E cfg e w sr).rc := by
  rw [serve_rc]
  cases e with
  | dispatch => exact dispatch_closed E cfg sr _
  | serveDispatch => exact serveWrapper_closed cfg sr _ _ (dispatch_closed E cfg sr _)
  | muxHandle => exact handleWrapper_closed cfg sr _ (plainBody cfg) rfl
  | serveHandle => exact serveWrapper_closed cfg sr _ _ (handleWrapper_closed cfg sr _ (plainBody cfg) rfl)
  | muxHandleF => exact handleWrapper_closed cfg sr _ (plainFilteredBody cfg) rfl
  | serveHandleF => exact serveWrapper_closed cfg sr _ _ (handleWrapper_closed cfg sr _ (plainFilteredBody cfg) rfl)

end Serve
end Restful
