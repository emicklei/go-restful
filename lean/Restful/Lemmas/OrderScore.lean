/-
C03: the ranking keys.  A more specific template has the greater static count
(CurlyRouter's first sort key); among WebService root paths a literal scores above a variable,
a longer matching root above its own prefix, and `detectWebService` returns, among the roots that
claim the request (faithful score `Curly.wsScoreE`, fix 19aa57d), one of greatest score.
-/
import Restful.Spec.Order
import Restful.Lemmas.CurlyMatch
import Restful.Lemmas.CurlySelect
namespace Restful
open Str

def litCount (ts : List TTok) : Nat := (ts.filter (fun t => t.base.name?.isNone)).length

theorem litCount_cons (t : TTok) (ts : List TTok) :
    litCount (t :: ts) = (if t.base.name?.isNone then 1 else 0) + litCount ts := by
  simp only [litCount, List.filter_cons]
  split <;> simp <;> omega

theorem atLeast_lastHasVerb : ∀ (a b : List TTok), Spec.atLeastAsSpecific a b = true →
    lastHasVerb a = lastHasVerb b
  | [], [], _ => rfl
  | [], _ :: _, h => by simp [Spec.atLeastAsSpecific] at h
  | _ :: _, [], h => by simp [Spec.atLeastAsSpecific] at h
  | [a], [b], h => by
    simp only [Spec.atLeastAsSpecific, Spec.tokAtLeast, Bool.and_eq_true, beq_iff_eq] at h
    simp [lastHasVerb, h.1.1.1]
  | _ :: _ :: _, [_], h => by simp [Spec.atLeastAsSpecific] at h
  | [_], _ :: _ :: _, h => by simp [Spec.atLeastAsSpecific] at h
  | a :: a' :: as, b :: b' :: bs, h => by
    rw [lastHasVerb_cons_cons, lastHasVerb_cons_cons]
    rw [Spec.atLeastAsSpecific, Bool.and_eq_true] at h
    exact atLeast_lastHasVerb (a' :: as) (b' :: bs) h.2

theorem atLeast_litCount : ∀ (a b : List TTok), Spec.atLeastAsSpecific a b = true →
    litCount b ≤ litCount a ∧ (Spec.someStrict a b = true → litCount b < litCount a)
  | [], [], _ => by simp [Spec.someStrict]
  | [], _ :: _, h => by simp [Spec.atLeastAsSpecific] at h
  | _ :: _, [], h => by simp [Spec.atLeastAsSpecific] at h
  | a :: as, b :: bs, h => by
    rw [Spec.atLeastAsSpecific, Bool.and_eq_true] at h
    have ih := atLeast_litCount as bs h.2
    have h1 := h.1
    simp only [Spec.tokAtLeast, Spec.TTok.isLit, Bool.and_eq_true, Bool.or_eq_true,
      Bool.not_eq_true'] at h1
    rw [litCount_cons, litCount_cons]
    simp only [Spec.someStrict, Spec.tokStrict, Spec.TTok.isLit, Bool.or_eq_true, Bool.and_eq_true,
      Bool.not_eq_true']
    cases ha : a.base.name?.isNone <;> cases hb : b.base.name?.isNone <;>
      simp [ha, hb] at h1 ⊢ <;> omega

/-- **C03, CurlyRouter ranking key**: a template that is more specific than another has the
    strictly greater static count -/
theorem C03_curly_key (ts' ts : List TTok) (h : Spec.moreSpecific ts' ts = true) :
    staticCount ts' > staticCount ts := by
  rw [Spec.moreSpecific, Bool.and_eq_true] at h
  have h1 := atLeast_lastHasVerb ts' ts h.1
  have h2 := (atLeast_litCount ts' ts h.1).2 h.2
  unfold staticCount
  rw [h1]
  unfold litCount at h2
  omega

namespace Curly

/-- what one root token adds to the score; `n` = number of root tokens after it -/
def stepD (x q : Str) (n : Nat) : Option Nat :=
  if q.isEmpty && x.isEmpty then some 1
  else if Spec.rootTokIsVar x then (if q.isEmpty then none else some 1)
  else if q != x then none else some ((n + 1) * 10)

theorem scoreWalk_cons (x q : Str) (ts qs : List Str) (acc : Nat) :
    scoreWalk (x :: ts) (q :: qs) acc = (stepD x q ts.length).bind (fun d => scoreWalk ts qs (acc + d)) := by
  rw [scoreWalk, stepD, Spec.rootTokIsVar]
  split
  · rfl
  · split
    · split <;> rfl
    · split <;> rfl

/-- the three ways a root token matches a segment: both empty; a variable and a non-empty segment;
    a non-empty literal and the same segment -/
theorem stepD_eq_some {x q : Str} {n d : Nat} : stepD x q n = some d ↔
    (q = [] ∧ x = [] ∧ d = 1) ∨
    (Spec.rootTokIsVar x = true ∧ q ≠ [] ∧ d = 1) ∨
    (Spec.rootTokIsVar x = false ∧ x ≠ [] ∧ q = x ∧ d = (n + 1) * 10) := by
  unfold stepD
  cases x with
  | nil => cases q <;> simp [Spec.rootTokIsVar, eq_comm (a := d)]
  | cons c cs => cases hv : Spec.rootTokIsVar (c :: cs) <;> cases q <;> simp [*, eq_comm (a := d)]

theorem stepD_pos {x q : Str} {n d : Nat} (h : stepD x q n = some d) : 1 ≤ d := by
  rcases stepD_eq_some.mp h with ⟨_, _, rfl⟩ | ⟨_, _, rfl⟩ | ⟨_, _, _, rfl⟩ <;> omega

theorem stepD_mono {x q : Str} {n m d d' : Nat} (h : stepD x q n = some d) (h' : stepD x q m = some d')
    (hnm : n ≤ m) : d ≤ d' := by
  rcases stepD_eq_some.mp h with ⟨hq, hx, rfl⟩ | ⟨hv, hq, rfl⟩ | ⟨hv, hx, hq, rfl⟩ <;>
    rcases stepD_eq_some.mp h' with ⟨hq', hx', rfl⟩ | ⟨hv', hq', rfl⟩ | ⟨hv', hx', hq', rfl⟩ <;>
    simp_all <;> omega

/-- at one position, when both tokens match the segment: a literal token scores at least what the
    other token scores, and more than a variable.  (An empty token is matched by an empty segment
    only, which neither a variable nor a non-empty literal matches: the other token is empty too.) -/
theorem stepD_lit_var {x y q : Str} {n dx dy : Nat}
    (hxy : (!Spec.rootTokIsVar x || Spec.rootTokIsVar y) = true)
    (h : stepD x q n = some dx) (h' : stepD y q n = some dy) :
    dy ≤ dx ∧ ((!Spec.rootTokIsVar x && Spec.rootTokIsVar y) = true → dy < dx) := by
  rcases stepD_eq_some.mp h with ⟨hq, hx, rfl⟩ | ⟨hv, hq, rfl⟩ | ⟨hv, hx, hq, rfl⟩ <;>
    rcases stepD_eq_some.mp h' with ⟨hq', hy, rfl⟩ | ⟨hv', hq', rfl⟩ | ⟨hv', hy, hq', rfl⟩ <;>
    simp_all [Spec.rootTokIsVar] <;> omega

theorem scoreWalk_ge : ∀ (ts qs : List Str) (acc s : Nat), scoreWalk ts qs acc = some s → acc + ts.length ≤ s
  | [], _, acc, s, h => by
    simp only [scoreWalk, Option.some.injEq] at h
    simp [h]
  | _ :: _, [], _, _, h => by simp [scoreWalk] at h
  | x :: ts, q :: qs, acc, s, h => by
    rw [scoreWalk_cons, Option.bind_eq_some_iff] at h
    obtain ⟨d, hd, h⟩ := h
    have := scoreWalk_ge ts qs _ s h
    have := stepD_pos hd
    simp only [List.length_cons]
    omega

theorem rootAtLeast_length : ∀ (a b : List Str), Spec.rootAtLeast a b = true → a.length = b.length
  | [], [], _ => rfl
  | [], _ :: _, h => by simp [Spec.rootAtLeast] at h
  | _ :: _, [], h => by simp [Spec.rootAtLeast] at h
  | _ :: as, _ :: bs, h => by
    rw [Spec.rootAtLeast, Bool.and_eq_true] at h
    simp [rootAtLeast_length as bs h.2]

theorem scoreWalk_lit_var : ∀ (a b qs : List Str) (acca accb sa sb : Nat),
    Spec.rootAtLeast a b = true → scoreWalk a qs acca = some sa → scoreWalk b qs accb = some sb →
    accb ≤ acca → sb ≤ sa ∧ ((accb < acca ∨ Spec.rootSomeStrict a b = true) → sb < sa)
  | [], [], qs, acca, accb, sa, sb, _, ha, hb, hacc => by
    simp only [scoreWalk, Option.some.injEq] at ha hb
    subst ha hb
    simp [Spec.rootSomeStrict]
    exact hacc
  | [], _ :: _, _, _, _, _, _, h, _, _, _ => by simp [Spec.rootAtLeast] at h
  | _ :: _, [], _, _, _, _, _, h, _, _, _ => by simp [Spec.rootAtLeast] at h
  | _ :: _, _ :: _, [], _, _, _, _, _, ha, _, _ => by simp [scoreWalk] at ha
  | x :: as, y :: bs, q :: qs, acca, accb, sa, sb, hal, ha, hb, hacc => by
    rw [Spec.rootAtLeast, Bool.and_eq_true] at hal
    rw [scoreWalk_cons, Option.bind_eq_some_iff] at ha hb
    obtain ⟨dx, hdx, ha⟩ := ha
    obtain ⟨dy, hdy, hb⟩ := hb
    rw [← rootAtLeast_length as bs hal.2] at hdy
    have hstep := stepD_lit_var hal.1 hdx hdy
    have ih := scoreWalk_lit_var as bs qs _ _ sa sb hal.2 ha hb (by omega)
    refine ⟨ih.1, fun hs => ih.2 ?_⟩
    rw [Spec.rootSomeStrict, Bool.or_eq_true] at hs
    rcases hs with hs | hs | hs
    · exact Or.inl (by omega)
    · exact Or.inl (by have := hstep.2 hs; omega)
    · exact Or.inr hs

theorem scoreWalk_prefix : ∀ (b c qs : List Str) (acca accb sa sb : Nat),
    scoreWalk (b ++ c) qs acca = some sa → scoreWalk b qs accb = some sb → accb ≤ acca →
    sb + c.length ≤ sa
  | [], c, qs, acca, accb, sa, sb, ha, hb, hacc => by
    simp only [scoreWalk, Option.some.injEq] at hb
    subst hb
    have := scoreWalk_ge c qs acca sa (by simpa using ha)
    omega
  | _ :: _, _, [], _, _, _, _, ha, _, _ => by simp [scoreWalk] at ha
  | y :: bs, c, q :: qs, acca, accb, sa, sb, ha, hb, hacc => by
    rw [List.cons_append, scoreWalk_cons, Option.bind_eq_some_iff] at ha
    rw [scoreWalk_cons, Option.bind_eq_some_iff] at hb
    obtain ⟨da, hda, ha⟩ := ha
    obtain ⟨db, hdb, hb⟩ := hb
    have := stepD_mono hdb hda (by simp)
    exact scoreWalk_prefix bs c qs _ _ sa sb ha hb (by omega)

theorem wsScore_some {qs toks : List Str} {s : Nat} (h : wsScore qs toks = some s) :
    scoreWalk toks qs 0 = some s := by
  unfold wsScore at h
  split at h
  · simp at h
  · exact h

end Curly

/-- **C03, service level**: a root with a literal where the other has a variable (same shape
    otherwise) scores higher whenever both match the request — no condition on empty tokens -/
theorem C03_root_literal_beats_variable_claimed (qs a b : List Str)
    (h : Spec.rootMoreSpecific a b = true) (sa sb : Nat)
    (ha : Curly.wsScore qs a = some sa) (hb : Curly.wsScore qs b = some sb) : sa > sb := by
  rw [Spec.rootMoreSpecific, Bool.and_eq_true] at h
  exact (Curly.scoreWalk_lit_var a b qs 0 0 sa sb h.1 (Curly.wsScore_some ha) (Curly.wsScore_some hb)
    (Nat.le_refl _)).2 (Or.inr h.2)

/-- **C03, service level**, with a side condition (the tokens of the more specific root are not
    empty) that `C03_root_literal_beats_variable_claimed` shows to be superfluous -/
theorem C03_root_literal_beats_variable (qs a b : List Str) (hne : ∀ t ∈ a, t ≠ [])
    (h : Spec.rootMoreSpecific a b = true) (sa sb : Nat)
    (ha : Curly.wsScore qs a = some sa) (hb : Curly.wsScore qs b = some sb) : sa > sb :=
  have _ := hne -- not needed
  C03_root_literal_beats_variable_claimed qs a b h sa sb ha hb

/-- **C03, service level**: a longer matching root scores higher than its own proper prefix -/
theorem C03_root_longer_beats_prefix (qs a b : List Str) (hpre : b <+: a) (hne : b ≠ a) (sa sb : Nat)
    (ha : Curly.wsScore qs a = some sa) (hb : Curly.wsScore qs b = some sb) : sa > sb := by
  obtain ⟨c, rfl⟩ := hpre
  have hc : c ≠ [] := by intro e; subst e; simp at hne
  have := Curly.scoreWalk_prefix b c qs 0 0 sa sb (Curly.wsScore_some ha) (Curly.wsScore_some hb) (Nat.le_refl _)
  have : 0 < c.length := List.length_pos_iff.mpr hc
  omega

namespace Curly
variable (E : ReEnv)

/-- the arithmetic of the service's score for the request (no root expression is looked at) -/
abbrev svcScore (qs : List Str) (s : Service) : Option Nat := wsScore qs (tokenize s.rootPath)

/-- the service's score for the request, as `detectWebService` computes it -/
abbrev svcScoreE (qs : List Str) (s : Service) : Score := wsScoreE E qs (tokenize s.rootPath)

/-- the best service so far after a service `x` that claims the request with score `sc` -/
def better (best : Option (Service × Nat)) (x : Service) (sc : Nat) : Service × Nat :=
  match best with
  | none => (x, sc)
  | some (b, bs) => if sc > bs then (x, sc) else (b, bs)

theorem detectWebService_cons (qs : List Str) (x : Service) (xs : List Service) (best : Option (Service × Nat)) :
    detectWebService E qs (x :: xs) best =
      match svcScoreE E qs x with
      | .panic => none
      | .no => detectWebService E qs xs best
      | .yes sc => detectWebService E qs xs (some (better best x sc)) := by
  unfold svcScoreE
  cases hx : wsScoreE E qs (tokenize x.rootPath) <;> cases best <;> simp only [detectWebService, hx, better]
  split <;> rfl

theorem better_spec (best : Option (Service × Nat)) (x : Service) (sc : Nat) :
    sc ≤ (better best x sc).2 ∧ (∀ b bs, best = some (b, bs) → bs ≤ (better best x sc).2) ∧
      (better best x sc = (x, sc) ∨ best = some (better best x sc)) := by
  unfold better
  cases best with
  | none => simp
  | some b =>
    obtain ⟨b, bs⟩ := b
    simp only [Option.some.injEq, Prod.mk.injEq]
    split
    · rename_i hgt
      refine ⟨Nat.le_refl _, ?_, Or.inl rfl⟩
      rintro _ _ ⟨rfl, rfl⟩
      exact Nat.le_of_lt hgt
    · rename_i hle
      refine ⟨Nat.le_of_not_gt hle, ?_, Or.inr rfl⟩
      rintro _ _ ⟨rfl, rfl⟩
      exact Nat.le_refl _

/-- what the loop carries, generalised over the best service so far (the loop starts with `none`):
    the answer is either a later claiming service or that `best`, and its score bounds `best`'s
    and every claiming score still to come — `better` replaces `best` only by a strictly greater score -/
theorem detectWebService_inv (qs : List Str) : ∀ (svcs : List Service) (best : Option (Service × Nat)) (s : Service) (sc : Nat),
    detectWebService E qs svcs best = some (some (s, sc)) →
      ((s ∈ svcs ∧ svcScoreE E qs s = .yes sc) ∨ best = some (s, sc)) ∧
      (∀ s' ∈ svcs, ∀ sc', svcScoreE E qs s' = .yes sc' → sc' ≤ sc) ∧
      (∀ b bs, best = some (b, bs) → bs ≤ sc)
  | [], best, s, sc, h => by
    simp only [detectWebService, Option.some.injEq] at h
    subst h
    simp
  | x :: xs, best, s, sc, h => by
    rw [detectWebService_cons] at h
    cases hx : svcScoreE E qs x with
    | panic => simp [hx] at h
    | no =>
      simp only [hx] at h
      obtain ⟨h1, h2, h3⟩ := detectWebService_inv qs xs best s sc h
      refine ⟨h1.imp_left fun ⟨hm, hs⟩ => ⟨List.mem_cons_of_mem _ hm, hs⟩, ?_, h3⟩
      intro s' hs' sc' hsc'
      rcases List.mem_cons.mp hs' with rfl | hs'
      · rw [hx] at hsc'; cases hsc'
      · exact h2 s' hs' sc' hsc'
    | yes sc0 =>
      simp only [hx] at h
      obtain ⟨h1, h2, h3⟩ := detectWebService_inv qs xs _ s sc h
      obtain ⟨b1, b2, b3⟩ := better_spec best x sc0
      have hle := h3 _ _ rfl
      refine ⟨?_, ?_, fun b bs e => Nat.le_trans (b2 b bs e) hle⟩
      · rcases h1 with ⟨hm, hs⟩ | h1
        · exact Or.inl ⟨List.mem_cons_of_mem _ hm, hs⟩
        · rcases b3 with b3 | b3
          · rw [b3] at h1
            cases h1
            exact Or.inl ⟨List.mem_cons_self, hx⟩
          · exact Or.inr (b3.trans h1)
      · intro s' hs' sc' hsc'
        rcases List.mem_cons.mp hs' with rfl | hs'
        · rw [hx] at hsc'; cases hsc'
          exact Nat.le_trans b1 hle
        · exact h2 s' hs' sc' hsc'

theorem detectWebService_max (qs : List Str) (svcs : List Service) (s : Service) (sc : Nat)
    (h : detectWebService E qs svcs none = some (some (s, sc))) :
    wsScoreE E qs (tokenize s.rootPath) = .yes sc ∧
    ∀ s' ∈ svcs, ∀ sc', wsScoreE E qs (tokenize s'.rootPath) = .yes sc' → sc' ≤ sc := by
  obtain ⟨h1, h2, _⟩ := detectWebService_inv E qs svcs none s sc h
  refine ⟨?_, h2⟩
  rcases h1 with ⟨_, hs⟩ | h1
  · exact hs
  · simp at h1

theorem detectWebService_panic (qs : List Str) : ∀ (svcs : List Service) (best : Option (Service × Nat)),
    detectWebService E qs svcs best = none ↔ ∃ s ∈ svcs, svcScoreE E qs s = .panic
  | [], best => by simp [detectWebService]
  | x :: xs, best => by
    rw [detectWebService_cons]
    cases hx : svcScoreE E qs x <;> simp [hx, detectWebService_panic qs xs]

theorem detectWebService_none (qs : List Str) : ∀ (svcs : List Service) (best : Option (Service × Nat)),
    detectWebService E qs svcs best = some none ↔ best = none ∧ ∀ s ∈ svcs, svcScoreE E qs s = .no
  | [], best => by simp [detectWebService]
  | x :: xs, best => by
    rw [detectWebService_cons]
    cases hx : svcScoreE E qs x <;> simp [hx, detectWebService_none qs xs]

end Curly
end Restful
