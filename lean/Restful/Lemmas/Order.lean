/-
C03 for CurlyRouter: the selected route is never less specific than another eligible route, and
the outcome of every request does not depend on the order of registration.
-/
import Restful.Lemmas.OrderSort
import Restful.Lemmas.OrderScore
import Restful.Lemmas.CurlyScore
import Restful.Lemmas.OrderPerm
import Restful.Lemmas.RouteSelected
import Restful.Lemmas.ReadTemplate
import Restful.Lemmas.DecideLits
namespace Restful
open Str
variable (E : ReEnv)

theorem route_curly {cfg : Config} (hk : cfg.router = .curly) (req : Req) :
    route E cfg req = (routeCurly E cfg req).1 := by
  unfold route routeTagged
  rw [hk]

/-- what `routeCurly` does once the WebService is detected -/
def curlyAfterSvc (routes : List Route) (req : Req) : Outcome :=
  match Curly.candidates E routes (tokenize req.path) with
  | none => .panic "curly.match"
  | some cs => finishWith (Params.extract · req.path) ((Sort.insertionSort Curly.candLess cs).map (·.route)) req

theorem routeCurly_fst (cfg : Config) (req : Req) :
    (routeCurly E cfg req).1 =
      match Curly.detectWebService E (tokenize req.path) cfg.services none with
      | none => .panic "curly.score"
      | some none => .error 404 none
      | some (some (svc, _)) => curlyAfterSvc E svc.built req := by
  unfold routeCurly curlyAfterSvc Curly.selectRoutes finishWith
  simp only
  rcases Curly.detectWebService E (tokenize req.path) cfg.services none with _ | _ | ⟨svc, sc⟩
  · rfl
  · rfl
  simp only
  cases Curly.candidates E svc.built (tokenize req.path) with
  | none => rfl
  | some cs =>
    simp only [Option.map_some]
    generalize (Sort.insertionSort Curly.candLess cs).map (·.route) = cands
    rcases cands with _ | ⟨x, xs⟩
    · rfl
    simp only
    cases detectRoute (x :: xs) req with
    | error e => rfl
    | ok r =>
      simp only
      cases Params.extract r req.path <;> rfl

theorem curlyAfterSvc_finishWith (routes : List Route) (req : Req) :
    curlyAfterSvc E routes req =
      match Curly.candidates E routes (tokenize req.path) with
      | none => .panic "curly.match"
      | some cs =>
        finishWith (Params.extract · req.path) ((Sort.insertionSort Curly.candLess cs).map (·.route)) req := rfl

/-- `rt` matches the URL and its static count bounds that of every eligible matching route of `routes` -/
def Curly.Best (routes : List Route) (qs : List Str) (req : Req) (rt : Route) : Prop :=
  ∃ p st, Curly.matchTokens E rt.pathParts qs rt.hasCustomVerb = .yes p st ∧
    ∀ rt' ∈ routes, ∀ p' st', Curly.matchTokens E rt'.pathParts qs rt'.hasCustomVerb = .yes p' st' →
      Spec.eligible rt' req = true → st' ≤ st

/-- the route `detectRoute` returns comes from the first eligible candidate of the sorted list -/
theorem Curly.selectRoutes_max {routes cands : List Route} {qs : List Str} {req : Req} {rt : Route}
    (hsel : Curly.selectRoutes E routes qs = some cands) (hok : detectRoute cands req = .ok rt) :
    Curly.Best E routes qs req rt := by
  unfold Curly.selectRoutes at hsel
  rw [Option.map_eq_some_iff] at hsel
  obtain ⟨cs, hc, rfl⟩ := hsel
  obtain ⟨c, hcm, rfl, hmax⟩ :=
    detectRoute_sorted_max (·.route) Curly.candLess_trans Curly.candLess_asymm cs req hok
  exact ⟨c.paramCount, c.staticCount, (Curly.candidates_mem E hc c hcm).2, fun rt' hrt' p' st' hm' hel' =>
    Sort.lexStep_le (Curly.candLess_eq ▸ hmax _ (Curly.candidates_complete E hc hrt' hm') hel')⟩

theorem routeCurly_selected_full {cfg : Config} {req : Req} {s r : Nat} {ps : Params}
    (h : (routeCurly E cfg req).1 = .selected s r ps) :
    ∃ svc sc, Curly.detectWebService E (tokenize req.path) cfg.services none = some (some (svc, sc)) ∧
      ∃ rt ∈ svc.built, svc.id = s ∧ rt.id = r ∧ Curly.Best E svc.built (tokenize req.path) req rt := by
  obtain ⟨svc, sc, cands, rt, hdet, hsel, hok, hs, hr, _⟩ := routeCurly_selected E h
  have hrt := (Curly.selectRoutes_mem E hsel (detectRoute_ok hok).1).1
  exact ⟨svc, sc, hdet, rt, hrt, (Service.built_svc svc hrt).symm.trans hs, hr, Curly.selectRoutes_max E hsel hok⟩

/-- **C03 (CurlyRouter), never less specific**: the static count of any other matching, eligible
    route of the detected service is at most that of the selected one -/
theorem C03_curly_never_less_specific (E : ReEnv) (cfg : Config) (req : Req) (s r : Nat) (ps : Params)
    (h : (routeCurly E cfg req).1 = .selected s r ps) :
    ∃ svc ∈ cfg.services, ∃ rt ∈ svc.built, svc.id = s ∧ rt.id = r ∧
      ∀ rt' ∈ svc.built, ∀ p' st', Curly.matchTokens E rt'.pathParts (tokenize req.path) rt'.hasCustomVerb = .yes p' st' →
        Spec.eligible rt' req = true →
        ∀ p st, Curly.matchTokens E rt.pathParts (tokenize req.path) rt.hasCustomVerb = .yes p st → st' ≤ st := by
  obtain ⟨svc, _, hdet, rt, hrt, h1, h2, p0, st0, hm0, hmax⟩ := routeCurly_selected_full E h
  refine ⟨svc, Curly.detectWebService_mem_none E hdet, rt, hrt, h1, h2, ?_⟩
  intro rt' hrt' p' st' hm' hel' p st hm
  rw [hm0] at hm
  cases hm
  exact hmax rt' hrt' p' st' hm' hel'

theorem matchTokens_of_template (svc : Service) {rt : Route} (hrt : rt ∈ svc.built) {ts : List TTok}
    (hts : readTemplate rt.path = some ts) (qs : List Str) :
    Curly.matchTokens E rt.pathParts qs rt.hasCustomVerb =
      if Spec.admits E .curly ts qs = true then .yes (paramCount ts) (staticCount ts) else .no := by
  obtain ⟨hr, hwf, hshape, hverb, _⟩ := readTemplate_facts hts
  obtain ⟨hp, hv⟩ := built_pathParts svc hrt
  rw [hp, hv, ← hr, hverb]
  exact Curly.matchTokens_spec E ts hwf hshape qs

/-- a best route is not beaten: no eligible route that admits the URL has a more specific template
    (`C03_curly_key`) -/
theorem Curly.Best.not_beaten {svc : Service} {rt : Route} (hrt : rt ∈ svc.built) {req : Req}
    (hbest : Curly.Best E svc.built (tokenize req.path) req rt)
    {rt' : Route} (hrt' : rt' ∈ svc.built) {ts ts' : List TTok} (hts : readTemplate rt.path = some ts)
    (hts' : readTemplate rt'.path = some ts') (hadm : Spec.admits E .curly ts' (tokenize req.path) = true)
    (hel : Spec.eligible rt' req = true) : Spec.moreSpecific ts' ts = false := by
  obtain ⟨p, st, hm, hmax⟩ := hbest
  have hm' := matchTokens_of_template E svc hrt' hts' (tokenize req.path)
  rw [if_pos hadm] at hm'
  have hm0 := matchTokens_of_template E svc hrt hts (tokenize req.path)
  rw [hm] at hm0
  have hst : st = staticCount ts := by
    split at hm0
    · cases hm0; rfl
    · cases hm0
  have hle := hmax rt' hrt' _ _ hm' hel
  cases hms : Spec.moreSpecific ts' ts with
  | false => rfl
  | true =>
    have := C03_curly_key ts' ts hms
    omega

theorem curlyAfterSvc_perm {routes routes' : List Route} (hp : routes.Perm routes')
    (hd : routes.Pairwise (fun a b => a.method = b.method → a.path ≠ b.path)) (req : Req) :
    Spec.sameOutcome (curlyAfterSvc E routes req) (curlyAfterSvc E routes' req) := by
  rw [curlyAfterSvc_finishWith, curlyAfterSvc_finishWith]
  rcases (Curly.candidates_perm E hp (tokenize req.path)).cases with ⟨h1, h2⟩ | ⟨cs, cs', hc, hc', hcp⟩
  · rw [h1, h2]
    trivial
  rw [hc, hc']
  refine finishWith_sort_perm (·.route) Curly.candLess_trans Curly.candLess_asymm _ hcp req ?_
  intro a ha b hb hea heb hab hba
  -- a tie is the same path, hence (both being eligible) the same route
  have hroute : a.route = b.route :=
    eligible_route_unique hd (Curly.candidates_mem E hc a ha).1
      (hp.symm.subset (Curly.candidates_mem E hc' b hb).1) hea heb (Curly.candLess_antisymm a b hab hba).2.2
  exact Curly.cand_ext_of_mem E hc hc' ha hb hroute

section
variable {cfg cfg' : Config} (h : Spec.CfgPerm cfg cfg') {p : Service → Prop}
  (hp : ∀ {s s' : Service}, s.rootPath = s'.rootPath → (p s ↔ p s'))
include h hp

theorem Spec.CfgPerm.exists_iff : (∃ s ∈ cfg.services, p s) ↔ ∃ s' ∈ cfg'.services, p s' := by
  obtain ⟨toR, toL⟩ := h.pair
  constructor
  · rintro ⟨s, hs, hps⟩
    obtain ⟨s', hs', hr, _⟩ := toR s hs
    exact ⟨s', hs', (hp hr).mp hps⟩
  · rintro ⟨s', hs', hps⟩
    obtain ⟨s, hs, hr, _⟩ := toL s' hs'
    exact ⟨s, hs, (hp hr).mpr hps⟩

theorem Spec.CfgPerm.forall_iff : (∀ s ∈ cfg.services, p s) ↔ ∀ s' ∈ cfg'.services, p s' := by
  obtain ⟨toR, toL⟩ := h.pair
  constructor
  · intro hall s' hs'
    obtain ⟨s, hs, hr, _⟩ := toL s' hs'
    exact (hp hr).mp (hall s hs)
  · intro hall s hs
    obtain ⟨s', hs', hr, _⟩ := toR s hs
    exact (hp hr).mpr (hall s' hs')

end

/-- no two services whose roots both CLAIM the request (faithful score, root expressions
    evaluated) score equally; weaker than `Spec.scoresSeparate`, which speaks about the arithmetic -/
def Curly.ScoresSeparateE (cfg : Config) (req : Req) : Prop :=
  cfg.services.Pairwise (fun a b => ∀ sa sb,
    Curly.wsScoreE E (tokenize req.path) (tokenize a.rootPath) = .yes sa →
    Curly.wsScoreE E (tokenize req.path) (tokenize b.rootPath) = .yes sb → sa ≠ sb)

theorem Curly.scoresSeparateE_of {cfg : Config} {req : Req} (hs : Spec.scoresSeparate cfg req) :
    Curly.ScoresSeparateE E cfg req := by
  refine List.Pairwise.imp ?_ hs
  intro a b hab sa sb ha hb
  exact hab sa sb (Curly.wsScore_of_wsScoreE E ha) (Curly.wsScore_of_wsScoreE E hb)

/-- **C03 (CurlyRouter), order independence**, under the weaker separation hypothesis on the
    faithful scores: scoring panics for one order iff it does for the other, no root claims the
    request for one order iff none does for the other, and otherwise the two detected WebServices
    are both maximal among the claiming roots, so their scores agree and they are the same service -/
theorem C03_curly_order_E (E : ReEnv) (cfg cfg' : Config) (hperm : Spec.CfgPerm cfg cfg')
    (hd : Spec.distinctMethodPath cfg) (req : Req) (hs : Curly.ScoresSeparateE E cfg req) :
    Spec.sameOutcome (routeCurly E cfg req).1 (routeCurly E cfg' req).1 := by
  have hsc : ∀ {s s' : Service}, s.rootPath = s'.rootPath →
      Curly.svcScoreE E (tokenize req.path) s = Curly.svcScoreE E (tokenize req.path) s' :=
    fun h => by rw [Curly.svcScoreE, h]
  have hpanic : Curly.detectWebService E (tokenize req.path) cfg.services none = none ↔
      Curly.detectWebService E (tokenize req.path) cfg'.services none = none := by
    rw [Curly.detectWebService_panic, Curly.detectWebService_panic]
    exact hperm.exists_iff fun hr => by rw [hsc hr]
  have hnone : Curly.detectWebService E (tokenize req.path) cfg.services none = some none ↔
      Curly.detectWebService E (tokenize req.path) cfg'.services none = some none := by
    rw [Curly.detectWebService_none, Curly.detectWebService_none]
    exact and_congr_right' (hperm.forall_iff fun hr => by rw [hsc hr])
  rw [routeCurly_fst, routeCurly_fst]
  match h1 : Curly.detectWebService E (tokenize req.path) cfg.services none,
      h2 : Curly.detectWebService E (tokenize req.path) cfg'.services none with
  | none, d' =>
    cases h2.symm.trans (hpanic.mp h1)
    trivial
  | some none, d' =>
    cases h2.symm.trans (hnone.mp h1)
    exact rfl
  | some (some _), none => cases h1.symm.trans (hpanic.mpr h2)
  | some (some _), some none => cases h1.symm.trans (hnone.mpr h2)
  | some (some (s, sc)), some (some (s', sc')) =>
    obtain ⟨toR, toL⟩ := hperm.pair
    have hmax := Curly.detectWebService_max E _ _ _ _ h1
    have hmax' := Curly.detectWebService_max E _ _ _ _ h2
    have hsm := Curly.detectWebService_mem_none E h1
    obtain ⟨s1', hs1', hr1, _⟩ := toR s hsm
    obtain ⟨s0, hs0, hr0, hb0⟩ := toL s' (Curly.detectWebService_mem_none E h2)
    have hsc1 : Curly.svcScoreE E (tokenize req.path) s1' = .yes sc := hsc hr1 ▸ hmax.1
    have hsc0 : Curly.svcScoreE E (tokenize req.path) s0 = .yes sc' := hsc hr0 ▸ hmax'.1
    obtain rfl : sc' = sc := Nat.le_antisymm (hmax.2 s0 hs0 sc' hsc0) (hmax'.2 s1' hs1' sc hsc1)
    obtain rfl : s = s0 :=
      pairwise_eq_of_not hs hsm hs0 (fun hn => hn _ _ hmax.1 hsc0 rfl) (fun hn => hn _ _ hsc0 hmax.1 rfl)
    exact curlyAfterSvc_perm E hb0 (hd s hsm) req

end Restful

namespace Restful.C03Example

def rGet (id : Nat) (p : String) : RouteDecl :=
  { id := id, method := "GET".toList, relPath := p.toList, consumes := [], produces := [], conds := [], noct := [] }

/-- `/users` with `GET /{id}`, `GET /me`, `POST /{id}` -/
def users : Service :=
  { id := 1, root := "/users".toList,
    routes := [rGet 10 "/{id}", rGet 11 "/me", { rGet 12 "/{id}" with method := "POST".toList }] }
/-- the same service with its routes registered in another order -/
def users' : Service :=
  { id := 1, root := "/users".toList,
    routes := [{ rGet 12 "/{id}" with method := "POST".toList }, rGet 11 "/me", rGet 10 "/{id}"] }
/-- `/{tenant}` with `GET /{thing}` -/
def tenants : Service := { id := 2, root := "/{tenant}".toList, routes := [rGet 20 "/{thing}"] }

def cfg : Config := { router := .curly, services := [users, tenants] }
def cfg' : Config := { router := .curly, services := [tenants, users'] }
def req : Req := { method := "GET".toList, path := "/users/me".toList }
def E0 : ReEnv := ⟨fun _ _ => true, fun _ _ => true⟩

theorem cfgPerm : Spec.CfgPerm cfg cfg' := by
  refine ⟨rfl, [tenants, users], List.Perm.swap _ _ _, ?_⟩
  exact .cons ⟨rfl, rfl, rfl, rfl, .refl _⟩ (.cons ⟨rfl, rfl, rfl, rfl, (List.reverse_perm _).symm⟩ .nil)

theorem wf : cfg.wfTemplates = true := by decide_lits [cfg, users, tenants, rGet]
theorem idsDistinct : Spec.idsDistinct cfg = true := by decide_lits [cfg, users, tenants, rGet]
theorem rootsRead : Curly.rootsRead cfg = true := by decide_lits [cfg, users, tenants, rGet]
theorem distinctB : Spec.distinctMethodPathB cfg = true := by decide_lits [cfg, users, tenants, rGet]
theorem separateB : Spec.scoresSeparateB cfg req = true := by decide_lits [cfg, users, tenants, rGet, req]
theorem ne : cfg ≠ cfg' := by decide_lits [cfg, cfg', users, users', tenants, rGet]
theorem selected : (routeCurly E0 cfg req).1 = .selected 1 11 [] := by
  decide_lits [cfg, users, tenants, rGet, req]
theorem selected' : (routeCurly E0 cfg' req).1 = .selected 1 11 [] := by
  decide_lits [cfg', users', tenants, rGet, req]
theorem routed : route E0 cfg req = .selected 1 11 [] := (route_curly E0 rfl req).trans selected
theorem routed' : route E0 cfg' req = .selected 1 11 [] := (route_curly E0 rfl req).trans selected'

theorem distinct : Spec.distinctMethodPath cfg := Spec.distinctMethodPath_of_B distinctB

theorem separate : Spec.scoresSeparate cfg req := Spec.scoresSeparate_of_B separateB

/-- the hypotheses of `C03_curly_order_E` (through `Spec.scoresSeparate`) hold of a concrete pair of configurations and a request,
    the two registrations are different, and the common outcome is a selected route
    (the literal `/users/me` of the literal root `/users`) -/
example : Spec.CfgPerm cfg cfg' ∧ Spec.distinctMethodPath cfg ∧ Spec.scoresSeparate cfg req ∧
    cfg ≠ cfg' ∧ (routeCurly E0 cfg req).1 = .selected 1 11 [] ∧
    Spec.sameOutcome (routeCurly E0 cfg req).1 (routeCurly E0 cfg' req).1 :=
  ⟨cfgPerm, distinct, separate, ne, selected,
    by with_reducible exact C03_curly_order_E E0 cfg cfg' cfgPerm distinct req (Curly.scoresSeparateE_of E0 separate)⟩

end Restful.C03Example
