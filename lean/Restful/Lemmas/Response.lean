/- lemmas about the Response bookkeeping model (for Props/C15.lean) -/
import Restful.Spec.Response
namespace Restful
namespace Resp
open Spec

/-- the last status handed to `WriteHeader`, `d` when there was none -/
def lastStatus : Nat → List UEvent → Nat
  | d, [] => d
  | _, .header s :: es => lastStatus s es
  | d, .write _ _ _ :: es => lastStatus d es

/-- bytes accepted by the first `n` underlying `Write` calls -/
def envAccepted (env : Env) : Nat → Nat
  | 0 => 0
  | n + 1 => envAccepted env n + (env n).accepted

/-- a failed write is the last event -/
def failsOnlyLast : List UEvent → Bool
  | [] => true
  | e :: es => (!failedWrite e || es.isEmpty) && failsOnlyLast es

theorem acceptedBytes_append (a b : List UEvent) : acceptedBytes (a ++ b) = acceptedBytes a + acceptedBytes b := by
  induction a with
  | nil => simp [acceptedBytes]
  | cons e es ih => cases e <;> simp [acceptedBytes, ih, Nat.add_assoc]

theorem writeCount_append (a b : List UEvent) : writeCount (a ++ b) = writeCount a + writeCount b := by
  induction a with
  | nil => simp [writeCount]
  | cons e es ih =>
    cases e with
    | header s => simp [writeCount, ih]
    | write n a f => simp [writeCount, ih]; omega

theorem lastStatus_append (d : Nat) (a b : List UEvent) : lastStatus d (a ++ b) = lastStatus (lastStatus d a) b := by
  induction a generalizing d with
  | nil => simp [lastStatus]
  | cons e es ih => cases e <;> simp [lastStatus, ih]

theorem any_failedWrite : ∀ (evs : List UEvent), evs.any failedWrite = (firstFailure evs).isSome
  | [] => rfl
  | .header s :: es => by simpa [firstFailure, failedWrite] using any_failedWrite es
  | .write n a f :: es => by
    by_cases hf : f = 0
    · simpa [firstFailure, failedWrite, hf] using any_failedWrite es
    · simp [firstFailure, failedWrite, hf]

theorem firstFailure_none_of_not_any : ∀ (evs : List UEvent), evs.any failedWrite = false → firstFailure evs = none :=
  fun evs h => Option.isSome_eq_false_iff.mp (any_failedWrite evs ▸ h) |> Option.isNone_iff_eq_none.mp

theorem runPrims_hdr (env : Env) (st : State) (s : Nat) (ps : List Prim) :
    runPrims env st (.hdr s :: ps) =
      ((runPrims env { st with statusCode := s } ps).1, .header s :: (runPrims env { st with statusCode := s } ps).2.1,
        (runPrims env { st with statusCode := s } ps).2.2) := rfl

def State.wrote (st : State) (r : WRes) : State :=
  { st with contentLength := st.contentLength + r.accepted, writes := st.writes + 1 }

theorem runPrims_wr (env : Env) (st : State) (n : Nat) (ps : List Prim) :
    runPrims env st (.wr n :: ps) =
      if (env st.writes).err = 0 then
        ((runPrims env (st.wrote (env st.writes)) ps).1,
          .write n (env st.writes).accepted 0 :: (runPrims env (st.wrote (env st.writes)) ps).2.1,
          (runPrims env (st.wrote (env st.writes)) ps).2.2)
      else (st.wrote (env st.writes), [.write n (env st.writes).accepted (env st.writes).err], (env st.writes).err) := by
  simp only [runPrims, stepPrim]
  cases (env st.writes).err <;> simp [State.wrote]

/-- what `runPrims` from `st` returns: new state, events, error of the failing write (0 = none) -/
structure PrimsOK (env : Env) (st : State) (ps : List Prim) (r : State × List UEvent × Nat) : Prop where
  length : r.1.contentLength = st.contentLength + acceptedBytes r.2.1
  writes : r.1.writes = st.writes + writeCount r.2.1
  status : r.1.statusCode = lastStatus st.statusCode r.2.1
  set : r.1.set = st.set
  shape : r.2.1.map shape <+: ps
  failure : firstFailure r.2.1 = if r.2.2 = 0 then none else some r.2.2
  last : failsOnlyLast r.2.1 = true
  accepted : st.contentLength = envAccepted env st.writes → r.1.contentLength = envAccepted env r.1.writes
  failing : ∀ k, st.writes ≤ k → k < r.1.writes → (env k).err ≠ 0 → k + 1 = r.1.writes ∧ r.2.2 = (env k).err

theorem runPrims_ok (env : Env) (ps : List Prim) (st : State) : PrimsOK env st ps (runPrims env st ps) := by
  induction ps generalizing st with
  | nil =>
    exact ⟨rfl, rfl, rfl, rfl, List.prefix_refl _, rfl, rfl, id, fun k h1 (h2 : k < st.writes) => by omega⟩
  | cons p ps ih =>
    cases p with
    | hdr s =>
      have h := ih { st with statusCode := s }
      rw [runPrims_hdr]
      exact ⟨h.length, h.writes, h.status, h.set, by simpa [shape] using h.shape, h.failure,
        by simpa [failsOnlyLast, failedWrite] using h.last, h.accepted, h.failing⟩
    | wr n =>
      have h := ih (st.wrote (env st.writes))
      rw [runPrims_wr]
      by_cases he : (env st.writes).err = 0
      · rw [if_pos he]
        refine ⟨by simpa [acceptedBytes, State.wrote, Nat.add_assoc] using h.length,
          by rw [h.writes]; simp only [writeCount, State.wrote]; omega,
          h.status, h.set, by simpa [shape] using h.shape, by simpa [firstFailure] using h.failure,
          by simpa [failsOnlyLast, failedWrite] using h.last, fun hc => h.accepted (by simp [State.wrote, envAccepted, hc]),
          fun k h1 h2 hne => h.failing k ?_ h2 hne⟩
        -- the write at `st.writes` did not fail
        exact Nat.lt_of_le_of_ne h1 fun hk => hne (hk ▸ he)
      · rw [if_neg he]
        exact ⟨rfl, rfl, rfl, rfl, ⟨ps, rfl⟩, by simp [firstFailure, he], by simp [failsOnlyLast],
          fun hc => by simp [State.wrote, envAccepted, hc],
          fun k h1 (h2 : k < st.writes + 1) _ => by rw [Nat.le_antisymm (Nat.le_of_lt_succ h2) h1]; exact ⟨rfl, rfl⟩⟩

theorem Plan.ret_isErr (p : Plan) (made werr : Nat) : (p.ret made werr).isErr = (werr != 0 || p.ownErr) := by
  unfold Plan.ret
  by_cases h0 : werr = 0
  · subst h0; cases p.ownErr <;> rfl
  · simp only [h0, if_false]
    split <;> simp [Ret.isErr, h0]

theorem Plan.ret_cases (p : Plan) (made : Nat) {werr : Nat} (h0 : werr ≠ 0) :
    p.ret made werr = .writer werr ∨ (p.ownErr = true ∧ p.ret made werr = .other) := by
  unfold Plan.ret
  simp only [h0, if_false]
  split
  · rename_i h
    simp only [Bool.and_eq_true] at h
    exact Or.inr ⟨h.1, rfl⟩
  · exact Or.inl rfl

theorem lastStatus_all_wr (d : Nat) : ∀ (es : List UEvent), (es.map shape).all Prim.isWr = true → lastStatus d es = d
  | [], _ => rfl
  | .header s :: es, h => by simp [shape, Prim.isWr] at h
  | .write n a f :: es, h => by
    simp only [List.map_cons, List.all_cons, Bool.and_eq_true] at h
    simpa [lastStatus] using lastStatus_all_wr d es h.2

theorem validStatus_ne_zero {s : Nat} (h : validStatus s = true) : s ≠ 0 := by
  simp [validStatus] at h; omega

/-- under the discipline, what `StatusCode()` computes from the last status set is the status a
    `net/http`-like writer sent -/
theorem discipline_status (evs : List UEvent) (h : discipline evs = true) :
    (if lastStatus 200 evs = 0 then 200 else lastStatus 200 evs) = effectiveStatus evs := by
  cases evs with
  | nil => simp [lastStatus, effectiveStatus]
  | cons e es =>
    cases e with
    | header s =>
      simp only [discipline, List.map_cons, shape, primDiscipline, Bool.and_eq_true] at h
      simp [lastStatus, effectiveStatus, lastStatus_all_wr s es h.2, validStatus_ne_zero h.1]
    | write n a f =>
      simp only [discipline, List.map_cons, shape, primDiscipline] at h
      simp [lastStatus, effectiveStatus, lastStatus_all_wr 200 es h]

theorem all_wr_of_sublist {a b : List Prim} (h : a.Sublist b) (hb : b.all Prim.isWr = true) : a.all Prim.isWr = true := by
  simp only [List.all_eq_true] at *
  exact fun x hx => hb x (h.subset hx)

theorem primDiscipline_of_all_wr : ∀ (a : List Prim), a.all Prim.isWr = true → primDiscipline a = true
  | [], _ => rfl
  | .hdr s :: ps, h => by simp [Prim.isWr] at h
  | .wr n :: ps, h => by simpa [primDiscipline, Prim.isWr] using h

theorem primDiscipline_sublist {a b : List Prim} (h : a.Sublist b) (hb : primDiscipline b = true) : primDiscipline a = true := by
  cases h with
  | slnil => rfl
  | cons x h' =>
    refine primDiscipline_of_all_wr _ (all_wr_of_sublist h' ?_)
    cases x with
    | hdr s => simp only [primDiscipline, Bool.and_eq_true] at hb; exact hb.2
    | wr n => exact hb
  | cons_cons x h' =>
    cases x with
    | hdr s =>
      simp only [primDiscipline, Bool.and_eq_true] at hb ⊢
      exact ⟨hb.1, all_wr_of_sublist h' hb.2⟩
    | wr n => exact all_wr_of_sublist h' hb

/-- what `exec` from `st` returns: new state, events, the error the call returns -/
structure ExecOK (env : Env) (st : State) (c : Call) (r : State × List UEvent × Ret) : Prop where
  length : r.1.contentLength = st.contentLength + acceptedBytes r.2.1
  writes : r.1.writes = st.writes + writeCount r.2.1
  status : r.1.statusCode = lastStatus st.statusCode r.2.1
  set : r.1.set = c.next st.set
  isErr : r.2.2.isErr = (r.2.1.any failedWrite || (c.plan st.set).ownErr)
  shape : r.2.1.map shape <+: (c.plan st.set).prims
  last : failsOnlyLast r.2.1 = true
  ret : ∀ t, firstFailure r.2.1 = some t → r.2.2 = .writer t ∨ ((c.plan st.set).ownErr = true ∧ r.2.2 = .other)
  accepted : st.contentLength = envAccepted env st.writes → r.1.contentLength = envAccepted env r.1.writes
  failing : ∀ k, st.writes ≤ k → k < r.1.writes → (env k).err ≠ 0 →
    k + 1 = r.1.writes ∧ firstFailure r.2.1 = some (env k).err

theorem exec_ok (env : Env) (st : State) (c : Call) : ExecOK env st c (exec env st c) := by
  have h := runPrims_ok env (c.plan st.set).prims { st with err := c.errAfter st.err, set := c.next st.set }
  have hf : firstFailure (exec env st c).2.1 = _ := h.failure
  refine ⟨h.length, h.writes, h.status, h.set, ?_, h.shape, h.last, fun t ht => ?_, h.accepted,
    fun k h1 h2 hne => ?_⟩
  · show (Plan.ret _ _ _).isErr = _
    rw [Plan.ret_isErr, any_failedWrite, hf]
    split <;> simp [*]
  · split at hf
    · rw [hf] at ht; cases ht
    · exact Option.some.inj (hf.symm.trans ht) ▸ Plan.ret_cases _ _ ‹_›
  · obtain ⟨hl, he⟩ := h.failing k h1 h2 hne
    exact ⟨hl, by rw [hf, he, if_neg hne]⟩

/-- what is observable after the call `c` made in the state `st` -/
def resultOf (env : Env) (st : State) (c : Call) : CallResult :=
  ⟨(exec env st c).2.1, (exec env st c).1.StatusCode, (exec env st c).1.ContentLength, (exec env st c).2.2,
    (exec env st c).1.err, st.writes, (c.plan st.set).ownErr⟩

theorem run_cons (env : Env) (st : State) (c : Call) (cs : List Call) :
    run env st (c :: cs) = resultOf env st c :: run env (exec env st c).1 cs := rfl

theorem eventsOf_cons (env : Env) (st : State) (c : Call) (cs : List Call) :
    eventsOf env st (c :: cs) = (exec env st c).2.1 ++ eventsOf env (exec env st c).1 cs := rfl

/-- the invariant that ties the Response fields to what the underlying writer received so far -/
def Inv (st : State) (before : List UEvent) : Prop :=
  st.contentLength = acceptedBytes before ∧ st.statusCode = lastStatus 200 before

theorem Inv_init (s : Settings) : Inv (State.init s) [] := ⟨rfl, rfl⟩

theorem Inv_step (env : Env) {st : State} (c : Call) {before : List UEvent} (hi : Inv st before) :
    Inv (exec env st c).1 (before ++ (exec env st c).2.1) :=
  ⟨by rw [(exec_ok env st c).length, hi.1, acceptedBytes_append],
   by rw [(exec_ok env st c).status, hi.2, lastStatus_append]⟩

theorem Inv_bookkeeping {st : State} {evs : List UEvent} (hi : Inv st evs) :
    bookkeepingOK evs st.StatusCode st.ContentLength = true := by
  unfold bookkeepingOK
  cases hd : discipline evs with
  | false => rfl
  | true => simp [State.StatusCode, State.ContentLength, hi.1, hi.2, discipline_status evs hd]

theorem allEvents_run (env : Env) : ∀ (calls : List Call) (st : State),
    allEvents ((run env st calls).map CallResult.obs) = eventsOf env st calls
  | [], _ => rfl
  | c :: cs, st => by
    rw [run_cons, eventsOf_cons, ← allEvents_run env cs]
    rfl

theorem Inv_final (env : Env) : ∀ (calls : List Call) (st : State) (before : List UEvent), Inv st before →
    Inv (finalState env st calls) (before ++ eventsOf env st calls)
  | [], st, before, h => by simpa [finalState, eventsOf] using h
  | c :: cs, st, before, h => by
    rw [eventsOf_cons, ← List.append_assoc]
    exact Inv_final env cs _ _ (Inv_step env c h)

theorem Inv_run (env : Env) (s : Settings) (calls : List Call) :
    Inv (finalState env (State.init s) calls) (eventsOf env (State.init s) calls) :=
  Inv_final env calls (State.init s) [] (Inv_init s)

theorem run_callsOK (coding : Bool) (env : Env) : ∀ (calls : List Call) (st : State) (before : List UEvent), Inv st before →
    callsOK coding before ((run env st calls).map CallResult.obs) = true
  | [], _, _, _ => rfl
  | c :: cs, st, before, h => by
    have hi := Inv_step env c h
    have ok := exec_ok env st c
    rw [run_cons, List.map_cons, callsOK, Bool.and_eq_true]
    refine ⟨?_, run_callsOK coding env cs _ _ hi⟩
    simp only [callOK, Bool.and_eq_true]
    refine ⟨Inv_bookkeeping hi, ?_⟩
    cases hany : (exec env st c).2.1.any failedWrite with
    | false => simp [CallResult.obs, resultOf, hany]
    | true =>
      obtain ⟨t, ht⟩ := Option.isSome_iff_exists.mp (any_failedWrite _ ▸ hany)
      have hid : ((c.plan st.set).ownErr || (firstFailure (exec env st c).2.1).map Ret.writer == some (exec env st c).2.2) = true := by
        rcases ok.ret t ht with h | h
        · simp [ht, h]
        · simp [h.1]
      have hlen : (exec env st c).1.ContentLength = acceptedBytes (before ++ (exec env st c).2.1) := hi.1
      simp [CallResult.obs, resultOf, ObsCall.retErr, ok.isErr, hany, hlen, hid]

theorem events_sublist_planned (env : Env) : ∀ (calls : List Call) (st : State),
    ((eventsOf env st calls).map shape).Sublist (plannedPrims st.set calls)
  | [], _ => by simp [eventsOf, plannedPrims]
  | c :: cs, st => by
    rw [eventsOf_cons, List.map_append, plannedPrims, ← (exec_ok env st c).set]
    exact (exec_ok env st c).shape.sublist.append (events_sublist_planned env cs _)

theorem run_error (env : Env) : ∀ (calls : List Call) (st : State) (k : Nat),
    st.contentLength = envAccepted env st.writes → st.writes ≤ k → k < (finalState env st calls).writes →
    (env k).failed = true →
      ∃ r ∈ run env st calls, r.firstWrite ≤ k ∧ k + 1 = r.firstWrite + writeCount r.events ∧
        r.events.any failedWrite = true ∧ r.retErr = true ∧ r.length = envAccepted env (k + 1) ∧
        (r.ret = .writer (env k).err ∨ (r.ownErr = true ∧ r.ret = .other))
  | [], st, k, _, h1, h2, _ => by simp [finalState] at h2; omega
  | c :: cs, st, k, hc, h1, h2, hf => by
    have ok := exec_ok env st c
    have hc1 := ok.accepted hc
    by_cases hk : k < (exec env st c).1.writes
    · have hne : (env k).err ≠ 0 := by simpa [WRes.failed] using hf
      obtain ⟨hl, hff⟩ := ok.failing k h1 hk hne
      have ha : (exec env st c).2.1.any failedWrite = true := by rw [any_failedWrite, hff]; rfl
      exact ⟨_, List.mem_cons_self, h1, hl.trans ok.writes, ha, (ok.isErr.trans (by rw [ha, Bool.true_or]) :),
        (by rw [hc1, hl] : (exec env st c).1.contentLength = _), ok.ret _ hff⟩
    · obtain ⟨r, hr, h⟩ := run_error env cs _ k hc1 (by omega) h2 hf
      exact ⟨r, List.mem_cons_of_mem _ hr, h⟩

theorem run_ownErr_clean (env : Env) : ∀ (calls : List Call) (st : State), marshalClean st.set calls = true →
    ∀ r ∈ run env st calls, r.ownErr = false
  | [], _, _, r, h => by cases h
  | c :: cs, st, hm, r, h => by
    simp only [marshalClean, Bool.and_eq_true, Bool.not_eq_eq_eq_not, Bool.not_true] at hm
    rw [run_cons] at h
    rcases List.mem_cons.mp h with rfl | h
    · exact hm.1
    · exact run_ownErr_clean env cs _ (by rw [(exec_ok env st c).set]; exact hm.2) r h

theorem run_error_events (env : Env) : ∀ (calls : List Call) (st : State), ∀ r ∈ run env st calls,
    failsOnlyLast r.events = true ∧ (r.events.any failedWrite = true → r.retErr = true)
  | [], _, r, h => by cases h
  | c :: cs, st, r, h => by
    rw [run_cons] at h
    rcases List.mem_cons.mp h with rfl | h
    · exact ⟨(exec_ok env st c).last, fun (ha : (exec env st c).2.1.any failedWrite = true) =>
        ((exec_ok env st c).isErr.trans (by rw [ha, Bool.true_or]) :)⟩
    · exact run_error_events env cs _ r h

end Resp
end Restful
