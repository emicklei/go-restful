/- path_expression.go `templateToRegularExpression` = `Jsr.compile` with the expression text `exprText`. -/
import Restful.Lemmas.TieImpPath
import Restful.Lemmas.TieImpTactic
namespace Restful
namespace TieImp
open Imp
set_option linter.unusedSimpArgs false  -- see TieImpTactic

namespace T6

theorem slice_eq (s : Str) (i j : Int) : Imp.slice s i j = Str.slice? s i j := TieImp.slice_eq s i j

abbrev St := Int × List Str × Int × List Char

/-- the state after the token `j` has been written -/
def stepTok (quote : Str → Str) (j : Jsr.JTok) (s : St) : St :=
  (s.1 + ((Jsr.litLen j : Nat) : Int), s.2.1 ++ (Jsr.varNameOf j).toList,
   s.2.2.1 + (((Jsr.varNameOf j).toList.length : Nat) : Int), s.2.2.2 ++ '/' :: tokText quote j)

/- `simp [tokText]` / `unfold tokText` are very slow (generating the equation lemmas of `tokText` reduces
   the string literals); these `rfl` equations are instantaneous -/
theorem tokText_lit (quote : Str → Str) (e : Str) : tokText quote (.lit e) = quote e := rfl
theorem tokText_var (quote : Str → Str) (e : Str) : tokText quote (.var e) = "([^/]+?)".toList := rfl
theorem tokText_wild (quote : Str → Str) (e : Str) : tokText quote (.wild e) = "(.*)".toList := rfl
theorem tokText_re (quote : Str → Str) (n e : Str) :
    tokText quote (.re n e) = "(".toList ++ e ++ ")".toList := rfl

theorem stepTok_lit (quote : Str → Str) (e : Str) (lc : Int) (vn : List Str) (vc : Int) (buf : Str) :
    stepTok quote (.lit e) (lc, vn, vc, buf) = (lc + len e, vn, vc, buf ++ ['/'] ++ quote e) := by
  simp [stepTok, tokText_lit, Jsr.litLen, Jsr.varNameOf, len]

/-- the three kinds of named token (`{n}`, `{n:*}`, `{n:re}`) differ in the text written only -/
theorem stepTok_named (quote : Str → Str) (j : Jsr.JTok) (n : Str) (h0 : Jsr.litLen j = 0)
    (hn : Jsr.varNameOf j = some n) (lc : Int) (vn : List Str) (vc : Int) (buf : Str) :
    stepTok quote j (lc, vn, vc, buf) = (lc, push vn n, vc + 1, buf ++ ['/'] ++ tokText quote j) := by
  simp [stepTok, h0, hn, push]

/-- one iteration: empty tokens are skipped, a slice panic is `none` -/
def stepModel (quote : Str → Str) (each : Str) (s : St) : Option (ForInStep St) :=
  if each.isEmpty then some (.yield s)
  else match Jsr.parseTok each with
    | none => none
    | some j => some (.yield (stepTok quote j s))

/-- the state after all tokens have been written -/
def finTok (quote : Str → Str) (js : List Jsr.JTok) (s : St) : St :=
  (s.1 + (((js.map Jsr.litLen).sum : Nat) : Int), s.2.1 ++ js.filterMap Jsr.varNameOf,
   s.2.2.1 + (((js.filterMap Jsr.varNameOf).length : Nat) : Int),
   s.2.2.2 ++ (js.map (fun t => '/' :: tokText quote t)).flatten)

theorem finTok_cons (quote : Str → Str) (j : Jsr.JTok) (js : List Jsr.JTok) (s : St) :
    finTok quote (j :: js) s = finTok quote js (stepTok quote j s) := by
  rcases s with ⟨lc, vn, vc, buf⟩
  cases h : Jsr.varNameOf j <;>
    simp [finTok, stepTok, h, Int.add_assoc, List.append_assoc] <;> omega

/-- the loop with an ABSTRACT body that behaves like `stepModel` -/
theorem loop_tie (quote : Str → Str) (f : Str → St → Option (ForInStep St))
    (hstep : ∀ each s, f each s = stepModel quote each s) :
    ∀ (ts : List Str) (s : St),
      forIn ts s f = (Jsr.parseToks ts).map (fun js => finTok quote js s) := by
  intro ts
  induction ts with
  | nil => intro s; simp [Jsr.parseToks, finTok]
  | cons t ts ih =>
    intro s
    rw [List.forIn_cons, hstep, Jsr.parseToks, stepModel]
    by_cases he : t.isEmpty = true
    · simp only [he, if_true]
      exact ih s
    · simp only [he, Bool.false_eq_true, if_false]
      cases hp : Jsr.parseTok t with
      | none => simp
      | some j =>
        simp only []
        show forIn ts (stepTok quote j s) f = _
        rw [ih]
        cases Jsr.parseToks ts with
        | none => rfl
        | some js => simp [finTok_cons]

end T6

/-- path_expression.go `templateToRegularExpression`: the regex TEXT, the literal count, the variable
    names and their number, and the tokens are what the model's `Jsr.compile` says, for every template;
    a slice-bounds panic exactly where the model has `none` -/
theorem template_to_regex (rx : Str → Str → Bool × GoErr) (join : Str → Str → Str) (quote : Str → Str) (tmpl : Str) :
    ImpGen.templateToRegularExpression (extOfQ rx join quote) tmpl
      = (Jsr.compile tmpl).map (fun e =>
          (exprText quote e.toks, ((e.literalCount : Nat) : Int), e.varNames, ((e.varCount : Nat) : Int), tokenize tmpl)) := by
  unfold ImpGen.templateToRegularExpression
  dsimp only
  rw [T2.tokenize_path _ rfl]
  simp only [Option.bind_eq_bind, Option.bind_some]
  rw [T6.loop_tie quote _ ?hstep]
  case hstep =>
    intro each s
    rcases s with ⟨lc, vn, vc, buf⟩
    unfold T6.stepModel
    have l0 : "".toList = ([] : Str) := rfl
    have l1 : "{".toList = ['{'] := rfl
    have l2 : ":".toList = [':'] := rfl
    have l3 : "/".toList = ['/'] := rfl
    have l4 : "*".toList = ['*'] := rfl
    have x1 : (extOfQ rx join quote).strings_TrimSpace = Jsr.trimSpace := rfl
    have x2 : (extOfQ rx join quote).regexp_QuoteMeta = quote := rfl
    simp only [l0, l1, l2, l3, l4, x1, x2, index_char, T6.slice_eq, Option.pure_def]
    by_cases he : each = []
    · subst he; rfl
    · have he1 : (each == []) = false := by rw [beq_eq_false_iff_ne]; exact he
      have he2 : each.isEmpty = false := by cases each with | nil => exact absurd rfl he | cons _ _ => rfl
      simp only [he1, he2, Bool.false_eq_true, if_false]
      unfold Jsr.parseTok
      rcases Bool.eq_false_or_eq_true (Str.hasPrefix ['{'] each) with hp | hp
      · simp only [hp, if_true]
        rcases Option.eq_none_or_eq_some (Str.index ':' each) with hi | ⟨colon, hi⟩
        · simp only [hi]
          -- "there is no colon" in whichever polarity the code tests it (`colon != -1` / `colon == -1`)
          have hb : ((-1 : Int) != -1) = false := by decide
          have hb' : ((-1 : Int) == -1) = true := by decide
          simp only [hb, hb', Bool.false_eq_true, if_false, if_true]
          have hl : len each = ((each.length : Nat) : Int) := rfl
          rw [hl]
          rcases Option.eq_none_or_eq_some (each.slice? 1 (↑(List.length each) - 1)) with h | ⟨n, h⟩
          · simp only [h]; rfl
          · simp only [h, Option.bind_some, T6.stepTok_named quote (.var (Jsr.trimSpace n)) _ rfl rfl, T6.tokText_var, str_add]
        · simp only [hi]
          have hb : ((colon : Int) != -1) = true := by rw [bne_iff_ne]; omega
          have hb' : ((colon : Int) == -1) = false := by rw [beq_eq_false_iff_ne]; omega
          simp only [hb, hb', Bool.false_eq_true, if_false, if_true]
          have hl : len each = ((each.length : Nat) : Int) := rfl
          have hc : ((colon : Int) + 1) = ((colon + 1 : Nat) : Int) := by omega
          rw [hl, hc]
          cases each.slice? 1 ↑colon with
          | none => rfl
          | some n =>
            cases each.slice? (↑(colon + 1)) (↑(List.length each) - 1) with
            | none => rfl
            | some e =>
              simp only [Option.bind_some]
              by_cases hw : Jsr.trimSpace e = ['*']
              · have hw' : (Jsr.trimSpace e == ['*']) = true := by rw [beq_iff_eq]; exact hw
                rw [if_pos hw, if_pos hw']
                simp only [T6.stepTok_named quote (.wild (Jsr.trimSpace n)) _ rfl rfl, T6.tokText_wild, str_add]
              · have hw' : (Jsr.trimSpace e == ['*']) = false := by rw [beq_eq_false_iff_ne]; exact hw
                rw [if_neg hw, if_neg (by rw [hw']; exact Bool.false_ne_true)]
                simp only [T6.stepTok_named quote (.re (Jsr.trimSpace n) (Jsr.trimSpace e)) _ rfl rfl, T6.tokText_re, str_add]
      · simp only [hp]
        rw [if_neg Bool.false_ne_true, if_neg Bool.false_ne_true]
        simp only [T6.stepTok_lit, str_add]
  unfold Jsr.compile
  cases Jsr.parseToks (tokenize tmpl) with
  | none => rfl
  | some js =>
    have l5 : "^".toList = ['^'] := rfl
    simp only [T6.finTok, exprText, l5, Option.map_some, Option.bind_some, Option.pure_def, List.nil_append,
      List.cons_append, Int.zero_add]
    rfl

#print axioms template_to_regex

end TieImp
end Restful
