/-
C03 for RouterJSR311: `Jsr.routeCandLess` (lexicographic on literalCount, matchesCount,
nonDefaultCount, Path) and `Jsr.dispCandLess` (lexicographic on matchesCount, literalCount,
nonDefaultCount — no Path tie-break) are strict weak orders, so the model's insertion sort
returns sorted candidate lists.
-/
import Restful.Model.Jsr
import Restful.Lemmas.OrderSort
namespace Restful
namespace Jsr

theorem routeCandLess_eq : routeCandLess =
    Sort.lexStep (·.literalCount) (Sort.lexStep (·.matchesCount) (Sort.lexStep (·.nonDefaultCount)
      fun x y => Str.lt y.route.path x.route.path)) :=
  rfl

theorem routeCandLess_trans (a b c : RouteCand) (h1 : routeCandLess b a = false)
    (h2 : routeCandLess c b = false) : routeCandLess c a = false := by
  rw [routeCandLess_eq] at h1 h2 ⊢
  refine Sort.lexStep_trans (Sort.lexStep_trans (Sort.lexStep_trans ?_)) a b c h1 h2
  exact fun _ _ _ => Str.not_lt_trans

theorem routeCandLess_asymm (a b : RouteCand) (h : routeCandLess a b = true) : routeCandLess b a = false := by
  rw [routeCandLess_eq] at h ⊢
  refine Sort.lexStep_asymm (Sort.lexStep_asymm (Sort.lexStep_asymm ?_)) a b h
  exact fun _ _ => Str.lt_asymm

theorem routeCandLess_antisymm (a b : RouteCand) (h1 : routeCandLess a b = false) (h2 : routeCandLess b a = false) :
    a.literalCount = b.literalCount ∧ a.matchesCount = b.matchesCount ∧
      a.nonDefaultCount = b.nonDefaultCount ∧ a.route.path = b.route.path := by
  rw [routeCandLess_eq] at h1 h2
  obtain ⟨e1, h1, h2⟩ := Sort.lexStep_tie h1 h2
  obtain ⟨e2, h1, h2⟩ := Sort.lexStep_tie h1 h2
  obtain ⟨e3, h1, h2⟩ := Sort.lexStep_tie h1 h2
  exact ⟨e1, e2, e3, Str.eq_of_not_lt h2 h1⟩

/-- the route list RouterJSR311 hands to `detectRoute` is sorted: best key first -/
theorem sort_routeCandLess_sorted (cs : List RouteCand) :
    (Sort.insertionSort routeCandLess cs).Pairwise (fun a b => routeCandLess b a = false) :=
  Sort.insertionSort_sorted_partial routeCandLess routeCandLess_trans routeCandLess_asymm cs

theorem dispCandLess_eq : dispCandLess =
    Sort.lexStep (·.matchesCount) (Sort.lexStep (·.literalCount) fun x y => decide (y.nonDefaultCount < x.nonDefaultCount)) :=
  rfl

theorem dispCandLess_eq_false_iff (x y : DispCand) :
    dispCandLess x y = false ↔
      x.matchesCount < y.matchesCount ∨ x.matchesCount = y.matchesCount ∧
        (x.literalCount < y.literalCount ∨ x.literalCount = y.literalCount ∧
          x.nonDefaultCount ≤ y.nonDefaultCount) := by
  simp only [dispCandLess_eq, Sort.lexStep_eq_false_iff, decide_eq_false_iff_not, Nat.not_lt]

theorem dispCandLess_trans (a b c : DispCand) (h1 : dispCandLess b a = false)
    (h2 : dispCandLess c b = false) : dispCandLess c a = false := by
  rw [dispCandLess_eq_false_iff] at h1 h2 ⊢
  omega

theorem dispCandLess_asymm (a b : DispCand) (h : dispCandLess a b = true) : dispCandLess b a = false := by
  rw [← Bool.not_eq_false, dispCandLess_eq_false_iff] at h
  rw [dispCandLess_eq_false_iff]
  omega

end Jsr
end Restful
