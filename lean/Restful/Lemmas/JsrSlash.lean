/-
C14 for RouterJSR311 (default path strategy): a request for a path `p` that does not end in `/`
and the request for `p ++ "/"` have the same outcome (status, selected route, path parameters,
Allow header), on tables without a tail wildcard whose regex variables do not match the empty
segment (`Jsr.slashSafe`).

Shape of the proof: every token takes from `r ++ "/"` what it takes from `r` and leaves the extra
`/` (`matchTok_snoc_slash`), so `matchExpr` on `p ++ "/"` is `matchExpr` on `p` with the final group
extended by `/` (`matchExpr_snoc_slash`); the dispatcher candidates keep their sort keys, so the
insertion sort picks the corresponding head (`insertionSort_map`); the final group is a suffix of
the path, so it is again empty or does not end in `/` (`matchExpr_suffix`, `NoTS.of_suffix`), and at
route level the candidate test `final = "" ∨ final = "/"` is preserved; so `routeCandidates`,
`selectRoutes`, `detectRoute` (which does not look at the path) and `extract` agree.
-/
import Restful.Model.Route
import Restful.Lemmas.DecideLits
import Restful.Lemmas.Detect
import Restful.Lemmas.JsrExpr
import Restful.Lemmas.JsrSelect
import Restful.Lemmas.SplitOn
namespace Restful
namespace Jsr

/-- a token that cannot be satisfied by the empty last segment a trailing `/` adds, and is not the
    tail wildcard -/
def tokSlashSafe (E : ReEnv) : JTok → Prop
  | .lit s => s ≠ []
  | .var _ => True
  | .re _ e => E.full e [] = false
  | .wild _ => False

/-- no compiled template of the table contains the tail wildcard, and no regex variable of the
    table matches the empty segment -/
def slashSafe (E : ReEnv) (cfg : Config) : Prop :=
  ∀ svc ∈ cfg.services,
    (∀ ex, compile svc.rootPath = some ex → ∀ t ∈ ex.toks, tokSlashSafe E t) ∧
    (∀ rt ∈ svc.built, ∀ ex, compile rt.relPath = some ex → ∀ t ∈ ex.toks, tokSlashSafe E t)

/-- `tokSlashSafe` plus "a literal contains no `/`", which holds of every compiled template
    (`compile_tokOK`) and is what the matching lemma needs of an arbitrary token list -/
def tokOK (E : ReEnv) : JTok → Prop
  | .lit s => s ≠ [] ∧ '/' ∉ s
  | .var _ => True
  | .re _ e => E.full e [] = false
  | .wild _ => False

/-- the path is empty or does not end in `/` -/
def NoTS (p : Str) : Prop := p.getLast? ≠ some '/'

theorem takeDrop_append_slash (r : Str) :
    (r ++ ['/']).takeWhile (· != '/') = r.takeWhile (· != '/') ∧
      (r ++ ['/']).dropWhile (· != '/') = r.dropWhile (· != '/') ++ ['/'] := by
  have hrest : r.dropWhile (· != '/') ++ ['/'] = [] ∨ ∃ r', r.dropWhile (· != '/') ++ ['/'] = '/' :: r' := by
    rcases Str.dropWhile_ne_cases '/' r with h | ⟨r', h⟩
    · exact Or.inr ⟨[], by rw [h]; rfl⟩
    · exact Or.inr ⟨r' ++ ['/'], by rw [h]; rfl⟩
  have h := Str.takeWhile_ne_append (Str.not_mem_takeWhile_ne '/' r) hrest
  rwa [← List.append_assoc, List.takeWhile_append_dropWhile] at h

theorem NoTS.nil : NoTS [] := by simp [NoTS]

theorem NoTS.of_suffix {s p : Str} (h : s <:+ p) (hp : NoTS p) : NoTS s := by
  obtain ⟨t, rfl⟩ := h
  unfold NoTS at *
  cases s with
  | nil => simp
  | cons c s =>
    rw [List.getLast?_append] at hp
    simpa using hp

theorem isPrefixOf_append_slash (l r : Str) (hl : '/' ∉ l) :
    l.isPrefixOf (r ++ ['/']) = l.isPrefixOf r := by
  induction l generalizing r with
  | nil => simp
  | cons a l ih =>
    have ha : a ≠ '/' := fun h => hl (h ▸ List.mem_cons_self)
    have hl' : '/' ∉ l := fun h => hl (List.mem_cons_of_mem _ h)
    cases r with
    | nil =>
      simp only [List.nil_append, List.isPrefixOf]
      simp [ha]
    | cons b r =>
      simp only [List.cons_append, List.isPrefixOf, ih r hl']

theorem matchTok_nil (E : ReEnv) {t : JTok} (ht : tokOK E t) : matchTok E t [] = none := by
  cases t with
  | lit l =>
    cases l with
    | nil => exact absurd rfl ht.1
    | cons a l => rfl
  | var n => rfl
  | re n e => simp only [matchTok, List.takeWhile_nil, show E.full e [] = false from ht]; rfl
  | wild n => exact absurd ht id

theorem matchTok_snoc_slash (E : ReEnv) {t : JTok} (ht : tokOK E t) (r : Str) :
    matchTok E t (r ++ ['/']) = (matchTok E t r).map fun cr => (cr.1, cr.2 ++ ['/']) := by
  cases t with
  | lit l =>
    simp only [matchTok]
    rw [isPrefixOf_append_slash l r ht.2]
    split
    · rename_i hpre
      rw [List.drop_append_of_le_length (List.isPrefixOf_iff_prefix.mp hpre).length_le]; rfl
    · rfl
  | var n => simp only [matchTok, takeDrop_append_slash]; split <;> rfl
  | re n e => simp only [matchTok, takeDrop_append_slash]; split <;> rfl
  | wild n => exact absurd ht id

theorem matchExpr_snoc_slash (E : ReEnv) (ts : List JTok) (hts : ∀ t ∈ ts, tokOK E t) (p : Str) :
    matchExpr E ts (p ++ ['/']) = (matchExpr E ts p).map (fun cf => (cf.1, cf.2 ++ ['/'])) := by
  induction ts generalizing p with
  | nil =>
    rw [matchExpr.eq_1, matchExpr.eq_1]
    cases p with
    | nil => simp
    | cons c r =>
      simp only [List.cons_append, List.isEmpty_cons, List.head?_cons, Bool.false_or]
      have : List.contains (c :: (r ++ ['/'])) '\n' = List.contains (c :: r) '\n' := by
        simp
      rw [this]
      split <;> simp
  | cons t ts ih =>
    have ht : tokOK E t := hts t List.mem_cons_self
    have ih' := ih (fun t h => hts t (List.mem_cons_of_mem _ h))
    cases p with
    | nil =>
      rw [List.nil_append, matchExpr_cons, matchTok_nil E ht, matchExpr_cons_none E fun _ h => by cases h]
      rfl
    | cons c r =>
      rw [List.cons_append]
      by_cases hc : c = '/'
      · subst hc
        rw [matchExpr_cons, matchExpr_cons, matchTok_snoc_slash E ht]
        cases matchTok E t r with
        | none => rfl
        | some cr =>
          simp only [Option.map_some, Option.bind_some]
          rw [ih', Option.map_map, Option.map_map]; rfl
      · have hne : ∀ (x : Str) r', c :: x ≠ '/' :: r' := fun _ _ h => hc (List.cons.inj h).1
        rw [matchExpr_cons_none E (hne _), matchExpr_cons_none E (hne _)]; rfl

private theorem insRev_map {α β : Type} (lessA : α → α → Bool) (lessB : β → β → Bool) (g : α → β)
    (hg : ∀ x y, lessB (g x) (g y) = lessA x y) (x : α) (l : List α) :
    Sort.insRev lessB (g x) (l.map g) = (Sort.insRev lessA x l).map g := by
  induction l with
  | nil => rfl
  | cons y ys ih =>
    simp only [List.map_cons, Sort.insRev, hg]
    split <;> simp [ih]

private theorem sortRev_map {α β : Type} (lessA : α → α → Bool) (lessB : β → β → Bool) (g : α → β)
    (hg : ∀ x y, lessB (g x) (g y) = lessA x y) (acc l : List α) :
    Sort.sortRev lessB (acc.map g) (l.map g) = (Sort.sortRev lessA acc l).map g := by
  induction l generalizing acc with
  | nil => rfl
  | cons x xs ih =>
    simp only [List.map_cons, Sort.sortRev, insRev_map lessA lessB g hg, ih]

theorem insertionSort_map {α β : Type} (lessA : α → α → Bool) (lessB : β → β → Bool) (g : α → β)
    (hg : ∀ x y, lessB (g x) (g y) = lessA x y) (l : List α) :
    Sort.insertionSort lessB (l.map g) = (Sort.insertionSort lessA l).map g := by
  unfold Sort.insertionSort
  have := sortRev_map lessA lessB g hg [] l
  simp only [List.map_nil] at this
  rw [this, List.map_reverse]

def DispCand.slash (c : DispCand) : DispCand := { c with finalMatch := c.finalMatch ++ ['/'] }

theorem filterMap_congr {α β : Type} {f g : α → Option β} {l : List α} (h : ∀ x ∈ l, f x = g x) :
    l.filterMap f = l.filterMap g := by
  simpa [List.filterMap_map] using congrArg (List.filterMap id) (List.map_congr_left h)

theorem detectDispatcher_append_slash (E : ReEnv) (svcs : List Service)
    (hs : ∀ svc ∈ svcs, ∀ ex, compile svc.rootPath = some ex → ∀ t ∈ ex.toks, tokOK E t) (p : Str) :
    detectDispatcher E svcs (p ++ ['/']) =
      (detectDispatcher E svcs p).map (fun o => o.map (fun sf => (sf.1, sf.2 ++ ['/']))) := by
  have h : ∀ s ∈ svcs, dcandOf E (p ++ ['/']) s = (dcandOf E p s).map DispCand.slash := by
    intro s hmem
    unfold dcandOf
    cases hex : compile s.rootPath with
    | none => rfl
    | some ex =>
      simp only
      rw [matchExpr_snoc_slash E ex.toks (hs s hmem ex hex) p]
      cases matchExpr E ex.toks p <;> rfl
  unfold detectDispatcher
  rw [dispCandidates_eq, dispCandidates_eq, filterMap_congr h, ← List.map_filterMap]
  split
  · rfl
  · -- the sort keys do not mention the final match
    simp only [Option.map_some]
    rw [insertionSort_map dispCandLess dispCandLess DispCand.slash fun _ _ => rfl]
    cases Sort.insertionSort dispCandLess (svcs.filterMap (dcandOf E p)) <;> rfl

theorem final_test_append_slash (f : Str) (hf : NoTS f) :
    ((f ++ ['/']).isEmpty || decide (f ++ ['/'] = ['/'])) = (f.isEmpty || decide (f = ['/'])) := by
  cases f with
  | nil => rfl
  | cons c r =>
    have h1 : ¬ (c :: r = ['/']) := by
      intro h; rw [h] at hf; exact hf rfl
    simp [h1]

theorem selectRoutes_append_slash (E : ReEnv) (routes : List Route)
    (hs : ∀ rt ∈ routes, ∀ ex, compile rt.relPath = some ex → ∀ t ∈ ex.toks, tokOK E t)
    (p : Str) (hp : NoTS p) :
    selectRoutes E routes (p ++ ['/']) = selectRoutes E routes p := by
  have h : ∀ rt ∈ routes, rcandOf E (p ++ ['/']) rt = rcandOf E p rt := by
    intro rt hmem
    unfold rcandOf
    cases hex : compile rt.relPath with
    | none => rfl
    | some ex =>
      simp only
      rw [matchExpr_snoc_slash E ex.toks (hs rt hmem ex hex) p]
      cases hm : matchExpr E ex.toks p with
      | none => rfl
      | some cf =>
        have hf : NoTS cf.2 := hp.of_suffix (matchExpr_suffix E _ _ _ _ hm)
        simp only [Option.map_some, final_test_append_slash cf.2 hf]
  unfold selectRoutes
  rw [routeCandidates_eq, routeCandidates_eq, filterMap_congr h]

theorem not_mem_of_mem_tokenize (p : Str) : ∀ l ∈ tokenize p, '/' ∉ l := by
  unfold tokenize
  split
  · simp
  · exact Str.not_mem_of_mem_split '/' _

theorem parseTok_lit_eq {each s : Str} (h : parseTok each = some (.lit s)) : s = each := by
  unfold parseTok at h
  split at h
  · split at h
    · split at h
      · simp only at h
        split at h <;> cases h
      · cases h
    · split at h <;> cases h
  · cases h; rfl

theorem parseToks_lit_ok : ∀ (toks : List Str) (ts : List JTok), parseToks toks = some ts →
    (∀ l ∈ toks, '/' ∉ l) → ∀ s, JTok.lit s ∈ ts → s ≠ [] ∧ '/' ∉ s
  | [], ts, h, _, s, hs => by
    simp only [parseToks, Option.some.injEq] at h
    subst h; simp at hs
  | t :: toks, ts, h, hno, s, hs => by
    unfold parseToks at h
    split at h
    · exact parseToks_lit_ok toks ts h (fun l hl => hno l (List.mem_cons_of_mem _ hl)) s hs
    · rename_i hne
      split at h
      · rename_i j js hj hjs
        simp only [Option.some.injEq] at h
        subst h
        simp only [List.mem_cons] at hs
        rcases hs with hs | hs
        · have := parseTok_lit_eq (hs ▸ hj)
          subst this
          refine ⟨?_, hno _ List.mem_cons_self⟩
          intro h0; subst h0; simp at hne
        · exact parseToks_lit_ok toks js hjs (fun l hl => hno l (List.mem_cons_of_mem _ hl)) s hs
      · cases h

theorem compile_lit_ok {template : Str} {ex : Expr} (h : compile template = some ex) :
    (∀ s, JTok.lit s ∈ ex.toks → s ≠ [] ∧ '/' ∉ s) ∧ ex.literalCount = (ex.toks.map litLen).sum := by
  unfold compile at h
  cases hp : parseToks (tokenize template) with
  | none => simp [hp] at h
  | some ts =>
    simp only [hp, Option.map_some, Option.some.injEq] at h
    subst h
    exact ⟨parseToks_lit_ok _ _ hp (not_mem_of_mem_tokenize template), rfl⟩

theorem compile_tokOK (E : ReEnv) {template : Str} {ex : Expr} (h : compile template = some ex)
    (hsafe : ∀ t ∈ ex.toks, tokSlashSafe E t) : ∀ t ∈ ex.toks, tokOK E t := by
  intro t ht
  have hsf := hsafe t ht
  cases t with
  | lit s => exact (compile_lit_ok h).1 s ht
  | var n => trivial
  | re n e => exact hsf
  | wild n => exact hsf

theorem extract_append_slash (E : ReEnv) (s : Service) (r : Route)
    (hroot : ∀ ex, compile s.rootPath = some ex → ∀ t ∈ ex.toks, tokOK E t)
    (hrel : ∀ ex, compile r.relPath = some ex → ∀ t ∈ ex.toks, tokOK E t) (p : Str) :
    extract E s r (p ++ ['/']) = extract E s r p := by
  unfold extract
  cases hw : compile s.rootPath with
  | none => rfl
  | some wex =>
    cases hr : compile r.relPath with
    | none => rfl
    | some rex =>
      simp only
      rw [matchExpr_snoc_slash E wex.toks (hroot wex hw) p]
      cases matchExpr E wex.toks p with
      | none => rfl
      | some cf =>
        simp only [Option.map_some]
        rw [matchExpr_snoc_slash E rex.toks (hrel rex hr) cf.2]
        cases matchExpr E rex.toks cf.2 <;> rfl

theorem route_trailing_slash (E : ReEnv) (cfg : Config) (hs : slashSafe E cfg) (req : Req)
    (hp : NoTS req.path) :
    (routeJsr E cfg { req with path := req.path ++ ['/'] }).1 = (routeJsr E cfg req).1 := by
  have hroot : ∀ svc ∈ cfg.services, ∀ ex, compile svc.rootPath = some ex → ∀ t ∈ ex.toks, tokOK E t :=
    fun svc h ex hex => compile_tokOK E hex ((hs svc h).1 ex hex)
  unfold routeJsr
  simp only
  rw [detectDispatcher_append_slash E _ hroot req.path]
  cases hd : detectDispatcher E cfg.services req.path with
  | none => rfl
  | some o =>
    cases o with
    | none => rfl
    | some sf =>
      obtain ⟨svc, final⟩ := sf
      simp only [Option.map_some]
      obtain ⟨hsvc, wex, wcaps, hwex, hwm⟩ := detectDispatcher_mem E hd
      have hf : NoTS final := hp.of_suffix (matchExpr_suffix E _ _ _ _ hwm)
      have hrel : ∀ rt ∈ svc.built, ∀ ex, compile rt.relPath = some ex → ∀ t ∈ ex.toks, tokOK E t :=
        fun rt h ex hex => compile_tokOK E hex ((hs svc hsvc).2 rt h ex hex)
      rw [selectRoutes_append_slash E svc.built hrel final hf]
      cases hsel : selectRoutes E svc.built final with
      | none => rfl
      | some cands =>
        cases cands with
        | nil => rfl
        | cons c cs =>
          simp only
          -- `detectRoute` does not look at the path
          rw [show detectRoute (c :: cs) { req with path := req.path ++ ['/'] } = detectRoute (c :: cs) req from rfl]
          cases hdr : detectRoute (c :: cs) req with
          | error e => rfl
          | ok r =>
            simp only
            have hr : r ∈ svc.built := (selectRoutes_mem E hsel (detectRoute_ok hdr).1).1
            rw [extract_append_slash E svc r (hroot svc hsvc) (hrel r hr) req.path]

/-- the reason for the regex hypothesis of `slashSafe`: a regex variable that matches the empty
    segment makes `/a/` select a route that `/a` does not reach -/
theorem trailing_slash_empty_regex_witness :
    let cfg : Config := { router := .jsr, services := [{ id := 0, root := "/a".toList, routes :=
      [{ id := 1, method := "GET".toList, relPath := "/{v:[a-z]*}".toList, consumes := [], produces := [],
         conds := [], noct := [] }] }] }
    let E : ReEnv := ⟨fun _ _ => true, fun _ s => s.isEmpty⟩
    (routeJsr E cfg { method := "GET".toList, path := "/a".toList }).1 = .error 404 none ∧
    (routeJsr E cfg { method := "GET".toList, path := "/a/".toList }).1 = .selected 0 1 [("v".toList, [])] := by
  decide_lits

/-- the reason for the wildcard hypothesis of `slashSafe`: a tail wildcard captures the extra `/` -/
theorem trailing_slash_wildcard_witness :
    let cfg : Config := { router := .jsr, services := [{ id := 0, root := "/a".toList, routes :=
      [{ id := 1, method := "GET".toList, relPath := "/{t:*}".toList, consumes := [], produces := [],
         conds := [], noct := [] }] }] }
    let E : ReEnv := ⟨fun _ _ => true, fun _ _ => false⟩
    (routeJsr E cfg { method := "GET".toList, path := "/a/x".toList }).1 = .selected 0 1 [("t".toList, "x".toList)] ∧
    (routeJsr E cfg { method := "GET".toList, path := "/a/x/".toList }).1 = .selected 0 1 [("t".toList, "x/".toList)] := by
  decide_lits

end Jsr
end Restful
