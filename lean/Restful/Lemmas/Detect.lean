/-
The header loops of route.go in their common form `headerLoop` (`acceptLoop_eq`, `consumeLoop_eq`) with
the direction that needs no hygiene (`headerLoop_sound`); `matchesContentType` as `Spec.consumesOK` over
the loop; `detectRoute` returns the first route that survives all four stages (`stage4`,
`detectRoute_ok_iff`).
-/
import Restful.Model.Detect
import Restful.Spec.Admits
namespace Restful
open Str

abbrev acceptPieceOK (produces : List Str) (piece : Str) : Bool :=
  mediaOf piece == starStar || produces.any (fun p => p == starStar || p == mediaOf piece)

abbrev consumePieceOK (consumes : List Str) (piece : Str) : Bool :=
  consumes.any (fun c => c == starStar || c == mediaOf piece)

/-- the shape of both header loops of route.go: test each comma-separated piece, but stop before
    one trailing empty piece -/
def headerLoop (ok : Str → Bool) : List Str → Bool
  | [] => false
  | piece :: rest => if ok piece then true else if remainingEmpty rest then false else headerLoop ok rest

theorem acceptLoop_eq (produces pieces : List Str) :
    acceptLoop produces pieces = headerLoop (acceptPieceOK produces) pieces := by
  induction pieces with
  | nil => rfl
  | cons piece rest ih =>
    unfold acceptLoop headerLoop
    rw [ih]
    generalize headerLoop (acceptPieceOK produces) rest = t
    simp only [acceptPieceOK, Bool.beq_eq_decide_eq]
    by_cases h1 : mediaOf piece = starStar <;> simp [h1]

theorem consumeLoop_eq (consumes pieces : List Str) :
    consumeLoop consumes pieces = headerLoop (consumePieceOK consumes) pieces := by
  induction pieces with
  | nil => rfl
  | cons piece rest ih =>
    unfold consumeLoop headerLoop
    rw [ih]
    generalize headerLoop (consumePieceOK consumes) rest = t
    simp only [consumePieceOK, Bool.beq_eq_decide_eq]

theorem headerLoop_sound {ok : Str → Bool} : ∀ pieces, headerLoop ok pieces = true → pieces.any ok = true
  | [], h => by cases h
  | piece :: rest, h => by
    unfold headerLoop at h
    rw [List.any_cons, Bool.or_eq_true]
    cases h1 : ok piece with
    | true => exact Or.inl rfl
    | false =>
      simp only [h1, Bool.false_eq_true, if_false] at h
      split at h
      · cases h
      · exact Or.inr (headerLoop_sound rest h)

theorem acceptLoop_sound (produces : List Str) (pieces : List Str) (h : acceptLoop produces pieces = true) :
    pieces.any (fun piece => mediaOf piece == starStar || produces.any (fun p => p == starStar || p == mediaOf piece)) = true :=
  headerLoop_sound pieces (acceptLoop_eq produces pieces ▸ h)

theorem consumeLoop_sound (consumes : List Str) (pieces : List Str) (h : consumeLoop consumes pieces = true) :
    pieces.any (fun piece => consumes.any (fun c => c == starStar || c == mediaOf piece)) = true :=
  headerLoop_sound pieces (consumeLoop_eq consumes pieces ▸ h)

theorem matchesContentType_eq (r : Route) (ct : Str) :
    matchesContentType r ct = (r.consumes.isEmpty ||
      (if ct.isEmpty then
         (if !r.noct.isEmpty then r.noct.contains r.method else idempotentMethods.contains r.method) ||
           consumeLoop r.consumes (split ',' mimeOctet)
       else consumeLoop r.consumes (split ',' ct))) := by
  unfold matchesContentType
  simp only [Bool.if_true_left, Bool.decide_eq_true]

theorem matchesContentType_sound (r : Route) (ct : Str) (h : matchesContentType r ct = true) :
    Spec.consumesOK r ct = true := by
  rw [matchesContentType_eq, Bool.or_eq_true] at h
  unfold Spec.consumesOK Spec.consumesAny
  rw [Bool.or_eq_true]
  refine h.imp_right fun h => ?_
  by_cases hct : ct.isEmpty = true
  · rw [if_pos hct, Bool.or_eq_true] at h ⊢
    exact h.imp_right (consumeLoop_sound _ _)
  · rw [if_neg hct] at h ⊢
    exact consumeLoop_sound _ _ h

/-- the routes that survive all four stages of `detectRoute`, in order -/
def stage4 (l : List Route) (req : Req) : List Route :=
  (((l.filter (passesConds · req)).filter (fun r => req.method = r.method)).filter
    (matchesContentType · req.contentType)).filter
    (matchesAccept · (if req.accept.isEmpty then starStar else req.accept))

theorem detectRoute_ok_iff {l : List Route} {req : Req} {r : Route} :
    detectRoute l req = .ok r ↔ ∃ rest, stage4 l req = r :: rest := by
  constructor
  · intro h
    unfold detectRoute at h
    simp only at h
    split at h
    · simp at h
    split at h
    · simp at h
    split at h
    · simp at h
    split at h
    · split at h <;> simp at h
    · rename_i r' rest heq
      simp only [Except.ok.injEq] at h
      subst h
      exact ⟨rest, heq⟩
  · rintro ⟨rest, h⟩
    -- a stage that is not empty has a non-empty input: no earlier stage answers
    have ne : ∀ (p : Route → Bool) (l : List Route), (l.filter p).isEmpty = false → l.isEmpty = false := by
      intro p l h
      cases l with
      | nil => exact h
      | cons _ _ => rfl
    unfold stage4 at h
    have h3 := ne _ _ (by rw [h]; rfl)
    have h2 := ne _ _ h3
    have h1 := ne _ _ h2
    unfold detectRoute
    simp only [h1, h2, h3, h, Bool.false_and, Bool.false_eq_true, if_false]

theorem detectRoute_ok {routes : List Route} {req : Req} {r : Route} (h : detectRoute routes req = .ok r) :
    r ∈ routes ∧ passesConds r req = true ∧ req.method = r.method ∧
      matchesContentType r req.contentType = true ∧
      matchesAccept r (if req.accept.isEmpty then starStar else req.accept) = true := by
  obtain ⟨rest, h4⟩ := detectRoute_ok_iff.1 h
  have hm : r ∈ stage4 routes req := h4 ▸ List.mem_cons_self
  simp only [stage4, List.mem_filter, decide_eq_true_eq] at hm
  obtain ⟨⟨⟨⟨h1, h2⟩, h3⟩, h4⟩, h5⟩ := hm
  exact ⟨h1, h2, h3, h4, h5⟩

end Restful
