/- path_processor.go `untokenizePath` as translated on this run IS the model's -/
import Restful.Lemmas.TieImpBase
import Restful.Lemmas.TieImpBridge
namespace Restful
namespace TieImp
namespace T2
open Imp
set_option linter.unusedSimpArgs false  -- see TieImpTactic

/-- generic loop of `untokenizePath`: any body that appends `parts[p]` and, when `p` is not the
last index, a slash -/
theorem untok_loop (parts : List Str)
    (f : Int → Str → Option (ForInStep Str))
    (hf : ∀ (k : Nat) (b : Str) (h : k < parts.length),
      f (k:Int) b = some (ForInStep.yield (if k + 1 < parts.length then b ++ parts[k] ++ ['/'] else b ++ parts[k]))) :
    ∀ (m k : Nat) (b : Str), parts.length = k + m →
      forIn (range (k:Int) (len parts)) b f = some (b ++ untokenize (parts.drop k)) := by
  intro m
  induction m with
  | zero =>
    intro k b h
    rw [len_eq, range_empty _ _ (by omega)]
    simp [untokenize, Str.join, List.drop_of_length_le (Nat.le_of_eq (by omega : parts.length = k)), List.intercalate]
  | succ m ih =>
    intro k b h
    have hk : k < parts.length := by omega
    rw [len_eq, range_step _ _ hk, List.forIn_cons, hf k b hk]
    rw [← len_eq]
    simp only [Option.bind_eq_bind, Option.bind_some]
    rw [ih (k+1) _ (by omega)]
    rw [List.drop_eq_getElem_cons hk]
    by_cases h1 : k + 1 < parts.length
    · rw [List.drop_eq_getElem_cons h1]
      simp only [h1, untokenize, Str.join, List.intercalate_cons_cons, if_true, List.append_assoc]
    · rw [List.drop_of_length_le (by omega)]
      simp [h1, untokenize, Str.join, List.intercalate]

/-- two general ways to get there: the buffer loop over `parts[offset:]` (`untok_loop`, body abstract), or
    the closed form `strings.Join(parts[offset:], "/")` behind a guard that returns "" when `offset ≥ len(parts)`
    (written either way round) -/
theorem untokenize_path (X : ImpGen.Ext) (offset : Nat) (parts : List Str) :
    ImpGen.untokenizePath X ((offset : Nat) : Int) parts = some (untokenize (parts.drop offset)) := by
  unfold ImpGen.untokenizePath
  first
  | (simp only [String.reduceToList]
     by_cases h : offset ≤ parts.length
     · rw [untok_loop parts _ (fun k b hk => ?_) (parts.length - offset) offset [] (by omega)]
       · simp
       · have h1 : ((k : Int) < len parts - 1) ↔ k + 1 < parts.length := by simp only [len]; omega
         simp only [at?_nat, List.getElem?_eq_getElem hk, h1, decide_eq_true_eq, Option.bind_eq_bind,
           Option.bind_some, Option.pure_def, List.append_assoc]
         split <;> rfl
     · rw [len_eq, range_empty _ _ (by omega), List.drop_of_length_le (by omega)]
       rfl)
  | (by_cases h : offset < parts.length
     · have h1 : ((offset : Int) < len parts) = True := eq_true (by simp only [len]; omega)
       have h2 : (len parts ≤ (offset : Int)) = False := eq_false (by simp only [len]; omega)
       simp [h1, h2, sliceFrom_nat parts offset (by omega), untokenize]
     · have h1 : ((offset : Int) < len parts) = False := eq_false (by simp only [len]; omega)
       have h2 : (len parts ≤ (offset : Int)) = True := eq_true (by simp only [len]; omega)
       have h3 : parts.drop offset = [] := by simp; omega
       simp [h1, h2, h3, untokenize, Str.join])

end T2
end TieImp
end Restful
