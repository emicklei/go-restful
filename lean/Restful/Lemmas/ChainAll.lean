/-
C06 for EVERY filter kind (pass, stop, replace, middle) and EVERY script (panics anywhere): the
clauses of the property stated directly about `Spec.chainLog`, without the side conditions of
`chainLog_closed` (pass/stop only, panic-free scripts).

* `passesOn f` (Lemmas/Chain.lean) — the filter hands control to the rest of the chain: its kind is pass, replace or
  middle AND its first part does not panic.
* `chainLog_shape` — the log is the DESCENT (start events of the filters up to and including the
  first one that does not pass on, then the target iff there is none) followed by the ASCENT (post
  events only, innermost first, cut short by a panic).
* `descent_closed` — the k-th start event carries `ctxAt fs cx k`, the fold of what the filters
  before it passed on.
-/
import Restful.Lemmas.Chain
namespace Restful
open Str
namespace Spec
open Serve

/-- index of the first filter that does not pass control on (`fs.length` when all do) -/
def firstBlocked (fs : List (Stage × Filter)) : Nat := fs.findIdx (fun sf => !passesOn sf.2)

/-- the k-th stage of the chain: the filters in list order, then the target -/
def stageAt : List (Stage × Filter) → Target → Nat → Stage
  | [], t, _ => t.stage
  | (st, _) :: _, _, 0 => st
  | _ :: fs, t, k + 1 => stageAt fs t k

/-- the Request/Response context the k-th stage of the chain receives when the chain is entered
    with `cx`: what the filters before it passed on, one after the other (`Chain.innerCtx`: a pass
    filter its own Request with the attributes its first part left; a replace filter a new Request
    — own attributes, no parameters, no selected path — and one more wrapper; an adapted middleware
    the same Request and one more wrapper) -/
def ctxAt : List (Stage × Filter) → Ctx → Nat → Ctx
  | _, cx, 0 => cx
  | [], cx, _ + 1 => cx
  | (_, f) :: fs, cx, k + 1 => ctxAt fs (Serve.Chain.innerCtx f cx) k

/-- the way down: every filter records its start; the rest of the chain starts iff it passes on -/
def descent : List (Stage × Filter) → Target → Ctx → List Event
  | [], t, cx => [Serve.Chain.evOf t.stage false cx]
  | (st, f) :: fs, t, cx =>
    Serve.Chain.evOf st false cx :: (if passesOn f then descent fs t (Serve.Chain.innerCtx f cx) else [])

/-- the stages whose second part is due on the way back, innermost first: every filter that passed
    control on, and the filter that stopped (its code after the decision not to call the chain) —
    not a filter whose first part panicked -/
def returners : List (Stage × Filter) → List Stage
  | [] => []
  | (st, f) :: fs => if passesOn f then returners fs ++ [st] else if noPanic f.pre then [st] else []

end Spec

namespace Serve
namespace Chain
open Spec

/-- THE SHAPE, every kind, every script: the descent, then post events only — their stages are a
    prefix of `returners fs` (innermost first), all of it when no panic leaves the chain -/
theorem chainLog_shape (fs : List (Stage × Filter)) (t : Target) (cx : Ctx) :
    ∃ asc, (chainLog fs t cx).1 = descent fs t cx ++ asc ∧ (∀ ev ∈ asc, ev.post = true) ∧
      asc.map (·.stage) <+: returners fs ∧
      ((chainLog fs t cx).2.2 = false → asc.map (·.stage) = returners fs) := by
  induction fs generalizing cx with
  | nil =>
    refine ⟨[], ?_, fun _ h => absurd h List.not_mem_nil, List.prefix_refl _, fun _ => rfl⟩
    rw [chainLog_nil]; rfl
  | cons sf fs ih =>
    obtain ⟨st, f⟩ := sf
    cases hpo : passesOn f with
    | false =>
      obtain ⟨h1, h2⟩ := chainLog_cons_blocked st f fs t cx hpo
      cases hn : noPanic f.pre with
      | false =>
        refine ⟨[], ?_, fun _ h => absurd h List.not_mem_nil, ?_, fun _ => ?_⟩
        · rw [h1]; simp [descent, hpo, hn]
        · simp [returners, hpo, hn]
        · simp [returners, hpo, hn]
      | true =>
        refine ⟨[evOf st true { cx with attrs := (attrsAfter f.pre cx.attrs).1 }], ?_, ?_, ?_, fun _ => ?_⟩
        · rw [h1]; simp [descent, hpo, hn]
        · intro ev hev
          simp only [List.mem_singleton] at hev
          rw [hev]; rfl
        · simp [returners, hpo, hn, evOf]
        · simp [returners, hpo, hn, evOf]
    | true =>
      obtain ⟨cxP, cxp, cxr, h⟩ := chainLog_cons_passes st f fs t cx hpo
      obtain ⟨asc, ha1, ha2, ha3, ha4⟩ := ih (innerCtx f cx)
      rw [h]
      simp only [after]
      cases hp : (chainLog fs t (innerCtx f cx)).2.2 with
      | true =>
        refine ⟨asc, ?_, ha2, ?_, fun hc => ?_⟩
        · simp [descent, hpo, ha1]
        · simp only [returners, hpo, if_true]
          exact List.IsPrefix.trans ha3 (List.prefix_append _ _)
        · simp at hc
      | false =>
        refine ⟨asc ++ [evOf st true cxp], ?_, ?_, ?_, fun _ => ?_⟩
        · simp [descent, hpo, ha1, postPart]
        · intro ev hev
          simp only [List.mem_append, List.mem_singleton] at hev
          rcases hev with hev | rfl
          · exact ha2 ev hev
          · rfl
        · simp only [returners, hpo, if_true, List.map_append, ha4 hp]
          exact List.prefix_refl _
        · simp only [returners, hpo, if_true, List.map_append, ha4 hp]
          rfl

theorem firstBlocked_cons (sf : Stage × Filter) (fs : List (Stage × Filter)) :
    firstBlocked (sf :: fs) = if passesOn sf.2 then firstBlocked fs + 1 else 0 := by
  simp only [firstBlocked, List.findIdx_cons]
  cases passesOn sf.2 <;> simp

theorem firstBlocked_le (fs : List (Stage × Filter)) : firstBlocked fs ≤ fs.length := List.findIdx_le_length

theorem descent_closed (fs : List (Stage × Filter)) (t : Target) (cx : Ctx) :
    descent fs t cx =
      (List.range (firstBlocked fs + 1)).map (fun k => evOf (stageAt fs t k) false (ctxAt fs cx k)) := by
  induction fs generalizing cx with
  | nil => simp [descent, firstBlocked, stageAt, ctxAt, List.range_succ]
  | cons sf fs ih =>
    obtain ⟨st, f⟩ := sf
    rw [firstBlocked_cons]
    cases hpo : passesOn f with
    | false => simp [descent, hpo, stageAt, ctxAt, List.range_succ]
    | true =>
      simp only [descent, hpo, if_true, ih]
      conv => rhs; rw [List.range_succ_eq_map]
      simp [stageAt, ctxAt, Function.comp_def]

theorem descent_post (fs : List (Stage × Filter)) (t : Target) (cx : Ctx) :
    ∀ ev ∈ descent fs t cx, ev.post = false := by
  intro ev hev
  rw [descent_closed] at hev
  obtain ⟨k, _, rfl⟩ := List.mem_map.mp hev
  rfl

theorem chainLog_starts (fs : List (Stage × Filter)) (t : Target) (cx : Ctx) :
    (chainLog fs t cx).1.filter (fun ev => !ev.post) = descent fs t cx := by
  obtain ⟨asc, h1, h2, _, _⟩ := chainLog_shape fs t cx
  rw [h1, List.filter_append]
  have e1 : (descent fs t cx).filter (fun ev => !ev.post) = descent fs t cx := by
    rw [List.filter_eq_self]
    intro ev hev
    simp [descent_post fs t cx ev hev]
  have e2 : asc.filter (fun ev => !ev.post) = [] := by
    rw [List.filter_eq_nil_iff]
    intro ev hev
    simp [h2 ev hev]
  rw [e1, e2, List.append_nil]

theorem descent_stages (fs : List (Stage × Filter)) (t : Target) (cx : Ctx) :
    (descent fs t cx).map (·.stage) = (fs.map (·.1) ++ [t.stage]).take (firstBlocked fs + 1) := by
  induction fs generalizing cx with
  | nil => simp [descent, firstBlocked, evOf]
  | cons sf fs ih =>
    obtain ⟨st, f⟩ := sf
    rw [firstBlocked_cons]
    cases hpo : passesOn f with
    | false => simp [descent, hpo, evOf]
    | true => simp [descent, hpo, evOf, ih]

theorem descent_pairs (fs : List (Stage × Filter)) (t : Target) (cx : Ctx) :
    (descent fs t cx).map (fun ev => (ev.stage, ev.post)) =
      ((fs.map (·.1) ++ [t.stage]).take (firstBlocked fs + 1)).map (fun s => (s, false)) := by
  rw [← descent_stages fs t cx, List.map_map]
  exact List.map_congr_left fun ev hev => by simp [descent_post fs t cx ev hev]

theorem ctxAt_foldl (fs : List (Stage × Filter)) (cx : Ctx) (k : Nat) :
    ctxAt fs cx k = (fs.take k).foldl (fun c sf => innerCtx sf.2 c) cx := by
  induction fs generalizing cx k with
  | nil => cases k <;> simp [ctxAt]
  | cons sf fs ih =>
    obtain ⟨st, f⟩ := sf
    cases k with
    | zero => simp [ctxAt]
    | succ k => simpa [ctxAt] using ih (innerCtx f cx) k

theorem descent_count (fs : List (Stage × Filter)) (t : Target) (cx : Ctx) (hd : ∀ sf ∈ fs, sf.1 ≠ t.stage) :
    ((descent fs t cx).map (fun ev => (ev.stage, ev.post))).count (t.stage, false) =
      if fs.all (fun sf => passesOn sf.2) then 1 else 0 := by
  induction fs generalizing cx with
  | nil => simp [descent, evOf]
  | cons sf fs ih =>
    obtain ⟨st, f⟩ := sf
    have hst : st ≠ t.stage := hd (st, f) List.mem_cons_self
    have hne : ((st, false) == (t.stage, false)) = false := by
      rw [beq_eq_false_iff_ne]
      intro he
      exact hst (Prod.mk.inj he).1
    simp only [descent, List.map_cons, evOf, List.count_cons, hne, Bool.false_eq_true, if_false, Nat.add_zero]
    rw [List.all_cons]
    by_cases hpo : passesOn f = true
    · rw [if_pos hpo, hpo, Bool.true_and]
      exact ih _ (fun sf h => hd sf (List.mem_cons_of_mem _ h))
    · have hpo' : passesOn f = false := by simpa using hpo
      rw [if_neg hpo, hpo']
      simp

theorem chainLog_target_count (fs : List (Stage × Filter)) (t : Target) (cx : Ctx) (hd : ∀ sf ∈ fs, sf.1 ≠ t.stage) :
    ((chainLog fs t cx).1.map (fun ev => (ev.stage, ev.post))).count (t.stage, false) =
      if fs.all (fun sf => passesOn sf.2) then 1 else 0 := by
  obtain ⟨asc, h1, h2, _, _⟩ := chainLog_shape fs t cx
  rw [h1, List.map_append, List.count_append, descent_count fs t cx hd]
  have : (asc.map (fun ev => (ev.stage, ev.post))).count (t.stage, false) = 0 := by
    rw [List.count_eq_zero]
    intro hm
    rw [List.mem_map] at hm
    obtain ⟨ev, hev, he⟩ := hm
    have := h2 ev hev
    rw [(Prod.mk.inj he).2] at this
    cases this
  rw [this, Nat.add_zero]

theorem chainLog_target_iff (fs : List (Stage × Filter)) (t : Target) (cx : Ctx) (hd : ∀ sf ∈ fs, sf.1 ≠ t.stage) :
    (t.stage, false) ∈ (chainLog fs t cx).1.map (fun ev => (ev.stage, ev.post)) ↔ ∀ sf ∈ fs, passesOn sf.2 = true := by
  rw [← List.count_pos_iff, chainLog_target_count fs t cx hd]
  constructor
  · intro h
    split at h
    · rename_i ha
      simpa [List.all_eq_true] using ha
    · cases h
  · intro h
    rw [if_pos (by simpa [List.all_eq_true] using h)]
    exact Nat.one_pos

theorem returners_blocked (pre : List (Stage × Filter)) (st : Stage) (f : Filter) (rest : List (Stage × Filter))
    (hpre : ∀ sf ∈ pre, passesOn sf.2 = true) (hf : passesOn f = false) :
    returners (pre ++ (st, f) :: rest) = (if noPanic f.pre then [st] else []) ++ (pre.map (·.1)).reverse := by
  induction pre with
  | nil => simp [returners, hf]
  | cons sf pre ih =>
    obtain ⟨s0, f0⟩ := sf
    have h0 : passesOn f0 = true := hpre (s0, f0) List.mem_cons_self
    have := ih (fun sf h => hpre sf (List.mem_cons_of_mem _ h))
    simp only [List.cons_append, returners, h0, if_true, this, List.map_cons, List.reverse_cons, List.append_assoc]

theorem firstBlocked_blocked (pre : List (Stage × Filter)) (st : Stage) (f : Filter) (rest : List (Stage × Filter))
    (hpre : ∀ sf ∈ pre, passesOn sf.2 = true) (hf : passesOn f = false) :
    firstBlocked (pre ++ (st, f) :: rest) = pre.length := by
  induction pre with
  | nil => simp [firstBlocked_cons, hf]
  | cons sf pre ih =>
    have h0 : passesOn sf.2 = true := hpre sf List.mem_cons_self
    rw [List.cons_append, firstBlocked_cons, h0, if_pos rfl, ih (fun sf h => hpre sf (List.mem_cons_of_mem _ h))]
    rfl

theorem returners_sublist (fs : List (Stage × Filter)) : (returners fs).Sublist (fs.map (·.1)).reverse := by
  induction fs with
  | nil => exact .slnil
  | cons sf fs ih =>
    obtain ⟨st, f⟩ := sf
    simp only [returners, List.map_cons, List.reverse_cons]
    split
    · exact ih.append (List.Sublist.refl _)
    · split
      · exact List.sublist_append_right _ _
      · exact List.nil_sublist _

theorem chainLog_stage_mem (fs : List (Stage × Filter)) (t : Target) (cx : Ctx) :
    ∀ ev ∈ (chainLog fs t cx).1, ev.stage ∈ fs.map (·.1) ∨ ev.stage = t.stage := by
  obtain ⟨asc, h1, _, h3, _⟩ := chainLog_shape fs t cx
  intro ev hev
  rw [h1] at hev
  rcases List.mem_append.mp hev with hev | hev
  · have hm : ev.stage ∈ (descent fs t cx).map (·.stage) := List.mem_map_of_mem hev
    rw [descent_stages] at hm
    simpa using List.mem_of_mem_take hm
  · exact .inl (List.mem_reverse.mp ((returners_sublist fs).subset (h3.subset (List.mem_map_of_mem hev))))

/-- every event of the log of a request that goes through the container filters around `t` belongs
    to one of them, to `t`, or to the recover handler -/
theorem serve_stage_mem (E : ReEnv) (cfg : Cfg) (e : Entry) (w : World) (sr : SReq) {t : Target} {cx : Ctx}
    (h : chainOf E cfg e sr = some (label .cfilter cfg.cfilters, t, cx)) :
    ∀ ev ∈ (serve E cfg e w sr).log,
      (∃ f ∈ cfg.cfilters, ev.stage = .cfilter f.id) ∨ ev.stage = t.stage ∨ ev.stage = .recover := by
  obtain ⟨r, hr1, hr2⟩ := serve_log E cfg e w sr
  intro ev hev
  rw [hr2, chainEvents, h] at hev
  rcases List.mem_append.mp hev with hev | hev
  · rcases chainLog_stage_mem _ t cx ev hev with h' | h'
    · rw [label_stages, List.mem_map] at h'
      obtain ⟨f, hf, h'⟩ := h'
      exact .inl ⟨f, hf, h'.symm⟩
    · exact .inr (.inl h')
  · exact .inr (.inr (hr1 ev hev))

/-- the second event of a chain whose first filter passes control on: the next stage starts with
    the context that filter handed on -/
theorem chainLog_second (st : Stage) (f : Filter) (fs : List (Stage × Filter)) (t : Target) (cx : Ctx)
    (hp : (attrsAfter f.pre cx.attrs).2 = false) (hk : f.kind ≠ .stop) {c : Ctx} (hc : innerCtx f cx = c) :
    ∃ rest, (chainLog ((st, f) :: fs) t cx).1 = evOf st false cx :: evOf (nextStage fs t) false c :: rest := by
  obtain ⟨cxP, cxp, cxr, h⟩ := chainLog_cons_passes st f fs t cx
    ((passesOn_iff f).mpr ⟨hk, by simpa [attrsAfter_panics] using hp⟩)
  obtain ⟨asc, h2, _⟩ := chainLog_shape fs t (innerCtx f cx)
  obtain ⟨rest, h3⟩ : ∃ rest, descent fs t (innerCtx f cx) = evOf (nextStage fs t) false (innerCtx f cx) :: rest := by
    cases fs with
    | nil => exact ⟨_, rfl⟩
    | cons sf fs => exact ⟨_, rfl⟩
  rw [h, after, h2, h3, hc]
  split
  · exact ⟨_, rfl⟩
  · exact ⟨_, rfl⟩

theorem serve_count (E : ReEnv) (cfg : Cfg) (e : Entry) (w : World) (sr : SReq) (st : Stage) (b : Bool)
    (hr : st ≠ .recover) :
    ((serve E cfg e w sr).log.map (fun ev => (ev.stage, ev.post))).count (st, b) =
      ((chainEvents E cfg e sr).map (fun ev => (ev.stage, ev.post))).count (st, b) := by
  obtain ⟨r, hr1, hr2⟩ := serve_log E cfg e w sr
  have h0 : (r.map (fun ev => (ev.stage, ev.post))).count (st, b) = 0 := by
    rw [List.count_eq_zero]
    intro hm
    obtain ⟨ev, hev, he⟩ := List.mem_map.mp hm
    exact hr (by rw [← (Prod.mk.inj he).1, hr1 ev hev])
  rw [hr2, List.map_append, List.count_append, h0, Nat.add_zero]

theorem chainOf_target_fresh (E : ReEnv) (cfg : Cfg) (e : Entry) (sr : SReq) (fs : List (Stage × Filter)) (t : Target) (cx : Ctx)
    (h : chainOf E cfg e sr = some (fs, t, cx)) : ∀ sf ∈ fs, sf.1 ≠ t.stage := by
  obtain ⟨h1, h2, _⟩ := chainOf_labels E cfg e sr fs t cx h
  intro sf hsf he
  have := h1 sf.1 (List.mem_map_of_mem hsf)
  rw [he, h2] at this
  cases this

theorem chainOf_stage_target {E : ReEnv} {cfg : Cfg} {e : Entry} {sr : SReq} {fs : List (Stage × Filter)} {t : Target}
    {cx : Ctx} (h : chainOf E cfg e sr = some (fs, t, cx)) {st : Stage} (hf : st.isFilter = false) {b : Bool}
    (hm : (st, b) ∈ (chainLog fs t cx).1.map (fun ev => (ev.stage, ev.post))) : t.stage = st := by
  obtain ⟨ev, hev, he⟩ := List.mem_map.mp hm
  cases he
  rcases chainLog_stage_mem fs t cx ev hev with h3 | h3
  · rw [(chainOf_labels E cfg e sr fs t cx h).1 _ h3] at hf
    cases hf
  · exact h3.symm

theorem label_forall (mk : Nat → Stage) (fs : List Filter) (P : Filter → Prop) :
    (∀ sf ∈ label mk fs, P sf.2) ↔ ∀ f ∈ fs, P f := by
  simp [label]

theorem allFilters_forall (cfg : Cfg) (svc rid : Nat) (P : Filter → Prop) :
    (∀ sf ∈ allFilters cfg svc rid, P sf.2) ↔
      (∀ f ∈ cfg.cfilters, P f) ∧ (∀ f ∈ (svcX cfg svc).filters, P f) ∧ (∀ f ∈ (routeX cfg rid).filters, P f) := by
  simp only [allFilters, List.mem_append, or_imp, forall_and, label_forall, and_assoc]

theorem chainOf_handler_iff (E : ReEnv) (cfg : Cfg) (sr : SReq) (rid : Nat) :
    (∃ fs t cx, chainOf E cfg .dispatch sr = some (fs, t, cx) ∧ t.stage = .handler rid ∧ ∀ sf ∈ fs, passesOn sf.2 = true) ↔
      sr.condPanic = none ∧ ∃ svc ps tag, routeTagged E cfg.routing sr.req = (.selected svc rid ps, tag) ∧
        (∀ f ∈ cfg.cfilters, passesOn f = true) ∧ (∀ f ∈ (svcX cfg svc).filters, passesOn f = true) ∧
        (∀ f ∈ (routeX cfg rid).filters, passesOn f = true) := by
  unfold chainOf
  cases sr.condPanic with
  | some v => exact ⟨fun ⟨_, _, _, h, _⟩ => (nomatch h), fun ⟨h, _⟩ => (nomatch h)⟩
  | none =>
    rcases routeTagged E cfg.routing sr.req with ⟨o, tag⟩
    cases o with
    | panic w => exact ⟨fun ⟨_, _, _, h, _⟩ => (nomatch h), fun ⟨_, _, _, _, h, _⟩ => (nomatch h)⟩
    | error c a =>
      constructor
      · rintro ⟨_, _, _, h, hst, _⟩
        cases h
        cases hst
      · exact fun ⟨_, _, _, _, h, _⟩ => nomatch h
    | selected svc rid' ps =>
      constructor
      · rintro ⟨_, _, _, h, hst, hall⟩
        cases h
        cases hst
        exact ⟨rfl, svc, ps, tag, rfl, (allFilters_forall cfg svc rid _).mp hall⟩
      · rintro ⟨_, _, _, _, h, hall⟩
        cases h
        exact ⟨_, _, _, rfl, rfl, (allFilters_forall cfg svc rid _).mpr hall⟩

theorem chainOf_plainF_iff (E : ReEnv) (cfg : Cfg) (sr : SReq) (e : Entry) (he : e = .muxHandleF ∨ e = .serveHandleF) :
    (∃ fs t cx, chainOf E cfg e sr = some (fs, t, cx) ∧ t.stage = .plain 0 ∧ ∀ sf ∈ fs, passesOn sf.2 = true) ↔
      ∀ f ∈ cfg.cfilters, passesOn f = true := by
  have h : chainOf E cfg e sr = some (label .cfilter cfg.cfilters, ⟨.plain 0, cfg.plainScript⟩, {}) := by
    rcases he with rfl | rfl <;> rfl
  rw [h]
  constructor
  · rintro ⟨_, _, _, h', _, hall⟩
    cases h'
    exact (label_forall _ _ _).mp hall
  · exact fun hall => ⟨_, _, _, rfl, rfl, (label_forall _ _ _).mpr hall⟩

theorem chainOf_not_plain (E : ReEnv) (cfg : Cfg) (sr : SReq) :
    ¬ ∃ fs t cx, chainOf E cfg .dispatch sr = some (fs, t, cx) ∧ t.stage = .plain 0 ∧ ∀ sf ∈ fs, passesOn sf.2 = true := by
  unfold chainOf
  cases sr.condPanic with
  | some v => exact fun ⟨_, _, _, h, _⟩ => nomatch h
  | none =>
    rcases routeTagged E cfg.routing sr.req with ⟨o, tag⟩
    cases o with
    | panic w => exact fun ⟨_, _, _, h, _⟩ => nomatch h
    | error c a =>
      rintro ⟨_, _, _, h, hst, _⟩
      cases h
      cases hst
    | selected svc rid ps =>
      rintro ⟨_, _, _, h, hst, _⟩
      cases h
      cases hst

end Chain
end Serve
end Restful
