/-
`Jsr.matchExpr` one token at a time: after its `/` every token takes what `matchTok` says, and the
rest of the expression goes on with what is left (`matchExpr_cons`).  What holds of a whole match
(one capture per variable, the final group is a suffix, composition of two expressions) follows by
induction from the same fact about one token.
-/
import Restful.Model.Jsr
namespace Restful
namespace Jsr
variable (E : ReEnv)

def Starts (p : Str) : Prop := p = [] ∨ ∃ r, p = '/' :: r

/-- what one token takes from the text after its `/`: its captures, and what it leaves.  The tail
    wildcard leaves nothing, so whatever follows it in the expression fails on the empty rest. -/
def matchTok : JTok → Str → Option (List Str × Str)
  | .lit l, r => if l.isPrefixOf r then some ([], r.drop l.length) else none
  | .var _, r =>
    if (r.takeWhile (· != '/')).isEmpty then none else some ([r.takeWhile (· != '/')], r.dropWhile (· != '/'))
  | .re _ e, r =>
    if E.full e (r.takeWhile (· != '/')) then some ([r.takeWhile (· != '/')], r.dropWhile (· != '/')) else none
  | .wild _, r => if List.contains r '\n' then none else some ([r], [])

theorem matchExpr_cons_none {t : JTok} {ts : List JTok} {p : Str} (h : ∀ r, p ≠ '/' :: r) :
    matchExpr E (t :: ts) p = none := by
  rw [matchExpr.eq_7]
  exact h

theorem matchExpr_cons (t : JTok) (ts : List JTok) (r : Str) :
    matchExpr E (t :: ts) ('/' :: r) =
      (matchTok E t r).bind fun cr => (matchExpr E ts cr.2).map fun cf => (cr.1 ++ cf.1, cf.2) := by
  cases t with
  | lit l => rw [matchExpr.eq_2, matchTok]; split <;> simp
  | var n => rw [matchExpr.eq_3, matchTok]; split <;> simp
  | re n e => rw [matchExpr.eq_4, matchTok]; split <;> simp
  | wild n =>
    rw [matchTok]
    cases ts with
    | nil => rw [matchExpr.eq_5]; split <;> simp [matchExpr]
    | cons t' ts' =>
      rw [matchExpr.eq_6]
      split
      · rfl
      · rw [Option.bind_some, matchExpr_cons_none E fun _ h => by cases h]; rfl

theorem matchExpr_cons_some {t : JTok} {ts : List JTok} {p : Str} {x : List Str × Str}
    (h : matchExpr E (t :: ts) p = some x) : ∃ r, p = '/' :: r := by
  apply Classical.byContradiction
  intro hp
  rw [matchExpr_cons_none E fun r hr => hp ⟨r, hr⟩] at h
  cases h

theorem matchExpr_cons_iff {t : JTok} {ts : List JTok} {p : Str} {c : List Str} {f : Str} :
    matchExpr E (t :: ts) p = some (c, f) ↔
      ∃ r ct rest cs, p = '/' :: r ∧ matchTok E t r = some (ct, rest) ∧
        matchExpr E ts rest = some (cs, f) ∧ c = ct ++ cs := by
  constructor
  · intro h
    obtain ⟨r, rfl⟩ := matchExpr_cons_some E h
    rw [matchExpr_cons, Option.bind_eq_some_iff] at h
    obtain ⟨⟨ct, rest⟩, ht, h⟩ := h
    rw [Option.map_eq_some_iff] at h
    obtain ⟨⟨cs, f'⟩, hts, h⟩ := h
    cases h
    exact ⟨r, ct, rest, cs, rfl, ht, hts, rfl⟩
  · rintro ⟨r, ct, rest, cs, rfl, ht, hts, rfl⟩
    rw [matchExpr_cons, ht, Option.bind_some, hts, Option.map_some]

theorem matchExpr_nil_iff {p : Str} {c : List Str} {f : Str} :
    matchExpr E [] p = some (c, f) ↔ c = [] ∧ f = p ∧ Starts p ∧ '\n' ∉ p := by
  have hs : (p.isEmpty || p.head? == some '/') = true ↔ Starts p := by
    cases p <;> simp [Starts]
  rw [matchExpr.eq_1]
  constructor
  · intro h
    split at h
    · rename_i hc
      cases h
      simp only [Bool.and_eq_true, Bool.not_eq_true', List.contains_eq_mem, decide_eq_false_iff_not] at hc
      exact ⟨rfl, rfl, hs.1 hc.1, hc.2⟩
    · cases h
  · rintro ⟨rfl, rfl, h1, h2⟩
    rw [if_pos]
    simp only [Bool.and_eq_true, Bool.not_eq_true', List.contains_eq_mem, decide_eq_false_iff_not]
    exact ⟨hs.2 h1, h2⟩

theorem matchExpr_some_starts {A : List JTok} {p : Str} {x : List Str × Str}
    (h : matchExpr E A p = some x) : Starts p := by
  cases A with
  | nil => exact ((matchExpr_nil_iff E).1 h).2.2.1
  | cons t ts => exact Or.inr (matchExpr_cons_some E h)

/-- what a token leaves is a suffix of what it was given, and it captures once iff it is a variable -/
theorem matchTok_some {t : JTok} {r : Str} {ct : List Str} {rest : Str}
    (h : matchTok E t r = some (ct, rest)) :
    rest <:+ r ∧ ct.length = ([t].filterMap varNameOf).length := by
  cases t with
  | lit l =>
    rw [matchTok] at h
    split at h
    · cases h
      exact ⟨List.drop_suffix _ _, rfl⟩
    · cases h
  | var n =>
    rw [matchTok] at h
    split at h
    · cases h
    · cases h
      exact ⟨List.dropWhile_suffix _, rfl⟩
  | re n e =>
    rw [matchTok] at h
    split at h
    · cases h
      exact ⟨List.dropWhile_suffix _, rfl⟩
    · cases h
  | wild n =>
    rw [matchTok] at h
    split at h
    · cases h
    · cases h
      exact ⟨List.nil_suffix, rfl⟩

theorem matchExpr_suffix (ts : List JTok) :
    ∀ (p : Str) (caps : List Str) (f : Str), matchExpr E ts p = some (caps, f) → f <:+ p := by
  induction ts with
  | nil =>
    intro p caps f h
    rw [((matchExpr_nil_iff E).1 h).2.1]
    exact List.suffix_refl _
  | cons t ts ih =>
    intro p caps f h
    obtain ⟨r, ct, rest, cs, rfl, ht, hts, _⟩ := (matchExpr_cons_iff E).1 h
    exact ((ih _ _ _ hts).trans (matchTok_some E ht).1).trans (List.suffix_cons _ _)

theorem matchExpr_caps_length : ∀ {A : List JTok} {p : Str} {c : List Str} {f : Str},
    matchExpr E A p = some (c, f) → c.length = (A.filterMap varNameOf).length := by
  intro A
  induction A with
  | nil =>
    intro p c f h
    rw [((matchExpr_nil_iff E).1 h).1]
    rfl
  | cons t A ih =>
    intro p c f h
    obtain ⟨r, ct, rest, cs, rfl, ht, hts, rfl⟩ := (matchExpr_cons_iff E).1 h
    rw [List.length_append, (matchTok_some E ht).2, ih hts, ← List.length_append, ← List.filterMap_append]
    rfl

theorem matchExpr_append {A : List JTok} (B : List JTok) :
    ∀ {p : Str} {c1 : List Str} {final : Str} {c2 : List Str} {f : Str},
      matchExpr E A p = some (c1, final) → matchExpr E B final = some (c2, f) →
      matchExpr E (A ++ B) p = some (c1 ++ c2, f) := by
  induction A with
  | nil =>
    intro p c1 final c2 f h1 h2
    obtain ⟨rfl, rfl, _⟩ := (matchExpr_nil_iff E).1 h1
    exact h2
  | cons t A ih =>
    intro p c1 final c2 f h1 h2
    obtain ⟨r, ct, rest, cs, rfl, ht, hA, rfl⟩ := (matchExpr_cons_iff E).1 h1
    rw [List.cons_append, List.append_assoc]
    exact (matchExpr_cons_iff E).2 ⟨r, ct, rest, _, rfl, ht, ih hA h2, rfl⟩

theorem matchExpr_split {A : List JTok} (B : List JTok) :
    ∀ {p : Str} {c : List Str} {f : Str}, '\n' ∉ p → matchExpr E (A ++ B) p = some (c, f) →
      ∃ c1 final c2, matchExpr E A p = some (c1, final) ∧ matchExpr E B final = some (c2, f) := by
  induction A with
  | nil =>
    intro p c f hn h
    exact ⟨[], p, c, (matchExpr_nil_iff E).2 ⟨rfl, rfl, matchExpr_some_starts E h, hn⟩, h⟩
  | cons t A ih =>
    intro p c f hn h
    obtain ⟨r, ct, rest, cs, rfl, ht, hAB, rfl⟩ := (matchExpr_cons_iff E).1 h
    have hnr : '\n' ∉ rest := fun hm =>
      hn (List.mem_cons_of_mem _ ((matchTok_some E ht).1.subset hm))
    obtain ⟨c1, final, c2, h1, h2⟩ := ih hnr hAB
    exact ⟨ct ++ c1, final, c2, (matchExpr_cons_iff E).2 ⟨r, ct, rest, c1, rfl, ht, h1, rfl⟩, h2⟩

end Jsr
end Restful
