/-
C02 — dispatching never panics and yields exactly the outcome of the decision table: totality for
the router in use, and the witnesses for the hypotheses of the two classification theorems
(`C02_classify_curly`, `C02_classify_jsr_partial`).

A WebService WITHOUT routes has a root path about which `Config.wfTemplates` says nothing.
  * RouterJSR311: `compile` can fail on it (slice bounds in `{a:`), and the model panics on every
    request.  Totality and classification for RouterJSR311 therefore carry the hypothesis
    `Jsr.rootsRead cfg` (`C02_roots_witness` shows it cannot be dropped).
  * CurlyRouter, since fix 19aa57d: `computeWebserviceScore` cuts the expression out of every root
    token `{…:…` with `regularMatchesPathToken`, which panics on `{a:` (`C02_curly_roots_witness`) and
    which does not strip a custom verb first: on the root token `{id}:go` it evaluates the
    "expression" `g` (`C02_curly_rootverb_witness`).  Totality and classification for CurlyRouter
    therefore carry `Curly.rootsRead cfg`: the root of a route-less service reads as a template none
    of whose tokens carries a custom verb.  For a service WITH routes `wfTemplates` already gives
    this (`Curly.rootGood_of_route`).
-/
import Restful.Lemmas.ClassifyJsr
import Restful.Lemmas.DecideLits
namespace Restful
open Str

/-- **C02, totality**: on a table of checked templates no request makes the router panic.
    (`hrootsJ` / `hrootsC`: root paths of services without routes read as templates, for the router
    in use.) -/
theorem C02_total (E : ReEnv) (cfg : Config) (hwf : cfg.wfTemplates = true)
    (hrootsJ : cfg.router = .jsr → Jsr.rootsRead cfg = true)
    (hrootsC : cfg.router = .curly → Curly.rootsRead cfg = true) (req : Req) :
    ∀ w, route E cfg req ≠ .panic w := by
  cases hk : cfg.router with
  | curly => exact (Curly.routed E hk hwf (hrootsC hk) req).ne_panic
  | jsr => exact C02_total_jsr E cfg hk hwf (hrootsJ hk) req

namespace C02Witness

def rd (id : Nat) (m p : String) (cons prod : List String) : RouteDecl :=
  { id := id, method := m.toList, relPath := p.toList, consumes := cons.map String.toList,
    produces := prod.map String.toList, conds := [], noct := [] }

def Eany : ReEnv := ⟨fun _ _ => true, fun _ _ => true⟩

/-- an oracle that evaluates the two expressions of the F03 table faithfully on letters and digits -/
def E03 : ReEnv :=
  ⟨fun e s => if e = "[a-z]+".toList then s.any Char.isLower else s.any Char.isDigit,
   fun e s => !s.isEmpty && (if e = "[a-z]+".toList then s.all Char.isLower else s.all Char.isDigit)⟩

def cfg03 : Config := { router := .curly, services :=
  [ { id := 0, root := "/{name:[a-z]+}".toList, routes := [rd 0 "GET" "" ([]) ([])] },
    { id := 1, root := "/{id:[0-9]+}".toList, routes := [rd 1 "GET" "" ([]) ([])] } ] }

def req03 : Req := { method := "GET".toList, path := "/123".toList }

/-- the input on which F03 showed (repaired by 19aa57d of /repo): roots `/{name:[a-z]+}` and
    `/{id:[0-9]+}` (so `noRootRegex` fails), request `/123`.  `computeWebserviceScore` evaluates the
    expression of a root variable: only the second root claims `/123` and its route 1 runs, which is
    what the decision table says.  (Scored without the expression both roots rank alike, the first
    service is picked, it has no matching route: 404.) -/
theorem _root_.Restful.C02_F03_fixed :
    cfg03.wfTemplates = true ∧ Spec.mediaHygiene cfg03 = true ∧ Curly.rootsRead cfg03 = true ∧
    Spec.noRootRegex cfg03 = false ∧
    route E03 cfg03 req03 = .selected 1 1 [("id".toList, "123".toList)] ∧
    (Spec.bestServices E03 cfg03 req03).map (·.id) = [1] ∧
    (Spec.bestServices E03 cfg03 req03).map (fun s => Spec.classifyIn E03 .curly s.built req03) = [.runs [1]] ∧
    Spec.c02Holds E03 cfg03 req03 (route E03 cfg03 req03) 1 = true := by
  decide +kernel

/-- the same fact as an instance of the general theorem, which does not ask for `noRootRegex` -/
example : Spec.c02Holds E03 cfg03 req03 (route E03 cfg03 req03)
    (match route E03 cfg03 req03 with | .selected _ _ _ => 1 | _ => 0) = true := by
  have h := C02_classify_curly E03 cfg03 rfl C02_F03_fixed.1 C02_F03_fixed.2.2.1 C02_F03_fixed.2.1 req03
  rwa [C02_F03_fixed.2.2.2.2.1] at h ⊢

def cfg04 : Config := { router := .curly, services :=
  [ { id := 0, root := "/u".toList, routes := [rd 0 "POST" "" (["application/json"]) (["application/json"])] } ] }

def req04 : Req :=
  { method := "POST".toList, path := "/u".toList, contentType := "application/json".toList,
    accept := "text/plain".toList, clenHeader := [], contentLength := -1 }

/-- the input on which F04 showed (repaired by e9138e1 of /repo): a chunked POST
    (`ContentLength = -1`, no `Content-Length` header, so `bodyCoherent` fails) whose Content-Type is
    consumed and whose Accept cannot be satisfied.  `detectRoute` asks `ContentLength` at both stages
    and answers 406, as the decision table says.  (Taking the missing header for "no body" at the
    Accept stage gives 415.) -/
theorem _root_.Restful.C02_F04_fixed :
    cfg04.wfTemplates = true ∧ Spec.mediaHygiene cfg04 = true ∧ Curly.rootsRead cfg04 = true ∧
    Spec.bodyCoherent req04 = false ∧
    route Eany cfg04 req04 = .error 406 none ∧
    (Spec.bestServices Eany cfg04 req04).map (fun s => Spec.classifyIn Eany .curly s.built req04) = [.status 406 none] ∧
    Spec.c02Holds Eany cfg04 req04 (route Eany cfg04 req04) 0 = true := by
  decide +kernel

/-- the same fact as an instance of the general theorem, which does not ask for `bodyCoherent` -/
example : Spec.c02Holds Eany cfg04 req04 (route Eany cfg04 req04)
    (match route Eany cfg04 req04 with | .selected _ _ _ => 1 | _ => 0) = true := by
  have h := C02_classify_curly Eany cfg04 rfl C02_F04_fixed.1 C02_F04_fixed.2.2.1 C02_F04_fixed.2.1 req04
  rwa [C02_F04_fixed.2.2.2.2.1] at h ⊢

def cfgRoots : Config := { router := .jsr, services := [ { id := 0, root := "/{a:".toList, routes := [] } ] }

/-- without `Jsr.rootsRead` a checked table can make RouterJSR311 panic: `wfTemplates` is vacuous for
    a service without routes, `compile "/{a:"` fails (slice bounds), every request panics -/
theorem _root_.Restful.C02_roots_witness :
    cfgRoots.wfTemplates = true ∧ Spec.mediaHygiene cfgRoots = true ∧ Jsr.rootsRead cfgRoots = false ∧
    route Eany cfgRoots { method := "GET".toList, path := "/x".toList } = .panic "jsr.compile" ∧
    Spec.c02Holds Eany cfgRoots { method := "GET".toList, path := "/x".toList }
      (route Eany cfgRoots { method := "GET".toList, path := "/x".toList }) 0 = false := by
  decide +kernel

def cfgRootsC : Config := { router := .curly, services := [ { id := 0, root := "/{a:".toList, routes := [] } ] }

/-- without `Curly.rootsRead` a checked table can make CurlyRouter panic: `wfTemplates` is vacuous
    for a service without routes, `regularMatchesPathToken` slices `"{a:"[3:2]` when the root is scored -/
theorem _root_.Restful.C02_curly_roots_witness :
    cfgRootsC.wfTemplates = true ∧ Spec.mediaHygiene cfgRootsC = true ∧ Curly.rootsRead cfgRootsC = false ∧
    route Eany cfgRootsC { method := "GET".toList, path := "/x".toList } = .panic "curly.score" ∧
    Spec.c02Holds Eany cfgRootsC { method := "GET".toList, path := "/x".toList }
      (route Eany cfgRootsC { method := "GET".toList, path := "/x".toList }) 0 = false := by
  decide +kernel

/-- an oracle that evaluates the expression `g` faithfully -/
def Eg : ReEnv := ⟨fun e s => if e = "g".toList then s.contains 'g' else true, fun _ _ => true⟩

/-- a route-less service `/a/{id}:go` (the root reads as a template, its last token carries a custom
    verb) and a service `/{x}/{y}` with a route -/
def cfgVerb : Config := { router := .curly, services :=
  [ { id := 0, root := "/a/{id}:go".toList, routes := [] },
    { id := 1, root := "/{x}/{y}".toList, routes := [rd 1 "GET" "" ([]) ([])] } ] }

/-- the second clause of `Curly.rootsRead` (no custom verb on a root token of a route-less service)
    cannot be dropped: `computeWebserviceScore` does not strip `:go` before it cuts the expression
    out of `{id}:go`, evaluates `g` against the URL segment `5`, and lets the first root NOT claim
    `/a/5`, which `Spec.claimScore` says it does (score 21 against 2): the router runs route 1 of
    the second service where the decision table says 404 -/
theorem _root_.Restful.C02_curly_rootverb_witness :
    cfgVerb.wfTemplates = true ∧ Spec.mediaHygiene cfgVerb = true ∧ Curly.rootsRead cfgVerb = false ∧
    (cfgVerb.services.all (fun s => (readToks (tokenize s.rootPath)).isSome)) = true ∧
    route Eg cfgVerb { method := "GET".toList, path := "/a/5".toList } =
      .selected 1 1 [("x".toList, "a".toList), ("y".toList, "5".toList)] ∧
    (Spec.bestServices Eg cfgVerb { method := "GET".toList, path := "/a/5".toList }).map (·.id) = [0] ∧
    Spec.c02Holds Eg cfgVerb { method := "GET".toList, path := "/a/5".toList }
      (route Eg cfgVerb { method := "GET".toList, path := "/a/5".toList }) 1 = false := by
  decide +kernel

/-- two services (one with a variable root), routes with Consumes/Produces; a third, route-less
    one with a regex variable in its root (what `Curly.rootsRead` / `Jsr.rootsRead` speak about) -/
def services : List Service :=
  [ { id := 0, root := "/users".toList, routes :=
        [ rd 1 "POST" "" (["application/json"]) (["application/json"]),
          rd 2 "GET" "/{id}" ([]) (["application/json", "text/plain"]),
          rd 3 "PUT" "/{id}" (["application/xml"]) (["application/json"]) ] },
    { id := 1, root := "/orgs/{org}".toList, routes := [ rd 4 "GET" "/things" ([]) ([]) ] },
    { id := 2, root := "/v/{n:[0-9]+}".toList, routes := [] } ]

def cfgC : Config := { router := .curly, services := services }
def cfgJ : Config := { router := .jsr, services := services }

/-- a POST with a two-byte JSON body -/
def post : Req :=
  { method := "POST".toList, path := "/users".toList, contentType := "application/json; charset=utf-8".toList,
    accept := "text/html, application/json;q=0.9".toList, clenHeader := "2".toList, contentLength := 2 }

/-! the hypotheses of `C02_classify_curly` / `C02_classify_jsr_partial` hold on these tables -/

theorem cfgC_wf : cfgC.wfTemplates = true := by decide +kernel

theorem cfgC_rootsRead : Curly.rootsRead cfgC = true := by decide +kernel

theorem cfgC_hygiene : Spec.mediaHygiene cfgC = true := by decide +kernel

-- `post` carries two long header values: decoding them by lemma more than halves the work
theorem cfgC_post : route Eany cfgC post = .selected 0 1 [] := by
  unfold cfgC services rd post
  simp only [List.map]
  decide_lits

theorem cfgJ_wf : cfgJ.wfTemplates = true := by decide +kernel

theorem cfgJ_rootsRead : Jsr.rootsRead cfgJ = true := by decide +kernel

theorem cfgJ_hygiene : Spec.mediaHygiene cfgJ = true := by decide +kernel

theorem post_path : '\n' ∉ post.path := by decide +kernel

theorem cfgJ_post : route Eany cfgJ post = .selected 0 1 [] := by
  unfold cfgJ services rd post
  simp only [List.map]
  decide_lits

example :
    cfgC.wfTemplates = true ∧ Curly.rootsRead cfgC = true ∧ Spec.mediaHygiene cfgC = true ∧
      route Eany cfgC post = .selected 0 1 [] :=
  ⟨cfgC_wf, cfgC_rootsRead, cfgC_hygiene, cfgC_post⟩

example : Spec.c02Holds Eany cfgC post (route Eany cfgC post)
    (match route Eany cfgC post with | .selected _ _ _ => 1 | _ => 0) = true := by
  have h := C02_classify_curly Eany cfgC rfl cfgC_wf cfgC_rootsRead cfgC_hygiene post
  rwa [cfgC_post] at h ⊢

/-- the other rows of the table on the same services: 405 with Allow, 415 (body, Content-Type not
    consumed), 406, 404 inside the best service, 404 without a service -/
example :
    route Eany cfgC { post with method := "DELETE".toList, path := "/users/7".toList } =
        .error 405 (some ["GET".toList, "PUT".toList]) ∧
      route Eany cfgC { post with method := "PUT".toList, path := "/users/7".toList } = .error 415 none ∧
      route Eany cfgC { post with accept := "text/html".toList } = .error 406 none ∧
      route Eany cfgC { post with path := "/users/7/x".toList } = .error 404 none ∧
      route Eany cfgC { post with path := "/".toList } = .error 404 none ∧
      route Eany cfgC { method := "GET".toList, path := "/orgs/acme/things".toList } =
        .selected 1 4 [("org".toList, "acme".toList)] ∧
      route Eany cfgJ { method := "GET".toList, path := "/orgs/acme/things".toList } =
        .selected 1 4 [("org".toList, "acme".toList)] := by decide +kernel

example :
    cfgJ.wfTemplates = true ∧ Jsr.rootsRead cfgJ = true ∧ Spec.mediaHygiene cfgJ = true ∧
      '\n' ∉ post.path ∧ route Eany cfgJ post = .selected 0 1 [] :=
  ⟨cfgJ_wf, cfgJ_rootsRead, cfgJ_hygiene, post_path, cfgJ_post⟩

example : Spec.c02Holds Eany cfgJ post (route Eany cfgJ post)
    (match route Eany cfgJ post with | .selected _ _ _ => 1 | _ => 0) = true := by
  have h := C02_classify_jsr_partial Eany cfgJ rfl cfgJ_wf cfgJ_rootsRead cfgJ_hygiene post post_path
  rwa [cfgJ_post] at h ⊢

end C02Witness
end Restful
