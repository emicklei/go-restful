/- The two filters on model values: cors_filter.go `CrossOriginResourceSharing.Filter` = `Cors.corsOut`, options_filter.go
   `Container.OPTIONSFilter` = `Options.optionsOut` (instances of the ties of TieImpCors). -/
import Restful.Lemmas.TieImpVocab
import Restful.Lemmas.TieImpAllowed
import Restful.Model.Options
import Restful.Lemmas.TieImpCors
namespace Restful
namespace TieImp
open Imp

/-- the container of a route table as `computeAllowedMethods` walks it -/
def genCont (E : ReEnv) (mk : RouteDecl → Option ImpGen.GoPathExpression → ImpGen.GoRoute) (tbl : Config) : ImpGen.GoContainer :=
  { webServices := tbl.services.map (fun ws => some (genWS E mk ws)) }

/-- the filter value: the model's configuration with the container it was given -/
def genCors (cc : Cors.CorsCfg) (cont : Option ImpGen.GoContainer) : ImpGen.GoCrossOriginResourceSharing :=
  { ExposeHeaders := cc.exposeHeaders, AllowedHeaders := cc.allowedHeaders, AllowedDomains := cc.allowedDomains,
    AllowedDomainFunc := cc.pred, AllowedMethods := cc.allowedMethods, MaxAge := cc.maxAge,
    CookiesAllowed := cc.cookies, Container := cont }

/-- a request as the CORS filter reads it -/
def genCorsReq (rq : Cors.CorsReq) : ImpGen.GoRequest :=
  { Request :=
      { method := rq.method, path := rq.path, contentLength := 0,
        header := (fun k =>
          if k = "Origin".toList then rq.origin
          else if k = "Access-Control-Request-Method".toList then rq.acrm
          else if k = "Access-Control-Request-Headers".toList then rq.acrh
          else []) } }

theorem reqOf_genCorsReq (rq : Cors.CorsReq) : T11.reqOf (genCorsReq rq).Request = rq := by
  obtain ⟨e1, e2, e3⟩ := T11.hdr3 "Origin".toList "Access-Control-Request-Method".toList
    "Access-Control-Request-Headers".toList rq.origin rq.acrm rq.acrh T11.acrm_ne_origin T11.acrh_ne_origin T11.acrh_ne_acrm
  have e1' : (genCorsReq rq).Request.header "Origin".toList = rq.origin := e1
  have e2' : (genCorsReq rq).Request.header "Access-Control-Request-Method".toList = rq.acrm := e2
  have e3' : (genCorsReq rq).Request.header "Access-Control-Request-Headers".toList = rq.acrh := e3
  show Cors.CorsReq.mk rq.method rq.path _ _ _ = rq
  rw [e1', e2', e3']

/-- what the filter did, as the two logs the translation returns: the response log grows by the added
    headers; the chain log gets one entry (the response log at that moment) iff control was passed on -/
def corsView (resp0 : RespLog) (chain0 : ChainLog) (o : Cors.Out) : RespLog × ChainLog :=
  (resp0 ++ o.added, if o.passOn then chain0 ++ [resp0 ++ o.added] else chain0)

/-- cors_filter.go `CrossOriginResourceSharing.Filter` with everything it calls (`isOriginAllowed`,
    `doActualRequest`, `doPreflightRequest`, `setOptionsHeaders`, the three `checkAndSet…` helpers, the two
    request-header tests, `computeAllowedMethods`), as translated on this run, IS the model's `corsOut`: the
    same headers in the same order and the same decision to pass control on, for every configuration,
    route table, request and lower-casing function; the receiver `doPreflightRequest` writes to is dropped
    (value receiver of `Filter`) -/
theorem cors_filter (lower : Str → Str) (E : ReEnv)
    (mk : RouteDecl → Option ImpGen.GoPathExpression → ImpGen.GoRoute)
    (hmk : ∀ rt pe, (mk rt pe).Method = rt.method ∧ (mk rt pe).pathExpr = pe)
    (X : ImpGen.Ext) (hlower : X.strings_ToLower = lower) (hitoa : X.strconv_Itoa = Cors.itoa)
    (cc : Cors.CorsCfg) (tbl : Config) (rq : Cors.CorsReq) (resp0 : RespLog) (chain0 : ChainLog) :
    ImpGen.CrossOriginResourceSharing_Filter X (genCors cc (some (genCont E mk tbl))) (some (genCorsReq rq)) resp0 chain0
      = (Cors.corsOut lower E cc tbl rq).map (corsView resp0 chain0) := by
  subst hlower
  exact T11.filter_tie_gen X hitoa E mk hmk (genCors cc (some (genCont E mk tbl))) tbl (Or.inl rfl)
    (genCorsReq rq).Request rq (reqOf_genCorsReq rq) resp0 chain0

/-- a request as the OPTIONS filter reads it -/
def genOptReq (rq : Options.OptReq) : ImpGen.GoRequest :=
  { Request :=
      { method := rq.method, path := rq.path, contentLength := 0,
        header := (fun k =>
          if k = "Origin".toList then rq.origin
          else if k = "Access-Control-Request-Headers".toList then rq.acrh
          else if k = "Access-Control-Request-Method".toList then rq.acrm
          else []) } }

/-- options_filter.go `Container.OPTIONSFilter` as translated on this run IS the model's `optionsOut`
    (for a request that is not OPTIONS control is passed on with the response log as it stands) -/
theorem options_filter (E : ReEnv)
    (mk : RouteDecl → Option ImpGen.GoPathExpression → ImpGen.GoRoute)
    (hmk : ∀ rt pe, (mk rt pe).Method = rt.method ∧ (mk rt pe).pathExpr = pe)
    (X : ImpGen.Ext) (tbl : Config) (rq : Options.OptReq) (resp0 : RespLog) (chain0 : ChainLog) :
    ImpGen.Container_OPTIONSFilter X (some (genCont E mk tbl)) (some (genOptReq rq)) resp0 chain0
      = (Options.optionsOut E tbl rq).map (fun o => (resp0 ++ o.added, if o.passOn then chain0 ++ [resp0 ++ o.added] else chain0)) := by
  obtain ⟨e1, e2, _⟩ := T11.hdr3 "Origin".toList "Access-Control-Request-Headers".toList
    "Access-Control-Request-Method".toList rq.origin rq.acrh rq.acrm T11.acrh_ne_origin T11.acrm_ne_origin
    (Ne.symm T11.acrh_ne_acrm)
  exact T11.options_tie' X E mk hmk tbl (genOptReq rq).Request rq e1 e2 rfl rfl resp0 chain0

#print axioms cors_filter
#print axioms options_filter

end TieImp
end Restful
