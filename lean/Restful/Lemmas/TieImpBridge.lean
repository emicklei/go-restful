/-
What every tie uses, over the prelude alone: the Go operations of `Restful/Imp/Prelude.lean` in terms of list
functions, the spellings of "is empty" and of string comparison, and the `for` loops of the translation with
an abstract body (filter, all, any, accumulate), each by induction on the list once.

Namespaces of the ties: the tie theorems and what several of them share are in `Restful.TieImp`; the helper
lemmas of one group of tied functions are in a sub-namespace, so that equally named local facts do not clash
(the numbers mean nothing): `T1` matchesRouteByPathTokens, `T2` path / token functions and the service score,
`T4` path parameters, `T5` Accept and Content-Type, `T6` template expressions, `T7` detectRoute, `T8`
CurlyRouter's service and candidate selection, `T9` computeAllowedMethods, `T10` RouterJSR311's selection, `T11`
CORS and OPTIONS filters, `T12` SelectRoute, `T13` JSR311 parameters, `T14` addHandler and RemoveRoute, `T15`
mime, `T16` Build, `T18` Container.Add.
-/
import Restful.Imp.Prelude
namespace Restful
namespace TieImp
open Imp

theorem indexSub_singleton (c : Char) (s : Str) : Str.indexSub [c] s = s.idxOf? c := by
  induction s with
  | nil => simp [Str.indexSub]
  | cons d ds ih =>
    simp only [Str.indexSub, List.idxOf?_cons, ih]
    by_cases h : d = c
    · subst h; simp [List.isPrefixOf]
    · have h' : ¬ c = d := fun e => h e.symm
      simp [List.isPrefixOf, h, h']

theorem index_char (c : Char) (s : Str) :
    index s [c] = match Str.index c s with | some k => ((k : Nat) : Int) | none => -1 := by
  unfold index Str.index; rw [indexSub_singleton]; rfl

theorem index_lt {c : Char} {s : Str} {k : Nat} (h : Str.index c s = some k) : k < s.length := by
  unfold Str.index at h
  obtain ⟨h, _⟩ := List.idxOf?_eq_some_iff.mp h
  exact h

theorem sliceFrom_nat {α : Type} (xs : List α) (k : Nat) (h : k ≤ xs.length) :
    sliceFrom xs (k : Int) = some (xs.drop k) := by
  unfold sliceFrom slice len
  have : (0:Int) ≤ k ∧ (k:Int) ≤ (xs.length : Int) ∧ (xs.length : Int) ≤ (xs.length : Int) := by omega
  rw [if_pos this]
  simp only [Int.toNat_natCast]
  rw [List.take_of_length_le (by simp)]

theorem slice_eq (s : Str) (i j : Int) : slice s i j = Str.slice? s i j := rfl

theorem len_eq {α : Type} (xs : List α) : len xs = (xs.length : Int) := rfl

theorem at?_nat {α : Type} (xs : List α) (k : Nat) : at? xs (k : Int) = xs[k]? := by
  simp [at?]

/-- `xs[len(xs)-1]` of a non-empty slice -/
theorem at?_last {α : Type} (xs : List α) (h : xs.length ≠ 0) :
    at? xs (len xs - 1) = xs[xs.length - 1]? := by
  unfold len
  rw [show ((xs.length : Int) - 1) = ((xs.length - 1 : Nat) : Int) by omega, at?_nat]

theorem lt_of_getElem?_eq_some {α : Type} {xs : List α} {k : Nat} {x : α} (h : xs[k]? = some x) :
    k < xs.length :=
  (List.getElem?_eq_some_iff.mp h).1

/-- `enum` with a start offset: the list a `for i, x := range xs` loop still has to visit -/
def enumFrom {α : Type} (k : Nat) (xs : List α) : List (Int × α) :=
  (xs.zipIdx k).map (fun p => (((p.2 : Nat) : Int), p.1))

theorem enum_eq {α : Type} (xs : List α) : enum xs = enumFrom 0 xs := rfl

theorem enumFrom_nil {α : Type} (k : Nat) : enumFrom k ([] : List α) = [] := rfl

theorem enumFrom_cons {α : Type} (k : Nat) (x : α) (xs : List α) :
    enumFrom k (x :: xs) = ((k : Int), x) :: enumFrom (k + 1) xs := by
  simp [enumFrom, List.zipIdx_cons]

/-- the join point after a `for` loop: `fin` is the post-loop code as a function of the loop result
    (`none` = panic inside the loop).  Use as `rw [jp_eq myFin rfl]`; `f` and `post` are found by
    unification, the side goal `hpost` is closed by `intro st; rcases st with …; rfl`. -/
theorem jp_eq {α σ ρ : Type} (fin : Option σ → Option ρ) (hnone : fin none = none)
    (f : α → σ → Option (ForInStep σ)) (post : σ → Option ρ) (l : List α) (init : σ)
    (hpost : ∀ st, post st = fin (some st)) :
    (forIn l init f >>= post) = fin (forIn l init f) := by
  cases h : forIn l init f with
  | none => exact hnone.symm
  | some st => exact hpost st


/-- the code after a loop when it only projects the loop result -/
theorem bind_eq_map {α β : Type} (x : Option α) (k : α → Option β) (h : α → β) (hk : ∀ s, k s = some (h s)) :
    (x >>= k) = x.map h := by
  cases x with
  | none => rfl
  | some s => exact hk s

theorem slice_zero_append {α : Type} (l r : List α) : slice (l ++ r) 0 (l.length : Int) = some l := by
  simp [slice]; omega

theorem sliceFrom_append {α : Type} (l r : List α) : sliceFrom (l ++ r) (l.length : Int) = some r := by
  rw [sliceFrom_nat _ _ (by simp)]; simp

theorem sliceFrom_one_cons {α : Type} (x : α) (xs : List α) : sliceFrom (x :: xs) 1 = some xs := by
  simpa using sliceFrom_nat (x :: xs) 1 (by simp)

/-- `matches[len(matches)-1]` of a `FindStringSubmatch` result (whole match, captures, final group) -/
theorem at?_last_snoc {α : Type} (x : α) (xs : List α) (y : α) :
    at? (x :: (xs ++ [y])) (len (x :: (xs ++ [y])) - 1) = some y := by
  rw [at?_last _ (by simp)]
  simp

theorem bind_congr_fun {α β : Type} (x : Option α) (k1 k2 : α → Option β) (h : ∀ a, k1 a = k2 a) :
    x.bind k1 = x.bind k2 := by
  cases x with
  | none => rfl
  | some a => exact h a

theorem len_beq_zero' {α : Type} (xs : List α) : (Imp.len xs == 0) = xs.isEmpty := by
  cases xs <;> simp [Imp.len] <;> omega
theorem zero_beq_len' {α : Type} (xs : List α) : ((0 : Int) == Imp.len xs) = xs.isEmpty := by
  cases xs <;> simp [Imp.len] <;> omega
theorem len_bne_zero' {α : Type} (xs : List α) : (Imp.len xs != 0) = !xs.isEmpty := by
  cases xs <;> simp [Imp.len] <;> omega
theorem len_pos' {α : Type} (xs : List α) : decide (Imp.len xs > 0) = !xs.isEmpty := by
  cases xs <;> simp [Imp.len] <;> omega
theorem len_pos'' {α : Type} (xs : List α) : decide (0 < Imp.len xs) = !xs.isEmpty := by
  cases xs <;> simp [Imp.len] <;> omega
theorem str_beq_nil (x : Str) : (x == ([] : Str)) = x.isEmpty := by cases x <;> rfl
theorem str_nil_beq (x : Str) : (([] : Str) == x) = x.isEmpty := by cases x <;> rfl
theorem str_bne_nil (x : Str) : (x != ([] : Str)) = !x.isEmpty := by cases x <;> rfl
theorem str_nil_bne (x : Str) : (([] : Str) != x) = !x.isEmpty := by cases x <;> rfl

/-- Go's `+` on strings (the prelude's `HAdd Str Str Str`) is `++`: `"(" + e + ")"` for `fmt.Sprintf("(%s)", e)` -/
theorem str_add (a b : Str) : (a + b : Str) = a ++ b := rfl

/-- `x == y` / `x != y` on strings as the decision of `x = y`: a proof then splits on the proposition once, whichever
    polarity the code tests -/
theorem str_beq_decide (a b : Str) : (a == b) = decide (a = b) := by by_cases h : a = b <;> simp [h]
theorem str_bne_decide (a b : Str) : (a != b) = !decide (a = b) := by by_cases h : a = b <;> simp [h]
theorem str_isEmpty_decide (a : Str) : a.isEmpty = decide (a = []) := by cases a <;> simp

/-- a string with a non-empty prefix is not empty: `len(s) > 0 && strings.HasPrefix(s, "{")` is `strings.HasPrefix(s, "{")` -/
theorem nonempty_and_hasPrefix (c : Char) (p s : Str) :
    (!s.isEmpty && Str.hasPrefix (c :: p) s) = Str.hasPrefix (c :: p) s := by
  cases s <;> simp [Str.hasPrefix, List.isPrefixOf]

/-- the filter loop (`for each in xs do if c then acc := push acc each`) over a list of images `g r`: the body
    is abstract, characterised by what one iteration does -/
theorem filter_loop {α β : Type} (g : β → α) (p : β → Bool)
    (f : α → List α → Option (ForInStep (List α))) (rs : List β) (acc : List α)
    (hf : ∀ r acc, f (g r) acc = some (.yield (if p r then acc ++ [g r] else acc))) :
    forIn (rs.map g) acc f = some (acc ++ (rs.filter p).map g) := by
  induction rs generalizing acc with
  | nil => simp
  | cons r rs ih =>
    rw [List.map_cons, List.forIn_cons, hf]
    simp only [Option.bind_eq_bind, Option.bind_some]
    rw [ih]
    cases h : p r <;> simp [h]

/-- `filter_loop` for `for i, each := range xs` with a body that reads `xs[i]` again -/
theorem enum_filter_loop {α β : Type} (g : β → α) (p : β → Bool)
    (f : Int × α → List (Option α) → Option (ForInStep (List (Option α)))) (rs : List β)
    (hf : ∀ (k : Nat) r acc, rs[k]? = some r →
      f ((k : Int), g r) acc = some (.yield (if p r then acc ++ [some (g r)] else acc))) :
    forIn (enum (rs.map g)) [] f = some ((rs.filter p).map (fun r => some (g r))) := by
  -- the same for the rest `l` of the list, visited from index `k` on
  have key : ∀ (l : List β) (k : Nat) (acc : List (Option α)),
      (∀ j r acc, l[j]? = some r →
        f (((k + j : Nat) : Int), g r) acc = some (.yield (if p r then acc ++ [some (g r)] else acc))) →
      forIn (enumFrom k (l.map g)) acc f = some (acc ++ (l.filter p).map (fun r => some (g r))) := by
    intro l
    induction l with
    | nil => intro k acc _; simp [enumFrom_nil]
    | cons r l ih =>
      intro k acc h
      have h0 : f ((k : Int), g r) acc = _ := h 0 r acc rfl
      rw [List.map_cons, enumFrom_cons, List.forIn_cons, h0]
      simp only [Option.bind_eq_bind, Option.bind_some]
      rw [ih (k + 1) _ fun j r' acc' hj => by rw [Nat.add_right_comm, Nat.add_assoc]; exact h (j + 1) r' acc' hj]
      cases hp : p r <;> simp [hp]
  simpa [enum_eq] using key rs 0 [] (by simpa using hf)

/-- "every element passes the test `t`", with an abstract body and an arbitrary state, whether the code keeps a flag and
    breaks or returns from a helper — a failing element ends the loop with the state `d` (the same for all) -/
theorem all_loop_gen {α σ : Type} (t : α → Bool) (f : α → σ → Option (ForInStep σ)) (l : List α) (init d : σ)
    (hf : ∀ x, f x init = some (if t x = true then ForInStep.yield init else ForInStep.done d)) :
    forIn l init f = some (if l.all t = true then init else d) := by
  induction l with
  | nil => simp
  | cons x l ih =>
    rw [List.forIn_cons, hf]
    cases h : t x <;> simp [ih, h]

/-- a loop that ends at the first element passing the test `t`, with an abstract body and an arbitrary state:
    such an element ends the loop with the state `d`, the others leave the state as it is -/
theorem any_loop_gen {α σ : Type} (t : α → Bool) (f : α → σ → Option (ForInStep σ)) (l : List α) (init d : σ)
    (hf : ∀ x, f x init = some (if t x = true then ForInStep.done d else ForInStep.yield init)) :
    forIn l init f = some (if l.any t = true then d else init) := by
  induction l with
  | nil => simp
  | cons x l ih =>
    rw [List.forIn_cons, hf]
    cases h : t x <;> simp [ih, h]

/-- a `for … range` whose body is `if f x { return true }` -/
theorem any_loop {α : Type} (f : α → Bool) (l : List α) :
    forIn l ((none : Option Bool), ()) (fun p _ =>
      if f p = true then (some (ForInStep.done (some true, ())) : Option _)
      else some (ForInStep.yield (none, ()))) = some (if l.any f then some true else none, ()) := by
  rw [any_loop_gen f _ l _ (some true, ()) fun x => by cases f x <;> rfl]
  cases l.any f <;> rfl

/-- a loop that only accumulates never panics (the `available` list of the 406 / 415 message); in the shape the
    translation produces, when the continuation's visible result does not depend on what the loop computed -/
theorem total_loop_map {α β σ γ δ : Type} (g : β → α) (f : α → σ → Option (ForInStep σ)) (rs : List β) (acc : σ)
    (k : σ → Option γ) (view : γ → δ) (v : Option δ)
    (hf : ∀ r acc, ∃ acc', f (g r) acc = some (.yield acc'))
    (hk : ∀ res, (k res).map view = v) :
    ((forIn (rs.map g) acc f).bind k).map view = v := by
  induction rs generalizing acc with
  | nil => exact hk acc
  | cons r rs ih =>
    obtain ⟨acc', h⟩ := hf r acc
    rw [List.map_cons, List.forIn_cons, h]
    exact ih acc'

/-- a loop that only folds: `for x in l { acc = step acc x }`, seen through a representation `g` -/
theorem fold_loop {α β γ : Type} (g : β → γ) (step : β → α → β) (f : α → γ → Option (ForInStep γ))
    (hf : ∀ x acc, f x (g acc) = some (.yield (g (step acc x)))) (l : List α) (acc : β) :
    forIn l (g acc) f = some (g (l.foldl step acc)) := by
  induction l generalizing acc with
  | nil => rfl
  | cons x xs ih => rw [List.forIn_cons, hf]; exact ih _

end TieImp
end Restful
