/-
C18 — CurlyRouter and RouterJSR311 agree wherever both are specified.

On route tables of the common fragment (`Spec.wfCommon`: literal WebService roots, route segments
that are literals or plain variables), with pairwise different, clean roots, distinct route ids
per WebService, and a normal request path, the two routers give every request the same outcome —
up to the one thing their different ranking keys leave open (`Spec.ranksAgree`, F17).

  * admission and expected parameters coincide           — `Restful.Lemmas.AgreePath`
  * per-route agreement, `detectRoute` under permutation  — `Restful.Lemmas.AgreeRoutes`
  * the same WebService is chosen                         — `Restful.Lemmas.AgreeSvc`
-/
import Restful.Lemmas.AgreePath
import Restful.Lemmas.AgreeRoutes
import Restful.Lemmas.AgreeSvc
import Restful.Spec.Classify
import Restful.Lemmas.DecideLits
import Restful.Lemmas.Nodup
namespace Restful
open Str
variable (E : ReEnv)

/-- inside one WebService of the common fragment whose root matched, both routers end in
    `finishWith` on candidate lists that are permutations of each other: the routes whose template
    admits the path, for each of which both bind the expected parameters -/
theorem afterSvc_tails {cfg : Config} (hwf : Spec.wfCommon cfg = true) {svc : Service} (hsvc : svc ∈ cfg.services)
    (req : Req) (hp : Spec.normalPath req.path = true)
    {wex : Jsr.Expr} {wc : List Str} {final : Str} (hwex : Jsr.compile svc.rootPath = some wex)
    (hwm : Jsr.matchExpr E wex.toks req.path = some (wc, final)) :
    ∃ cands cands' : List Route, cands.Perm cands' ∧
      curlyAfterSvc E svc.built req = finishWith (fun r => Params.extract r req.path) cands req ∧
      jsrAfterSvc E svc svc.built final req = finishWith (fun r => Jsr.extract E svc r req.path) cands' req ∧
      ∀ r ∈ cands, r ∈ svc.built ∧ ∃ ts, readTemplate r.path = some ts ∧
        Spec.admits E .curly ts (tokenize req.path) = true ∧
        Params.extract r req.path = some (Spec.expectedParams ts (tokenize req.path)) ∧
        Jsr.extract E svc r req.path = some (Spec.expectedParams ts (tokenize req.path)) := by
  -- per route: neither router fails, both candidate tests are the template's admission of the tokens,
  -- and both bind the expected parameters
  have hC : ∀ rt ∈ svc.built, ∃ ts, readTemplate rt.path = some ts ∧
      (Curly.panics E (tokenize req.path) rt = false ∧ Jsr.rfails rt = false) ∧
      ((Curly.candOf E (tokenize req.path) rt).isSome = Spec.admits E .curly ts (tokenize req.path) ∧
        (Jsr.rcandOf E final rt).isSome = Spec.admits E .curly ts (tokenize req.path)) ∧
      (Spec.admits E .curly ts (tokenize req.path) = true →
        Params.extract rt req.path = some (Spec.expectedParams ts (tokenize req.path)) ∧
        Jsr.extract E svc rt req.path = some (Spec.expectedParams ts (tokenize req.path))) := by
    intro rt hrt
    obtain ⟨ts, hts, htsj, hcommon⟩ := wfCommon_route hwf hsvc hrt
    obtain ⟨c1, c2, c3⟩ := curly_route_facts E svc hrt hts req.path
    obtain ⟨j1, j2, j3⟩ := jsr_route_facts E svc htsj (Spec.normalPath_newline hp) hwex hwm
    obtain ⟨a1, a2⟩ := C18_admission_agrees E ts hcommon req.path hp
    refine ⟨ts, hts, ⟨c1, j1⟩, ⟨c2, by rw [j2, a1]⟩, fun hadm => ⟨c3 hadm, ?_⟩⟩
    rw [a1] at hadm
    obtain ⟨segs, hseg⟩ := Option.isSome_iff_exists.mp hadm
    rw [j3 segs hseg, (a2 segs hseg).2]
  have hcandC : Curly.candidates E svc.built (tokenize req.path) =
      some (svc.built.filterMap (Curly.candOf E (tokenize req.path))) := by
    rw [Curly.candidates_eq, if_neg]
    simp only [List.any_eq_true, not_exists, not_and, Bool.not_eq_true]
    intro rt hrt
    obtain ⟨_, _, h, _⟩ := hC rt hrt
    exact h.1
  have hcandJ : Jsr.routeCandidates E svc.built final =
      some (svc.built.filterMap (Jsr.rcandOf E final)) := by
    rw [Jsr.routeCandidates_eq, if_neg]
    simp only [List.any_eq_true, not_exists, not_and, Bool.not_eq_true]
    intro rt hrt
    obtain ⟨_, _, h, _⟩ := hC rt hrt
    exact h.2
  -- both sorted candidate lists are permutations of the admitted routes
  have hpermC := sorted_routes_perm (Curly.candOf E (tokenize req.path)) (·.route) Curly.candLess svc.built
    fun _ _ hc => (Curly.candOf_some E hc).1
  have hpermJ := sorted_routes_perm (Jsr.rcandOf E final) (·.route) Jsr.routeCandLess svc.built
    fun _ _ hc => (Jsr.rcandOf_some E hc).1
  have hfeq : svc.built.filter (fun rt => (Jsr.rcandOf E final rt).isSome) =
      svc.built.filter (fun rt => (Curly.candOf E (tokenize req.path) rt).isSome) := by
    apply List.filter_congr
    intro rt hrt
    obtain ⟨_, _, _, h, _⟩ := hC rt hrt
    rw [h.1, h.2]
  rw [hfeq] at hpermJ
  refine ⟨_, _, hpermC.trans hpermJ.symm, by rw [curlyAfterSvc_finishWith, hcandC], ?_, fun r hr => ?_⟩
  · unfold jsrAfterSvc
    rw [hcandJ]
  · have hr' := List.mem_filter.1 (hpermC.subset hr)
    obtain ⟨ts, hts, _, hc, hex⟩ := hC r hr'.1
    have ha := hc.1 ▸ hr'.2
    exact ⟨hr'.1, ts, hts, ha, hex ha⟩

/-- the outcomes of the two routers on a table and request inside C18's hypotheses: either both
    select — a route of the WebService CurlyRouter detects, eligible, admitting the path, with the
    expected parameters — or both answer the same error -/
theorem agree_core (cfg : Config) (hwf : Spec.wfCommon cfg = true) (hroots : Spec.rootsDistinct cfg = true)
    (hclean : Spec.rootsClean cfg = true) (req : Req) (hp : Spec.normalPath req.path = true) :
    (∃ svc sc, Curly.detectWebService E (tokenize req.path) cfg.services none = some (some (svc, sc)) ∧ svc ∈ cfg.services ∧
      ∃ rc ∈ svc.built, ∃ rj ∈ svc.built, ∃ tsc tsj,
        readTemplate rc.path = some tsc ∧ readTemplate rj.path = some tsj ∧
        Spec.admits E .curly tsc (tokenize req.path) = true ∧ Spec.admits E .curly tsj (tokenize req.path) = true ∧
        Spec.eligible rc req = true ∧ Spec.eligible rj req = true ∧
        (routeCurly E cfg req).1 = .selected rc.svc rc.id (Spec.expectedParams tsc (tokenize req.path)) ∧
        (routeJsr E cfg req).1 = .selected rj.svc rj.id (Spec.expectedParams tsj (tokenize req.path))) ∨
    (Spec.sameOutcome (routeCurly E cfg req).1 (routeJsr E cfg req).1 ∧
      ∀ s r ps, (routeCurly E cfg req).1 ≠ .selected s r ps) := by
  have hsvc := C18_service_agrees E cfg hwf hroots hclean req.path hp
  rw [routeCurly_fst, routeJsr_fst]
  split at hsvc
  · rename_i h1 h2
    rw [h1, h2]
    right; simp [Spec.sameOutcome]
  · rename_i s sc s' final h1 h2
    subst hsvc
    rw [h1, h2]
    obtain ⟨hmem, wex, wc, hwex, hwm⟩ := Jsr.detectDispatcher_mem E h2
    obtain ⟨cands, cands', hperm, hc, hj, hfacts⟩ := afterSvc_tails E hwf hmem req hp hwex hwm
    simp only
    rw [hc, hj]
    rcases finishWith_perm_weak _ _ hperm req with ⟨rc, hrc, rj, hrj, hec, hej, hfc, hfj⟩ | hsame
    · obtain ⟨hrcb, tsc, htsc, hac, hxc, _⟩ := hfacts rc hrc
      obtain ⟨hrjb, tsj, htsj, haj, _, hxj⟩ := hfacts rj (hperm.symm.subset hrj)
      exact Or.inl ⟨s, sc, rfl, hmem, rc, hrcb, rj, hrjb, tsc, tsj, htsc, htsj, hac, haj, hec, hej,
        by rw [hfc, finOf, hxc], by rw [hfj, finOf, hxj]⟩
    · exact Or.inr hsame
  · exact hsvc.elim

theorem route_withRouter_curly (cfg : Config) (req : Req) :
    route E (Spec.withRouter cfg .curly) req = (routeCurly E cfg req).1 := rfl

theorem route_withRouter_jsr (cfg : Config) (req : Req) :
    route E (Spec.withRouter cfg .jsr) req = (routeJsr E cfg req).1 := rfl

/-- a built route is determined by its id when the declared ids are distinct -/
theorem built_eq_of_id {svc : Service} (hids : (svc.routes.map (·.id)).Nodup) {a b : Route}
    (ha : a ∈ svc.built) (hb : b ∈ svc.built) (h : a.id = b.id) : a = b := by
  unfold Service.built at ha hb
  obtain ⟨x, hx, rfl⟩ := List.mem_map.1 ha
  obtain ⟨y, hy, rfl⟩ := List.mem_map.1 hb
  rw [Registry.nodup_map_inj hids hx hy h]

/-- **C18**: on the common fragment the two routers give every request with a normal path
    the same outcome.  Beyond the hypotheses of the property's wording (`wfCommon`,
    `rootsDistinct`, `normalPath`) and the explicit exclusion of the ranking difference
    (`ranksAgree`, F17), two more are needed, each with a `decide`d counterexample below:
    `rootsClean` (no empty root token) and `routeIdsDistinct`. -/
theorem C18_agree_partial (E : ReEnv) (cfg : Config) (hwf : Spec.wfCommon cfg = true)
    (hroots : Spec.rootsDistinct cfg = true) (hclean : Spec.rootsClean cfg = true)
    (hids : Spec.routeIdsDistinct cfg = true)
    (req : Req) (hp : Spec.normalPath req.path = true) (hr : Spec.ranksAgree E cfg req = true) :
    Spec.sameOutcome (route E (Spec.withRouter cfg .curly) req) (route E (Spec.withRouter cfg .jsr) req) := by
  rw [route_withRouter_curly, route_withRouter_jsr]
  unfold Spec.ranksAgree at hr
  rw [route_withRouter_curly, route_withRouter_jsr] at hr
  rcases agree_core E cfg hwf hroots hclean req hp with
    ⟨svc, sc, _, hmem, rc, hrc, rj, hrj, tsc, tsj, htsc, htsj, _, _, _, _, hoc, hoj⟩ | h
  · rw [hoc, hoj] at hr ⊢
    simp only [Bool.and_eq_true, beq_iff_eq] at hr
    have hidn : (svc.routes.map (·.id)).Nodup := by
      unfold Spec.routeIdsDistinct at hids
      simp only [List.all_eq_true, decide_eq_true_eq] at hids
      exact hids svc hmem
    have := built_eq_of_id hidn hrc hrj hr.2
    subst this
    rw [htsc] at htsj
    cases htsj
    exact ⟨rfl, rfl, rfl⟩
  · exact h.1

/-- **C18, a structural condition for `ranksAgree`**: if, in the WebService CurlyRouter detects, at most one route both admits the path
    and is eligible for the request, then the two routers cannot select different routes -/
theorem C18_ranksAgree_of_unique_eligible (E : ReEnv) (cfg : Config) (hwf : Spec.wfCommon cfg = true)
    (hroots : Spec.rootsDistinct cfg = true) (hclean : Spec.rootsClean cfg = true)
    (req : Req) (hp : Spec.normalPath req.path = true)
    (huniq : ∀ svc sc, Curly.detectWebService E (tokenize req.path) cfg.services none = some (some (svc, sc)) →
      ∀ r1 ∈ svc.built, ∀ r2 ∈ svc.built,
        Spec.pathAdmits E .curly r1 req.path = true → Spec.pathAdmits E .curly r2 req.path = true →
        Spec.eligible r1 req = true → Spec.eligible r2 req = true → r1 = r2) :
    Spec.ranksAgree E cfg req = true := by
  unfold Spec.ranksAgree
  rw [route_withRouter_curly, route_withRouter_jsr]
  rcases agree_core E cfg hwf hroots hclean req hp with
    ⟨svc, sc, hdet, _, rc, hrc, rj, hrj, tsc, tsj, htsc, htsj, hac, haj, hec, hej, hoc, hoj⟩ | h
  · have hpa : ∀ (r : Route) (ts : List TTok), readTemplate r.path = some ts →
        Spec.admits E .curly ts (tokenize req.path) = true → Spec.pathAdmits E .curly r req.path = true := by
      intro r ts hts ha
      simp [Spec.pathAdmits, Spec.templateOf, hts, Spec.admittedSegments, ha]
    have := huniq svc sc hdet rc hrc rj hrj (hpa rc tsc htsc hac) (hpa rj tsj htsj haj) hec hej
    subst this
    rw [hoc, hoj]
    simp
  · cases hc : (routeCurly E cfg req).1 with
    | selected s r ps => exact absurd hc (h.2 s r ps)
    | error c a => rfl
    | panic w => rfl

end Restful

/-! ### witnesses -/
namespace Restful.C18Witness

def E0 : ReEnv := ⟨fun _ _ => true, fun _ _ => true⟩

def rGet (id : Nat) (p : String) : RouteDecl :=
  { id := id, method := "GET".toList, relPath := p.toList, consumes := [], produces := [], conds := [], noct := [] }

def get (p : String) : Req := { method := "GET".toList, path := p.toList }

/-! non-vacuity of `C18_agree_partial`: two services, three routes, every hypothesis decided -/

def cfg : Config :=
  { router := .curly,
    services := [
      { id := 1, root := "/users".toList,
        routes := [rGet 10 "/{id}", rGet 11 "/me", { rGet 12 "/{id}" with method := "POST".toList }] },
      { id := 2, root := "/users/admin".toList, routes := [rGet 20 "/{thing}/log"] }] }

theorem cfg_wfCommon : Spec.wfCommon cfg = true := by decide_lits [cfg, rGet]
theorem cfg_rootsDistinct : Spec.rootsDistinct cfg = true := by decide_lits [cfg, rGet]
theorem cfg_rootsClean : Spec.rootsClean cfg = true := by decide_lits [cfg, rGet]
theorem cfg_routeIdsDistinct : Spec.routeIdsDistinct cfg = true := by decide_lits [cfg, rGet]

example : Spec.wfCommon cfg = true ∧ Spec.rootsDistinct cfg = true ∧ Spec.rootsClean cfg = true ∧
    Spec.routeIdsDistinct cfg = true ∧ Spec.normalPath (get "/users/admin/x/log/").path = true ∧
    Spec.ranksAgree E0 cfg (get "/users/admin/x/log/") = true ∧
    route E0 (Spec.withRouter cfg .curly) (get "/users/admin/x/log/") = .selected 2 20 [("thing".toList, "x".toList)] ∧
    route E0 (Spec.withRouter cfg .jsr) (get "/users/admin/x/log/") = .selected 2 20 [("thing".toList, "x".toList)] :=
  ⟨cfg_wfCommon, cfg_rootsDistinct, cfg_rootsClean, cfg_routeIdsDistinct, by decide_lits [cfg, rGet, get]⟩

example : Spec.sameOutcome (route E0 (Spec.withRouter cfg .curly) (get "/users/me"))
    (route E0 (Spec.withRouter cfg .jsr) (get "/users/me")) := by
  -- at default transparency the elaborator normalises the result type, i.e. runs both routers
  with_reducible
    exact C18_agree_partial E0 cfg cfg_wfCommon cfg_rootsDistinct cfg_rootsClean cfg_routeIdsDistinct _
      (by decide_lits [get]) (by decide_lits [cfg, rGet, get])

/-- … and an error outcome with an Allow set: `DELETE /users/me` → 405 from both -/
example : route E0 (Spec.withRouter cfg .curly) { get "/users/me" with method := "DELETE".toList } =
      .error 405 (some ["GET".toList, "POST".toList]) ∧
    Spec.sameOutcome (route E0 (Spec.withRouter cfg .curly) { get "/users/me" with method := "DELETE".toList })
      (route E0 (Spec.withRouter cfg .jsr) { get "/users/me" with method := "DELETE".toList }) :=
  ⟨by decide_lits [cfg, rGet, get], by
    with_reducible
      exact C18_agree_partial E0 cfg cfg_wfCommon cfg_rootsDistinct cfg_rootsClean cfg_routeIdsDistinct _
        (by decide_lits [get]) (by decide_lits [cfg, rGet, get])⟩

/-- **F17** (different ranking keys): `GET /abcdef/{x}/{y}` (id 0) and `GET /{x}/b/c` (id 1) under
    root `/w`, request `GET /w/abcdef/b/c`: CurlyRouter selects route 1 (two literal segments),
    RouterJSR311 route 0 (six literal characters).  Every hypothesis of `C18_agree_partial` holds
    except `ranksAgree`. -/
theorem C18_F17_witness :
    let cfg : Config := { router := .curly, services :=
      [{ id := 0, root := "/w".toList, routes := [rGet 0 "/abcdef/{x}/{y}", rGet 1 "/{x}/b/c"] }] }
    let req := get "/w/abcdef/b/c"
    Spec.wfCommon cfg = true ∧ Spec.rootsDistinct cfg = true ∧ Spec.rootsClean cfg = true ∧
      Spec.routeIdsDistinct cfg = true ∧ Spec.normalPath req.path = true ∧ Spec.ranksAgree E0 cfg req = false ∧
      route E0 (Spec.withRouter cfg .curly) req = .selected 0 1 [("x".toList, "abcdef".toList)] ∧
      route E0 (Spec.withRouter cfg .jsr) req = .selected 0 0 [("x".toList, "b".toList), ("y".toList, "c".toList)] := by
  decide_lits [rGet, get]

/-- **F15** (empty segment): root `/w` with `GET /{x}/b`, request `GET /w//b`: CurlyRouter binds
    `x` to the empty segment and selects, RouterJSR311 answers 404.  Only `normalPath` fails. -/
theorem C18_F15_witness :
    let cfg : Config := { router := .curly, services := [{ id := 0, root := "/w".toList, routes := [rGet 0 "/{x}/b"] }] }
    let req := get "/w//b"
    Spec.wfCommon cfg = true ∧ Spec.rootsDistinct cfg = true ∧ Spec.rootsClean cfg = true ∧
      Spec.routeIdsDistinct cfg = true ∧ Spec.normalPath req.path = false ∧ Spec.ranksAgree E0 cfg req = true ∧
      route E0 (Spec.withRouter cfg .curly) req = .selected 0 0 [("x".toList, [])] ∧
      route E0 (Spec.withRouter cfg .jsr) req = .error 404 none := by
  decide_lits [rGet, get]

/-- **F16** (newline inside a variable segment): root `/w` with `GET /{x}/b`, request
    `GET /w/a⏎b/b`: CurlyRouter selects, RouterJSR311 answers 404 (the root expression's final
    group cannot cross the newline).  Only `normalPath` fails. -/
theorem C18_F16_witness :
    let cfg : Config := { router := .curly, services := [{ id := 0, root := "/w".toList, routes := [rGet 0 "/{x}/b"] }] }
    let req := get "/w/a\nb/b"
    Spec.wfCommon cfg = true ∧ Spec.rootsDistinct cfg = true ∧ Spec.rootsClean cfg = true ∧
      Spec.routeIdsDistinct cfg = true ∧ Spec.normalPath req.path = false ∧ Spec.ranksAgree E0 cfg req = true ∧
      route E0 (Spec.withRouter cfg .curly) req = .selected 0 0 [("x".toList, "a\nb".toList)] ∧
      route E0 (Spec.withRouter cfg .jsr) req = .error 404 none := by
  decide_lits [rGet, get]

/-- why `rootsClean` is needed: root `//` (one empty token) with `GET /x`, request `GET /x`:
    CurlyRouter keeps the empty root token and finds no service (404), RouterJSR311 drops it and
    selects.  Every other hypothesis of `C18_agree_partial` holds. -/
theorem C18_emptyRootToken_witness :
    let cfg : Config := { router := .curly, services := [{ id := 0, root := "//".toList, routes := [rGet 0 "/x"] }] }
    let req := get "/x"
    Spec.wfCommon cfg = true ∧ Spec.rootsDistinct cfg = true ∧ Spec.rootsClean cfg = false ∧
      Spec.routeIdsDistinct cfg = true ∧ Spec.normalPath req.path = true ∧ Spec.ranksAgree E0 cfg req = true ∧
      route E0 (Spec.withRouter cfg .curly) req = .error 404 none ∧
      route E0 (Spec.withRouter cfg .jsr) req = .selected 0 0 [] := by
  decide_lits [rGet, get]

/-- the same with routes on the other side: root `/a//b` (no routes) and root `/a` with
    `GET /b/c`, request `GET /a/b/c`: CurlyRouter selects, RouterJSR311 dispatches to `/a//b`
    (read as `/a/b`) and answers 404 -/
theorem C18_emptyRootToken_witness' :
    let cfg : Config := { router := .curly, services := [{ id := 0, root := "/a//b".toList, routes := [] },
      { id := 1, root := "/a".toList, routes := [rGet 0 "/b/c"] }] }
    let req := get "/a/b/c"
    Spec.wfCommon cfg = true ∧ Spec.rootsDistinct cfg = true ∧ Spec.rootsClean cfg = false ∧
      Spec.routeIdsDistinct cfg = true ∧ Spec.normalPath req.path = true ∧ Spec.ranksAgree E0 cfg req = true ∧
      route E0 (Spec.withRouter cfg .curly) req = .selected 1 0 [] ∧
      route E0 (Spec.withRouter cfg .jsr) req = .error 404 none := by
  decide_lits [rGet, get]

/-- why `routeIdsDistinct` is needed: the F17 table with both routes given id 0: `ranksAgree`
    (which compares ids) holds, yet the two routers run different routes with different parameters -/
theorem C18_duplicateIds_witness :
    let cfg : Config := { router := .curly, services :=
      [{ id := 0, root := "/w".toList, routes := [rGet 0 "/abcdef/{x}/{y}", rGet 0 "/{x}/b/c"] }] }
    let req := get "/w/abcdef/b/c"
    Spec.wfCommon cfg = true ∧ Spec.rootsDistinct cfg = true ∧ Spec.rootsClean cfg = true ∧
      Spec.routeIdsDistinct cfg = false ∧ Spec.normalPath req.path = true ∧ Spec.ranksAgree E0 cfg req = true ∧
      route E0 (Spec.withRouter cfg .curly) req = .selected 0 0 [("x".toList, "abcdef".toList)] ∧
      route E0 (Spec.withRouter cfg .jsr) req = .selected 0 0 [("x".toList, "b".toList), ("y".toList, "c".toList)] := by
  decide_lits [rGet, get]

end Restful.C18Witness
