/-
Helpers of the tie for the two comma-separated-header loops of route.go (`matchesAccept`,
`matchesContentType`): `Imp.index` / `sliceTo` / `sliceFrom` on a text cut at a character, the
model's two loops in their common form `headerLoop` (Lemmas/Detect.lean), and the fuelled `for {…}` loop (`fuel_loop`):
it returns before the fuel runs out because every iteration that does not return strictly
shortens `remaining`.
-/
import Restful.Lemmas.TieImp
import Restful.Lemmas.TieImpBridge
import Restful.Lemmas.Detect
import Restful.Lemmas.SplitOn
namespace Restful
namespace TieImp
namespace T5
open Imp

theorem index_of_not_mem {c : Char} {s : Str} (h : c ∉ s) : index s [c] = -1 := by
  simp [index, indexSub_singleton, List.idxOf?_eq_none_iff.mpr h]

theorem index_of_mem {c : Char} {l r : Str} (h : c ∉ l) : index (l ++ c :: r) [c] = (l.length : Int) := by
  simp [index, indexSub_singleton, Str.idxOf?_append_cons h]

theorem sliceTo_append {α : Type} (l r : List α) : sliceTo (l ++ r) (l.length : Int) = some l :=
  slice_zero_append l r

theorem sliceFrom_append_cons {α : Type} (l r : List α) (c : α) :
    sliceFrom (l ++ c :: r) ((l.length : Int) + 1) = some r := by
  simpa using sliceFrom_append (l ++ [c]) r

theorem natCast_beq_neg_one (n : Nat) : ((n : Int) == -1) = false := by
  simp

theorem natCast_bne_neg_one (n : Nat) : ((n : Int) != -1) = true := by
  simp

theorem cut_cases (c : Char) (s : Str) : (∃ l r, s = l ++ c :: r ∧ c ∉ l) ∨ c ∉ s := by
  have hr : s.takeWhile (· != c) ++ s.dropWhile (· != c) = s := List.takeWhile_append_dropWhile
  have hn := Str.not_mem_takeWhile_ne c s
  rcases Str.dropWhile_ne_cases c s with h | ⟨r', h⟩
  · right; rw [h, List.append_nil] at hr; rwa [hr] at hn
  · left; exact ⟨_, r', by rw [← h, hr], hn⟩

theorem split_of_not_mem {c : Char} {s : Str} (h : c ∉ s) : Str.split c s = [s] :=
  List.splitOn_eq_singleton h

theorem split_append_cons {c : Char} {l : Str} (h : c ∉ l) (r : Str) :
    Str.split c (l ++ c :: r) = l :: Str.split c r :=
  List.splitOn_append_cons_self_of_not_mem h r

theorem remainingEmpty_split (c : Char) (s : Str) : remainingEmpty (Str.split c s) = s.isEmpty := by
  rcases cut_cases c s with ⟨l, r, rfl, hl⟩ | h
  · rw [split_append_cons hl]
    rcases hs : Str.split c r with _ | ⟨a, t⟩
    · exact absurd hs (Str.split_ne_nil c r)
    · simp [remainingEmpty]
  · rw [split_of_not_mem h]; simp [remainingEmpty]

/-- the outer loop of `matchesAccept` / `matchesContentType`: `body` is characterised by what one
iteration does on a remaining text without a comma (`h1`) and on one cut at its first comma (`h2`);
the fuel (the length of the list iterated over) only has to exceed the length of the remaining text -/
theorem fuel_loop (test : Str → Bool)
    (body : Int → Option Bool × Str → Option (ForInStep (Option Bool × Str)))
    (h1 : ∀ x s, ',' ∉ s → body x (none, s) = some (.done (some (test (mediaOf s)), [])))
    (h2 : ∀ x l r, ',' ∉ l → body x (none, l ++ ',' :: r) =
      some (if test (mediaOf l) then .done (some true, r)
            else if r.isEmpty then .done (some false, r) else .yield (none, r)))
    (fuel : List Int) (s : Str) (h : s.length < fuel.length) :
    ∃ s', forIn fuel (none, s) body = some (some (headerLoop (fun p => test (mediaOf p)) (Str.split ',' s)), s') := by
  induction fuel generalizing s with
  | nil => simp at h
  | cons x xs ih =>
    rw [List.forIn_cons]
    rcases cut_cases ',' s with ⟨l, r, rfl, hl⟩ | hs
    · rw [h2 x l r hl, split_append_cons hl]
      simp only [headerLoop, remainingEmpty_split]
      by_cases ht : test (mediaOf l) = true
      · exact ⟨r, by simp [ht]⟩
      · by_cases hr : r.isEmpty = true
        · exact ⟨r, by simp [ht, hr]⟩
        · have hlen : r.length < xs.length := by
            simp only [List.length_append, List.length_cons] at h; omega
          obtain ⟨s', hs'⟩ := ih r hlen
          exact ⟨s', by simp [ht, hr, hs']⟩
    · rw [h1 x s hs, split_of_not_mem hs]
      exact ⟨[], by simp [headerLoop, remainingEmpty]⟩

theorem mediaOf_of_not_mem {s : Str} (h : ';' ∉ s) : mediaOf s = Str.trim ' ' s := by
  have : s.takeWhile (· != ';') = s := by
    have := (Str.takeWhile_ne_append (rest := []) h (Or.inl rfl)).1
    simpa using this
  simp [mediaOf, trimSpaces, cutAtSemi, this]

theorem mediaOf_append_cons {l : Str} (h : ';' ∉ l) (r : Str) : mediaOf (l ++ ';' :: r) = Str.trim ' ' l := by
  simp [mediaOf, trimSpaces, cutAtSemi, (Str.takeWhile_ne_append h (Or.inr ⟨r, rfl⟩)).1]

/-- `fuel_loop` for use inside a function, which may reach the loop from several branches with different
    texts: `apply` it, rewrite every occurrence of the loop with `hloop` in `main` (the first rewrite fixes
    `body` and `k` by unification), and the body is analysed once, in `h1` and `h2` -/
theorem fuel_loop_once (test : Str → Bool) {P : Prop}
    (body : Int → Option Bool × Str → Option (ForInStep (Option Bool × Str)))
    (k : Option Bool × Str → Option Bool)
    (h1 : ∀ x s, ',' ∉ s → body x (none, s) = some (.done (some (test (mediaOf s)), [])))
    (h2 : ∀ x l r, ',' ∉ l → body x (none, l ++ ',' :: r) =
      some (if test (mediaOf l) then .done (some true, r)
            else if r.isEmpty then .done (some false, r) else .yield (none, r)))
    (hk : ∀ b s', k (some b, s') = some b)
    (main : (∀ (fuel : List Int) (s : Str), s.length < fuel.length →
      (forIn fuel (none, s) body >>= k) = some (headerLoop (fun p => test (mediaOf p)) (Str.split ',' s))) → P) : P := by
  refine main fun fuel s hl => ?_
  obtain ⟨s', hs'⟩ := fuel_loop test body h1 h2 fuel s hl
  rw [hs']
  exact hk _ s'

end T5
end TieImp
end Restful
