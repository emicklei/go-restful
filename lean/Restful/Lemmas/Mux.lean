/-
The ServeMux model answers by the SET of registered (pattern, target) pairs: when no pattern is
registered twice (which `register` guarantees), `lookup` is invariant under permutation of the table.
-/
import Restful.Model.Mux
import Restful.Lemmas.Nodup
namespace Restful

namespace Mux
open List

def Keys (t : Table) : Prop := (t.map (·.1)).Nodup

theorem Keys.perm {t t' : Table} (h : t.Perm t') (hk : Keys t) : Keys t' :=
  (List.Perm.nodup_iff (h.map (fun e : Entry => e.1))).mp hk

theorem key_inj {t : Table} (hk : Keys t) {a b : Entry} (ha : a ∈ t) (hb : b ∈ t) (h : a.1 = b.1) : a = b :=
  Registry.nodup_map_inj hk ha hb h

theorem has_eq_true {t : Table} {p : Str} : has t p = true ↔ p ∈ t.map (·.1) := by
  simp [has, List.any_eq_true]

theorem has_perm {t t' : Table} (h : t.Perm t') (p : Str) : has t p = has t' p := by
  rw [Bool.eq_iff_iff, has_eq_true, has_eq_true]
  exact (h.map (·.1)).mem_iff

theorem exact_eq_some {t : Table} (hk : Keys t) {path : Str} {e : Entry} :
    exact t path = some e ↔ e ∈ t ∧ e.1 = path := by
  unfold exact
  refine ⟨fun h => ⟨List.mem_of_find?_eq_some h, by simpa using List.find?_some h⟩, fun ⟨he, hp⟩ => ?_⟩
  cases hx : t.find? (·.1 == path) with
  | none => simpa [hp] using List.find?_eq_none.mp hx e he
  | some x => rw [key_inj hk (List.mem_of_find?_eq_some hx) he ((by simpa using List.find?_some hx : x.1 = path).trans hp.symm)]

theorem exact_perm {t t' : Table} (h : t.Perm t') (hk : Keys t) (path : Str) : exact t path = exact t' path :=
  Option.ext fun e => by rw [exact_eq_some hk, exact_eq_some (hk.perm h), h.mem_iff]

theorem pickMax_none {l : List Entry} (h : pickMax l = none) : l = [] := by
  cases l with
  | nil => rfl
  | cons e rest =>
    simp only [pickMax] at h
    split at h
    · cases h
    · split at h <;> cases h

theorem pickMax_some {l : List Entry} {b : Entry} (h : pickMax l = some b) :
    b ∈ l ∧ ∀ x ∈ l, x.1.length ≤ b.1.length := by
  induction l generalizing b with
  | nil => cases h
  | cons e rest ih =>
    simp only [pickMax] at h
    split at h
    · rename_i hr
      cases h
      simp [pickMax_none hr]
    · rename_i b' hr
      obtain ⟨hm, hmax⟩ := ih hr
      split at h <;> cases h
      · exact ⟨List.mem_cons_of_mem _ hm, List.forall_mem_cons.mpr ⟨Nat.le_of_lt ‹_›, hmax⟩⟩
      · exact ⟨List.mem_cons_self, List.forall_mem_cons.mpr
          ⟨Nat.le_refl _, fun x hx => Nat.le_trans (hmax x hx) (Nat.le_of_not_lt ‹_›)⟩⟩

theorem eligible_prefix {path : Str} {e : Entry} (h : eligible path e = true) : e.1 <+: path := by
  simp only [eligible, Bool.and_eq_true] at h
  exact List.isPrefixOf_iff_prefix.mp h.2

/-- the eligible entry of maximal pattern length; there is only one: two patterns of the same length
    that are prefixes of one path are equal -/
theorem longest_eq_some {t : Table} (hk : Keys t) {path : Str} {b : Entry} :
    longest t path = some b ↔
      b ∈ t ∧ eligible path b = true ∧ ∀ x ∈ t, eligible path x = true → x.1.length ≤ b.1.length := by
  unfold longest
  constructor
  · intro h
    obtain ⟨hm, hmax⟩ := pickMax_some h
    obtain ⟨hbt, hbe⟩ := List.mem_filter.mp hm
    exact ⟨hbt, hbe, fun x hx he => hmax x (List.mem_filter.mpr ⟨hx, he⟩)⟩
  · rintro ⟨hbt, hbe, hmax⟩
    have hb := List.mem_filter.mpr ⟨hbt, hbe⟩
    cases hx : pickMax (t.filter (eligible path)) with
    | none => rw [pickMax_none hx] at hb; cases hb
    | some b' =>
      obtain ⟨hm', hmax'⟩ := pickMax_some hx
      obtain ⟨hbt', hbe'⟩ := List.mem_filter.mp hm'
      have h1 := hmax b' hbt' hbe'
      have heq : b'.1 = b.1 :=
        (List.prefix_of_prefix_length_le (eligible_prefix hbe') (eligible_prefix hbe) h1).eq_of_length
          (Nat.le_antisymm h1 (hmax' b hb))
      rw [key_inj hk hbt' hbt heq]

theorem longest_perm {t t' : Table} (h : t.Perm t') (hk : Keys t) (path : Str) : longest t path = longest t' path :=
  Option.ext fun b => by
    rw [longest_eq_some hk, longest_eq_some (hk.perm h), h.mem_iff]
    exact and_congr_right fun _ => and_congr_right fun _ => forall_congr' fun x => by rw [h.mem_iff]

theorem lookup_perm {t t' : Table} (h : t.Perm t') (hk : Keys t) (method path : Str) :
    lookup t method path = lookup t' method path := by
  unfold lookup shouldRedirect handler
  simp only [has_perm h, exact_perm h hk, longest_perm h hk]

end Mux
end Restful
