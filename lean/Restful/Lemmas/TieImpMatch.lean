/-
`CurlyRouter.matchesRouteByPathTokens` (generated translation, Gen/Imp.lean) = `Curly.matchTokens`
(hand model) for all arguments.
-/
import Restful.Lemmas.TieImpCurlyTok
namespace Restful
namespace TieImp
open Imp

namespace T1
open ImpGen

theorem regular_tie (rx : Str → Str → Bool × GoErr) (full : Str → Str → Bool) (join : Str → Str → Str)
    (rt : Str) (colon : Nat) (q : Str) :
    CurlyRouter_regularMatchesPathToken (extOf rx join) rt (colon : Int) q
      = ofStep (Curly.regularMatches (envOf rx full) rt colon q) :=
  T2.regular_matches rx full join rt colon q

/-- outcome of one iteration of the model's loop (`Curly.walk` with the recursive call cut out) -/
inductive Outcome where
  | fail | panic
  | stop (p s : Nat)
  | next (p s : Nat)

/-- the part of an iteration after the custom-verb block -/
def walkInner (E : ReEnv) (rt' q' : Str) (p s : Nat) : Outcome :=
    if Str.hasPrefix ['{'] rt' then
      match Str.index ':' rt' with
      | some colon =>
        match Curly.regularMatches E rt' colon q' with
        | .fail => .fail
        | .panic => .panic
        | .stop => .stop (p + 1) s
        | .next => .next (p + 1) s
      | none =>
        match Str.index '}' rt' with
        | some e => if !Str.hasSuffix (rt'.drop (e + 1)) q' then .fail else .next (p + 1) s
        | none => .next (p + 1) s
    else if q' != rt' then .fail
    else .next p (s + 1)

def walkStep (E : ReEnv) (hasVerb : Bool) (rt q : Str) (p s : Nat) : Outcome :=
    if hasVerb && hasCustomVerb rt then
      if !isMatchCustomVerb rt q then .fail
      else walkInner E (removeCustomVerb rt) (removeCustomVerb q) p (s + 1)
    else walkInner E rt q p s

def Outcome.cont (k : Nat → Nat → Curly.MatchResult) : Outcome → Curly.MatchResult
  | .fail => .no
  | .panic => .panic
  | .stop p s => .yes p s
  | .next p s => k p s

theorem walk_cons (E : ReEnv) (hv : Bool) (rt q : Str) (rts qs : List Str) (p s : Nat) :
    Curly.walk E hv (rt :: rts) (q :: qs) p s
      = (walkStep E hv rt q p s).cont (fun p s => Curly.walk E hv rts qs p s) := by
  rw [Curly.walk]
  unfold walkStep
  -- once the custom-verb tests are decided, both sides run the tests of `walkInner` on the same tokens
  cases hv && hasCustomVerb rt
  case' true => cases isMatchCustomVerb rt q
  case true.false => rfl
  case' true.true => generalize removeCustomVerb rt = rt, removeCustomVerb q = q, s + 1 = s
  all_goals
    simp only [Bool.true_and, Bool.false_and, Bool.not_true, Bool.false_eq_true, if_false, if_true]
    unfold walkInner
    cases Str.hasPrefix ['{'] rt
    · cases q != rt <;> rfl
    · cases Str.index ':' rt with
      | some c => dsimp only; cases Curly.regularMatches E rt c q <;> rfl
      | none =>
        cases Str.index '}' rt with
        | none => rfl
        | some e => dsimp only; cases Str.hasSuffix (rt.drop (e + 1)) q <;> rfl

abbrev Res := Bool × Int × Int
abbrev St := Option Res × Int × Int

/-- what the code after the loop does with the final loop state -/
def fin : Option St → Option Res
  | none => none
  | some (some r, _, _) => some r
  | some (none, p, s) => some (true, p, s)

/-- one iteration of the translated loop body agrees with one iteration of the model (`walkStep`): the state is the
    early result with the two counts; a mismatch returns `(false, 0, 0)`, a tail wildcard breaks with the counts, a
    match goes on with them, a slice panic is `none`.  `loop_tie` carries this along the route tokens, the index `k`
    being how many request tokens are consumed (`hend`: the body's test `i == len(requestTokens)`) -/
def Rel : Option (ForInStep St) → Outcome → Prop
  | some (.done (some r, _, _)), .fail => r = (false, 0, 0)
  | some (.done (none, a, b)), .stop p s => a = (p : Int) ∧ b = (s : Int)
  | some (.yield (none, a, b)), .next p s => a = (p : Int) ∧ b = (s : Int)
  | none, .panic => True
  | _, _ => False

theorem loop_tie (E : ReEnv) (hv : Bool) (qs : List Str)
    (f : Int × Str → St → Option (ForInStep St))
    (hend : ∀ (rt : Str) (p s : Int), f ((qs.length : Int), rt) (none, p, s) = some (.done (some (false, 0, 0), p, s)))
    (hstep : ∀ (k : Nat) (rt q : Str) (p s : Nat), qs[k]? = some q →
      Rel (f ((k : Int), rt) (none, (p : Int), (s : Int))) (walkStep E hv rt q p s)) :
    ∀ (rts : List Str) (k p s : Nat), k ≤ qs.length →
      fin (forIn (enumFrom k rts) ((none, (p : Int), (s : Int)) : St) f)
        = ofMatch (Curly.walk E hv rts (qs.drop k) p s) := by
  intro rts
  induction rts with
  | nil => intro k p s _; simp [enumFrom, fin, Curly.walk, ofMatch]
  | cons rt rts ih =>
    intro k p s hk
    rw [enumFrom_cons, List.forIn_cons]
    by_cases hlt : k < qs.length
    · rw [List.drop_eq_getElem_cons hlt, walk_cons]
      have hs := hstep k rt qs[k] p s (by simp)
      generalize f ((k : Int), rt) (none, (p : Int), (s : Int)) = r at hs
      generalize walkStep E hv rt qs[k] p s = o at hs
      cases o with
      | fail =>
        match r, hs with
        | some (.done (some r, _, _)), hs => simp only [Rel] at hs; subst hs; rfl
      | panic =>
        match r, hs with
        | none, _ => rfl
      | stop p' s' =>
        match r, hs with
        | some (.done (none, a, b)), hs => simp only [Rel] at hs; obtain ⟨rfl, rfl⟩ := hs; rfl
      | next p' s' =>
        match r, hs with
        | some (.yield (none, a, b)), hs =>
          simp only [Rel] at hs; obtain ⟨rfl, rfl⟩ := hs
          exact ih (k + 1) p' s' (by omega)
    · have hk' : k = qs.length := by omega
      subst hk'
      rw [hend]
      simp [fin, Curly.walk, ofMatch]

theorem loop_tie0 (E : ReEnv) (hv : Bool) (qs rts : List Str)
    (f : Int × Str → St → Option (ForInStep St))
    (hend : ∀ (rt : Str) (p s : Int), f ((qs.length : Int), rt) (none, p, s) = some (.done (some (false, 0, 0), p, s)))
    (hstep : ∀ (k : Nat) (rt q : Str) (p s : Nat), qs[k]? = some q →
      Rel (f ((k : Int), rt) (none, (p : Int), (s : Int))) (walkStep E hv rt q p s)) :
    fin (forIn (enum rts) ((none, 0, 0) : St) f) = ofMatch (Curly.walk E hv rts qs 0 0) :=
  loop_tie E hv qs f hend hstep rts 0 0 0 (Nat.zero_le _)

theorem Rel_fail (a b : Int) : Rel (some (.done (some (false, 0, 0), a, b))) .fail := rfl
theorem Rel_stop (p s : Nat) (a b : Int) (ha : a = p) (hb : b = s) : Rel (some (.done (none, a, b))) (.stop p s) := ⟨ha, hb⟩
theorem Rel_next (p s : Nat) (a b : Int) (ha : a = p) (hb : b = s) : Rel (some (.yield (none, a, b))) (.next p s) := ⟨ha, hb⟩

end T1

section
open T1

/-- the part of the loop body after the custom-verb block, for the (possibly rewritten) tokens.
    No `generalize`/`cases h : e` on subterms of `if` conditions: `simp`'s `rfl`-rewrites leave stale
    `Decidable` instances behind, and abstracting would make the goal type-incorrect. -/
local macro "inner_tac" rx:term "," full:term "," join:term "," rt:term "," q:term : tactic => `(tactic| (
  unfold walkInner
  rcases Bool.eq_false_or_eq_true (Str.hasPrefix ['{'] $rt) with hpre | hpre
  · simp only [hpre, if_true, index_char]
    rcases Option.eq_none_or_eq_some (Str.index ':' $rt) with hc | ⟨c, hc⟩
    · have hc1 : ((-1 : Int) != -1) = false := rfl
      simp only [hc, hc1, Bool.false_eq_true, if_false]
      rcases Option.eq_none_or_eq_some (Str.index '}' $rt) with he | ⟨e, he⟩
      · simp only [he, hc1, Bool.not_false, if_true, Option.pure_def, Option.bind_some, Bool.false_eq_true, if_false]
        exact Rel_next _ _ _ _ (by omega) (by omega)
      · have he1 : ((e : Int) != -1) = true := by rw [bne_iff_ne]; omega
        have he2 : ((e : Int) + 1) = ((e + 1 : Nat) : Int) := by omega
        have he3 := index_lt he
        have he4 := sliceFrom_nat $rt (e + 1) (by omega)
        simp only [he, he1, Bool.not_true, Bool.false_eq_true, if_false, he2, he4, Option.pure_def, Option.bind_some]
        rcases Bool.eq_false_or_eq_true (Str.hasSuffix (List.drop (e + 1) $rt) $q) with hsuf | hsuf
        · simp only [hsuf, Bool.not_true, Bool.false_eq_true, if_false]
          exact Rel_next _ _ _ _ (by omega) (by omega)
        · simp only [hsuf, Bool.not_false, if_true]
          exact Rel_fail _ _
    · have hc1 : ((c : Int) != -1) = true := by rw [bne_iff_ne]; omega
      simp only [hc, hc1, if_true, regular_tie $rx $full $join]
      cases Curly.regularMatches (envOf $rx $full) $rt c $q
      · exact Rel_fail _ _
      · exact Rel_next _ _ _ _ (by omega) (by omega)
      · exact Rel_stop _ _ _ _ (by omega) (by omega)
      · trivial
  · -- static token
    simp only [hpre, Bool.false_eq_true, if_false]
    by_cases hqe : $q = $rt
    · have hqe' : ($q != $rt) = false := by rw [hqe]; exact bne_self_eq_false _
      simp only [hqe', Bool.false_eq_true, if_false]
      exact Rel_next _ _ _ _ (by omega) (by omega)
    · have hqe' : ($q != $rt) = true := by rw [bne_iff_ne]; exact hqe
      simp only [hqe', if_true]
      exact Rel_fail _ _))

theorem match_tokens (rx : Str → Str → Bool × GoErr) (full : Str → Str → Bool) (join : Str → Str → Str)
    (rts qs : List Str) (hv : Bool) :
    ImpGen.CurlyRouter_matchesRouteByPathTokens (extOf rx join) rts qs hv
      = ofMatch (Curly.matchTokens (envOf rx full) rts qs hv) := by
  unfold ImpGen.CurlyRouter_matchesRouteByPathTokens Curly.matchTokens
  dsimp only
  rw [jp_eq fin rfl, loop_tie0 (envOf rx full) hv qs rts]
  case hpost => intro st; rcases st with ⟨_ | _, _, _⟩ <;> rfl
  case hend => 
    intro rt p s
    simp [len]
  case hstep =>
    intro k rt q p s hq
    have hk : k < qs.length := lt_of_getElem?_eq_some hq
    have hne : ((k : Int) == len qs) = false := by
      rw [beq_eq_false_iff_ne]; unfold len; omega
    have e1 : ":".toList = [':'] := rfl
    have e2 : "{".toList = ['{'] := rfl
    have e3 : "}".toList = ['}'] := rfl
    have x1 : (extOf rx join).hasCustomVerb = hasCustomVerb := rfl
    have x2 : (extOf rx join).isMatchCustomVerb = isMatchCustomVerb := rfl
    have x3 : (extOf rx join).removeCustomVerb = removeCustomVerb := rfl
    simp only [hne, at?_nat, hq, e1, e2, e3, x1, x2, x3, Bool.false_eq_true, if_false, Option.bind_eq_bind, Option.bind_some]
    unfold walkStep
    rcases Bool.eq_false_or_eq_true (hv && hasCustomVerb rt) with hverb | hverb
    · simp only [hverb, if_true]
      rcases Bool.eq_false_or_eq_true (isMatchCustomVerb rt q) with hm | hm
      · simp only [hm, Bool.not_true, Bool.false_eq_true, if_false]
        inner_tac rx, full, join, (removeCustomVerb rt), (removeCustomVerb q)
      · simp only [hm, Bool.not_false, if_true]
        exact Rel_fail _ _
    · simp only [hverb, Bool.false_eq_true, if_false]
      inner_tac rx, full, join, rt, q
  -- the length pre-check: whatever the order and nesting of the tests (`len(rts) < len(qs)`, `count == 0`, the last
  -- token), the route tokens are `[]` or `init ++ [l]`; in both cases every test evaluates and the rest is a case split
  generalize Curly.walk (envOf rx full) hv rts qs 0 0 = w
  have hlen : (len rts < len qs) ↔ rts.length < qs.length := by unfold len; omega
  have hlen' : (len qs > len rts) ↔ rts.length < qs.length := by unfold len; omega
  unfold Curly.lastIsStar
  rcases List.eq_nil_or_concat rts with rfl | ⟨init, l, rfl⟩
  · have hz : (len ([] : List Str) == 0) = true := rfl
    have hz' : ((0 : Int) == len ([] : List Str)) = true := rfl
    by_cases hd : ([] : List Str).length < qs.length <;>
      simp [hlen, hlen', hz, hz'] <;> simp_all [ofMatch, -Nat.not_lt]
  · rw [List.concat_eq_append] at *
    have hz : (len (init ++ [l]) == 0) = false := by
      rw [beq_eq_false_iff_ne]; unfold len; simp; omega
    have hz' : ((0 : Int) == len (init ++ [l])) = false := by
      rw [beq_eq_false_iff_ne]; unfold len; simp; omega
    have hat : at? (init ++ [l]) (len (init ++ [l]) - 1) = some l := by
      unfold at? len; simp
    by_cases hd : (init ++ [l]).length < qs.length <;> cases hw : Curly.isTailWildcard l <;>
      simp [hlen, hlen', hz, hz', hat, hw, T2.is_tail_wildcard] <;> simp_all [ofMatch, -Nat.not_lt]


end

#print axioms match_tokens

end TieImp
end Restful
