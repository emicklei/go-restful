/- container.go `Container.addHandler` = `Registry.addHandler` (`ServeMux.HandleFunc` as the model's `Mux.register`);
   web_service.go `WebService.RemoveRoute` = `Svc.dropRoute`. -/
import Restful.Lemmas.TieImpVocab
import Restful.Lemmas.TieImpPrefix
import Restful.Model.Registry
namespace Restful
namespace TieImp
open Imp
set_option linter.unusedSimpArgs false  -- see TieImpTactic

namespace T14

theorem hadd_eq (a b : Str) : a + b = a ++ b := str_add a b


theorem mem_setAdd (s : List Str) (a k : Str) : k ∈ setAdd s a ↔ k ∈ s ∨ k = a := by
  unfold setAdd
  split
  · rename_i h
    have : a ∈ s := by simpa using h
    constructor
    · exact Or.inl
    · rintro (h | rfl) <;> assumption
  · simp

/-- one iteration of the loop building `mapped` (container.go:126-132) -/
def mappedStep (acc : List Str) (root : Str) : List Str :=
  if Str.hasSuffix ['/'] (Registry.fixedPrefixPath root) then setAdd acc (Registry.fixedPrefixPath root)
  else setAdd (setAdd acc (Registry.fixedPrefixPath root)) (Registry.fixedPrefixPath root ++ ['/'])

/-- the Go set `mapped` after the loop -/
def mappedSet (registered : List Registry.Svc) (acc : List Str) : List Str :=
  registered.foldl (fun acc r => mappedStep acc r.root) acc

/-- the loop building the set `mapped` never panics -/
theorem mapped_loop (g : Registry.Svc → ImpGen.GoWebService)
    (f : Option ImpGen.GoWebService → List Str → Option (ForInStep (List Str)))
    (registered : List Registry.Svc) (acc : List Str)
    (hf : ∀ r acc, f (some (g r)) acc = some (.yield (mappedStep acc r.root))) :
    forIn (registered.map fun r => some (g r)) acc f = some (mappedSet registered acc) := by
  rw [List.forIn_map]
  exact fold_loop id (fun acc r => mappedStep acc r.root) _ hf registered acc

theorem mem_mappedSet (registered : List Registry.Svc) (acc : List Str) (k : Str) :
    k ∈ mappedSet registered acc ↔ k ∈ acc ∨ k ∈ Registry.mapped registered := by
  induction registered generalizing acc with
  | nil => simp [mappedSet, Registry.mapped]
  | cons r rs ih =>
    show k ∈ mappedSet rs (mappedStep acc r.root) ↔ _
    rw [ih]
    simp only [Registry.mapped, List.flatMap_cons, List.mem_append, Registry.mappedOf, mappedStep]
    split <;> simp [mem_setAdd, or_assoc]

theorem contains_mappedSet (registered : List Registry.Svc) (k : Str) :
    (mappedSet registered []).contains k = (Registry.mapped registered).contains k := by
  rw [Bool.eq_iff_iff]
  simpa using mem_mappedSet registered [] k

end T14

/-- a ServeMux table of the model as the log of registered patterns -/
def muxRepr (t : Mux.Table) : MuxLog := t.map (·.1)

/-- container.go `Container.addHandler` (the pattern bookkeeping repaired by 093fa53): which of the two
    ServeMux patterns of a WebService are registered, given the services registered on this ServeMux
    before — as translated on this run IS the model's `Registry.addHandler`.  `ServeMux.HandleFunc` is
    uninterpreted in the translation; the hypothesis says it behaves like the model's `Mux.register`
    (net/http panics on an empty or already registered pattern) -/
theorem add_handler (X : ImpGen.Ext)
    (hmux : ∀ (t : Mux.Table) (p : Str), X.mux_HandleFunc (muxRepr t) p =
      (match Mux.register t p .dispatch with
       | .ok t' => some (muxRepr t')
       | .error _ => none))
    (g : Registry.Svc → ImpGen.GoWebService) (hg : ∀ s, (g s).rootPath = s.root)
    (c : Option ImpGen.GoContainer) (registered : List Registry.Svc) (s : Registry.Svc) (t : Mux.Table) :
    ImpGen.Container_addHandler X c (some (g s)) (muxRepr t) (registered.map (fun r => some (g r)))
      = (match Registry.addHandler registered s t with
         | .ok (t', b) => some (b, muxRepr t')
         | .error _ => none) := by
  unfold ImpGen.Container_addHandler Registry.addHandler
  dsimp only
  simp only [deref, Option.bind_eq_bind, Option.bind_some, T2.fixed_prefix_path, hg, String.reduceToList, T14.hadd_eq]
  generalize Registry.fixedPrefixPath s.root = pattern
  -- the test "is this the root pattern" in whatever form the code writes it (`"/" == pattern || "" == pattern`,
  -- a `switch pattern { case "/", "": … }`, the operands swapped) is normalised to the model's proposition
  have e1 : (['/'] = pattern) = (pattern = ['/']) := propext eq_comm
  have e2 : ([] = pattern) = (pattern = []) := propext eq_comm
  simp only [beq_iff_eq, Bool.or_eq_true, e1, e2]
  by_cases hroot : pattern = ['/'] ∨ pattern = []
  · simp only [if_pos hroot, hmux]
    unfold Registry.reg
    cases Mux.register t ['/'] .dispatch <;> rfl
  · simp only [if_neg hroot]
    rw [T14.mapped_loop g]
    case hf =>
      intro r acc
      simp only [Option.bind_some, hg, T14.mappedStep]
      cases Str.hasSuffix ['/'] (Registry.fixedPrefixPath r.root) <;> rfl
    simp only [Option.bind_some, T14.contains_mappedSet, hmux]
    unfold Registry.reg
    generalize (Registry.mapped registered).contains pattern = b1
    generalize (!Str.hasSuffix ['/'] pattern && !(Registry.mapped registered).contains (pattern ++ ['/'])) = b2
    cases b1 <;> cases b2 <;> simp only [Bool.not_true, Bool.not_false, if_true, if_false, Bool.false_eq_true]
    · cases Mux.register t pattern .dispatch <;> rfl
    · cases Mux.register t pattern .dispatch with
      | error e => rfl
      | ok t' =>
        simp only [Option.bind_some, hmux]
        cases Mux.register t' (pattern ++ ['/']) .dispatch <;> rfl
    · rfl
    · cases Mux.register t (pattern ++ ['/']) .dispatch <;> rfl

/-- web_service.go `WebService.RemoveRoute`: refused (an error, nothing changed) unless dynamic routes are
    enabled; otherwise exactly the routes with that method AND that full path are dropped, the others keep
    their order — as translated on this run IS the model's `Svc.dropRoute` -/
theorem remove_route (X : ImpGen.Ext) (s : Registry.Svc) (gr : RouteDecl → ImpGen.GoRoute)
    (hgr : ∀ r, (gr r).Method = r.method ∧ (gr r).Path = concatPath s.svc.rootPath r.relPath)
    (w0 : ImpGen.GoWebService) (path method : Str) :
    (ImpGen.WebService_RemoveRoute X (some { w0 with routes := s.svc.routes.map gr, dynamicRoutes := s.dynamic }) path method).map
        (fun p => (p.1.isSome, p.2.map (·.routes)))
      = some (!s.dynamic, some ((s.dropRoute path method).svc.routes.map gr)) := by
  unfold ImpGen.WebService_RemoveRoute Registry.Svc.dropRoute
  dsimp only
  cases hd : s.dynamic
  · simp only [deref, Option.bind_eq_bind, Option.bind_some, Bool.not_false, if_true, Option.pure_def,
      Option.map_some, Option.isSome_some]
  · simp only [deref, Option.bind_eq_bind, Option.bind_some, Bool.not_true, Bool.false_eq_true, if_false]
    rw [filter_loop gr (fun r => !(r.method == method && concatPath s.svc.rootPath r.relPath == path))]
    · simp
    · intro r acc
      simp only [(hgr r).1, (hgr r).2, bne]
      cases (r.method == method) <;> cases (concatPath s.svc.rootPath r.relPath == path) <;> rfl

end TieImp
end Restful
