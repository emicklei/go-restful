/- curly.go `CurlyRouter.SelectRoute` and jsr311.go `RouterJSR311.SelectRoute`, each with everything it calls, = the
   selection part of `routeCurly` / `routeJsr` (`selCurly`, `selJsr`), `sort.Sort` being insertion sort with the
   translated `Less`. -/
import Restful.Lemmas.TieImpVocab
import Restful.Lemmas.TieImpDetect
import Restful.Lemmas.TieImpDetectG
import Restful.Lemmas.TieImpCurlySel
import Restful.Lemmas.TieImpJsrSel
import Restful.Lemmas.TieImpPath
import Restful.Model.Route
namespace Restful
namespace TieImp
open Imp

/-- what `SelectRoute` decides, before the path parameters are extracted: the service (if one was
    detected) and the verdict of `detectRoute`; `.error tag` = a run-time panic (the tag `routeCurly` /
    `routeJsr` report) -/
abbrev Sel := Except String (Option Service × Except (Nat × Option (List Str)) Route)

/-- the selection part of `routeCurly` (Model/Route.lean), verbatim -/
def selCurly (E : ReEnv) (cfg : Config) (req : Req) : Sel :=
  let qs := tokenize req.path
  match Curly.detectWebService E qs cfg.services none with
  | none => .error "curly.score"
  | some none => .ok (none, .error (404, none))
  | some (some (svc, _)) =>
    match Curly.selectRoutes E svc.built qs with
    | none => .error "curly.match"
    | some [] => .ok (some svc, .error (404, none))
    | some cands => .ok (some svc, detectRoute cands req)

/-- the selection part of `routeJsr`, verbatim -/
def selJsr (E : ReEnv) (cfg : Config) (req : Req) : Sel :=
  match Jsr.detectDispatcher E cfg.services req.path with
  | none => .error "jsr.compile"
  | some none => .ok (none, .error (404, none))
  | some (some (svc, final)) =>
    match Jsr.selectRoutes E svc.built final with
    | none => .error "jsr.compile"
    | some [] => .ok (some svc, .error (404, none))
    | some cands => .ok (some svc, detectRoute cands req)

/-- `routeCurly` IS `selCurly` followed by the extraction of the path parameters -/
theorem routeCurly_eq_sel (E : ReEnv) (cfg : Config) (req : Req) :
    (routeCurly E cfg req).1 =
      (match selCurly E cfg req with
       | .error tag => .panic tag
       | .ok (_, .error (c, a)) => .error c a
       | .ok (_, .ok r) =>
         match Params.extract r req.path with
         | none => .panic "params"
         | some ps => .selected r.svc r.id ps) := by
  unfold routeCurly selCurly
  dsimp only
  cases Curly.detectWebService E (tokenize req.path) cfg.services none with
  | none => rfl
  | some o =>
    cases o with
    | none => rfl
    | some p =>
      obtain ⟨svc, sc⟩ := p
      dsimp only
      cases Curly.selectRoutes E svc.built (tokenize req.path) with
      | none => rfl
      | some cands =>
        cases cands with
        | nil => rfl
        | cons c cs =>
          dsimp only
          cases detectRoute (c :: cs) req with
          | error e => obtain ⟨a, b⟩ := e; rfl
          | ok r =>
            dsimp only
            cases Params.extract r req.path <;> rfl

/-- a service of the model as CurlyRouter reads it -/
def genSvcC (req : Req) (s : Service) : ImpGen.GoWebService :=
  { rootPath := s.rootPath,
    pathExpr := some { LiteralCount := 0, VarNames := [], VarCount := 0, Matcher := fun _ => [], tokens := tokenize s.rootPath },
    routes := s.built.map (genRoute req) }

def genCandC (req : Req) (c : Curly.Cand) : ImpGen.GoCurlyRoute :=
  { route := genRoute req c.route, paramCount := ((c.paramCount : Nat) : Int), staticCount := ((c.staticCount : Nat) : Int) }

/-- the view of `SelectRoute`'s three results that callers use: the service, the route, status code and
    headers of the error -/
def selView (gs : Service → ImpGen.GoWebService) (gr : Route → ImpGen.GoRoute) : Sel →
    Option (Option ImpGen.GoWebService × Option ImpGen.GoRoute × Option (Int × List (Str × List Str)))
  | .error _ => none
  | .ok (svc?, .ok r) => some (svc?.map gs, some (gr r), none)
  | .ok (svc?, .error (c, allow)) =>
    some (svc?.map gs, none, some (((c : Nat) : Int),
      match allow with
      | some ms => [("Allow".toList, [Str.join ", ".toList ms])]
      | none => []))

namespace T12

/-- curly_route.go `sortableCurlyRoutes.routes` is `map (·.route)` -/
theorem curly_routes (X : ImpGen.Ext) (s : List ImpGen.GoCurlyRoute) :
    ImpGen.sortableCurlyRoutes_routes X s = some (s.map (·.route)) := by
  unfold ImpGen.sortableCurlyRoutes_routes
  have key : ∀ (l : List ImpGen.GoCurlyRoute) (acc : List ImpGen.GoRoute)
      (f : ImpGen.GoCurlyRoute → List ImpGen.GoRoute → Option (ForInStep (List ImpGen.GoRoute))),
      (∀ e acc, f e acc = some (.yield (push acc e.route))) →
      forIn l acc f = some (acc ++ l.map (·.route)) := by
    intro l
    induction l with
    | nil => intro acc f _; simp
    | cons e l ih =>
      intro acc f hf
      rw [List.forIn_cons, hf]
      simp only [Option.bind_eq_bind, Option.bind_some]
      rw [ih _ f hf]
      simp [push]
  dsimp only
  rw [key s [] _ ?hf]
  case hf => intro _ _; rfl
  rfl

/-- the end of both `SelectRoute`s: the result of `detectRoute` handed on with the service -/
theorem glue_tail (g : Route → ImpGen.GoRoute) (gs : Service → ImpGen.GoWebService) (svc : Service)
    (d : Except (Nat × Option (List Str)) Route) (o : Option (Option ImpGen.GoRoute × GoErr))
    (k : Option ImpGen.GoRoute × GoErr → Option (Option ImpGen.GoWebService × Option ImpGen.GoRoute × GoErr))
    (hd : o.map (fun p => (p.1, errView p.2)) = some (ofDetectG g d))
    (hk : ∀ x, (x.1.isSome = true → errView x.2 = none) → (k x).map (fun p => (p.1, p.2.1, errView p.2.2))
       = some (some (gs svc), x.1, errView x.2)) :
    (o.bind k).map (fun p => (p.1, p.2.1, errView p.2.2))
      = selView gs g (.ok (some svc, d)) := by
  cases o with
  | none => simp at hd
  | some x =>
    obtain ⟨sel, err⟩ := x
    simp only [Option.map_some, Option.some.injEq] at hd
    rw [Option.bind_some]
    cases d with
    | ok r =>
      simp only [ofDetectG, Prod.mk.injEq] at hd
      obtain ⟨h1, h2⟩ := hd
      subst h1
      rw [hk _ (fun _ => h2), h2]
      rfl
    | error e =>
      obtain ⟨c, allow⟩ := e
      simp only [ofDetectG, Prod.mk.injEq] at hd
      obtain ⟨h1, h2⟩ := hd
      subst h1
      rw [hk _ (fun h => by simp at h), h2]
      cases allow <;> rfl

/-- the straight-line part of `CurlyRouter.SelectRoute`, given what its calls return -/
theorem curly_glue (X : ImpGen.Ext) (E : ReEnv) (cfg : Config) (req : Req)
    (htok : ImpGen.tokenizePath X req.path = some (tokenize req.path))
    (hdw : ImpGen.CurlyRouter_detectWebService X (tokenize req.path) (cfg.services.map (fun s => some (genSvcC req s)))
      = (Curly.detectWebService E (tokenize req.path) cfg.services none).map (fun o => o.map (fun p => genSvcC req p.1)))
    (hsr : ∀ svc : Service, ImpGen.CurlyRouter_selectRoutes X (some (genSvcC req svc)) (tokenize req.path)
      = (Curly.candidates E svc.built (tokenize req.path)).map (fun cs =>
          (Sort.insertionSort Curly.candLess cs).map (genCandC req))) :
    (ImpGen.CurlyRouter_SelectRoute X (cfg.services.map (fun s => some (genSvcC req s))) (genReq req)).map
        (fun p => (p.1, p.2.1, errView p.2.2))
      = selView (genSvcC req) (genRoute req) (selCurly E cfg req) := by
  unfold ImpGen.CurlyRouter_SelectRoute selCurly
  have hpath : (genReq req).path = req.path := rfl
  dsimp only
  rw [hpath, htok]
  simp only [Option.bind_eq_bind, Option.bind_some]
  rw [hdw]
  cases Curly.detectWebService E (tokenize req.path) cfg.services none with
  | none => rfl
  | some o =>
    cases o with
    | none => rfl
    | some p =>
      obtain ⟨svc, sc⟩ := p
      simp only [Option.map_some, Option.bind_some, Option.isNone_some, Bool.false_eq_true, if_false]
      rw [hsr, Curly.selectRoutes]
      cases Curly.candidates E svc.built (tokenize req.path) with
      | none => rfl
      | some cs =>
        simp only [Option.map_some, Option.bind_some]
        generalize Sort.insertionSort Curly.candLess cs = l
        cases l with
        | nil => rfl
        | cons c l =>
          have hlen : (len (List.map (genCandC req) (c :: l)) == 0) = false := by
            rw [beq_eq_false_iff_ne]; simp [len]; omega
          simp only [hlen, Bool.false_eq_true, if_false]
          unfold ImpGen.CurlyRouter_detectRoute
          simp only [curly_routes, Option.bind_eq_bind, Option.bind_some, Option.pure_def]
          have hmap : List.map (fun x => x.route) (List.map (genCandC req) (c :: l))
              = List.map (genRoute req) (List.map (·.route) (c :: l)) := by
            simp [genCandC]
          rw [hmap]
          have hd := detect_route X (List.map (·.route) (c :: l)) req
          rw [ofDetect_eq] at hd
          rw [show (match some (List.map (·.route) (c :: l)) with
                | none => (Except.error "curly.match" : Sel)
                | some [] => Except.ok (some svc, Except.error (404, none))
                | some cands => Except.ok (some svc, detectRoute cands req))
              = Except.ok (some svc, detectRoute (List.map (·.route) (c :: l)) req) from rfl]
          generalize detectRoute (List.map (·.route) (c :: l)) req = d at hd ⊢
          generalize ImpGen.RouterJSR311_detectRoute X _ (genReq req) = o at hd ⊢
          refine glue_tail (genRoute req) _ svc d o _ hd ?_
          intro x hx
          obtain ⟨sel, err⟩ := x
          cases sel with
          | none => rfl
          | some r =>
            have := hx rfl
            simp only [Option.isNone_some, Bool.false_eq_true, if_false, Option.map_some, this]
            rfl

end T12

/-- curly.go `CurlyRouter.SelectRoute` with everything it calls, as translated on this run, IS the
    selection part of the model's `routeCurly`; `sort.Sort` is Go's insertion sort with the translated
    `Less` (`hsrt`; `Tie.curly_less`, `Tie.sort_call_sites`) -/
theorem curly_select_route (rx : Str → Str → Bool × GoErr) (full : Str → Str → Bool) (join : Str → Str → Str)
    (srt : List ImpGen.GoCurlyRoute → List ImpGen.GoCurlyRoute) (cfg : Config) (req : Req)
    (hsrt : ∀ cs : List Curly.Cand, srt (cs.map (genCandC req)) = (Sort.insertionSort Curly.candLess cs).map (genCandC req)) :
    (ImpGen.CurlyRouter_SelectRoute { extOf rx join with sort_Sort_sortableCurlyRoutes := srt }
        (cfg.services.map (fun s => some (genSvcC req s))) (genReq req)).map (fun p => (p.1, p.2.1, errView p.2.2))
      = selView (genSvcC req) (genRoute req) (selCurly (envOf rx full) cfg req) := by
  have htok := T2.tokenize_path { extOf rx join with sort_Sort_sortableCurlyRoutes := srt } rfl req.path
  have hdw : ImpGen.CurlyRouter_detectWebService { extOf rx join with sort_Sort_sortableCurlyRoutes := srt }
        (tokenize req.path) (cfg.services.map (fun s => some (genSvcC req s)))
      = (Curly.detectWebService (envOf rx full) (tokenize req.path) cfg.services none).map
          (fun o => o.map (fun p => genSvcC req p.1)) :=
    (rfl : _ = ImpGen.CurlyRouter_detectWebService (extOf rx join) _ _).trans
      (detect_web_service rx full join (genSvcC req) (fun s => ⟨_, rfl, rfl⟩) _ _)
  refine T12.curly_glue _ _ cfg req htok hdw ?_
  intro svc
  refine (select_routes rx full join srt (genRoute req) (fun r => ⟨rfl, rfl⟩) (genSvcC req svc) _ svc.built _).trans ?_
  cases Curly.candidates (envOf rx full) svc.built (tokenize req.path) with
  | none => rfl
  | some cs => exact congrArg some (hsrt cs)

/-- a built route of the model as RouterJSR311 reads it: the fields `genRoute` gives, with the compiled
    expression of its relative path -/
def mkJ (req : Req) (r : Route) (pe : Option ImpGen.GoPathExpression) : ImpGen.GoRoute := { genRoute req r with pathExpr := pe }

def routesOfJ (E : ReEnv) (req : Req) (s : Service) : List ImpGen.GoRoute := s.built.map (genRouteJ E (mkJ req))

/-- jsr311.go `RouterJSR311.SelectRoute` with everything it calls, as translated on this run, IS the
    selection part of the model's `routeJsr`; the two `sort.Sort(sort.Reverse(…))` calls are Go's insertion
    sort with the translated `Less` functions (`hsR`, `hsD`; `Tie.jsr_route_less`, `Tie.jsr_dispatcher_less`) and
    permute (`hpR`, `hpD`) -/
theorem jsr_select_route (E : ReEnv) (X : ImpGen.Ext) (cfg : Config) (req : Req)
    (hpR : ∀ x, (X.sort_SortReverse_sortableRouteCandidates x).candidates.Perm x.candidates)
    (hpD : ∀ x, (X.sort_SortReverse_sortableDispatcherCandidates x).candidates.Perm x.candidates)
    (hsR : ∀ cs : List Jsr.RouteCand,
      (X.sort_SortReverse_sortableRouteCandidates { candidates := cs.map (genRouteCand E (mkJ req)) }).candidates
        = (Sort.insertionSort Jsr.routeCandLess cs).map (genRouteCand E (mkJ req)))
    (hsD : ∀ cs : List Jsr.DispCand,
      (X.sort_SortReverse_sortableDispatcherCandidates { candidates := cs.map (genDispCand E (routesOfJ E req)) }).candidates
        = (Sort.insertionSort Jsr.dispCandLess cs).map (genDispCand E (routesOfJ E req))) :
    (ImpGen.RouterJSR311_SelectRoute X (cfg.services.map (fun s => some (genSvcJ E (routesOfJ E req) s))) (genReq req)).map
        (fun p => (p.1, p.2.1, errView p.2.2))
      = selView (genSvcJ E (routesOfJ E req)) (genRouteJ E (mkJ req)) (selJsr E cfg req) := by
  have hdd := jsr_detect_dispatcher E X (routesOfJ E req) hpD cfg.services req.path
  have hsr := fun (svc : Service) (final : Str) =>
    jsr_select_routes E X (mkJ req) (fun _ _ => rfl) hpR (genSvcJ E (routesOfJ E req) svc) (genPE E svc.rootPath) svc.built final
  have hpath : (genReq req).path = req.path := rfl
  unfold ImpGen.RouterJSR311_SelectRoute selJsr Jsr.detectDispatcher
  dsimp only
  rw [hpath]
  generalize ImpGen.RouterJSR311_detectDispatcher X req.path _ = o at hdd ⊢
  generalize Jsr.dispCandidates E cfg.services req.path = dcs at hdd ⊢
  cases dcs with
  | none =>
    cases o with
    | none => rfl
    | some x => simp at hdd
  | some ds =>
    cases o with
    | none => simp at hdd
    | some x =>
      obtain ⟨disp, fin, err⟩ := x
      simp only [Option.map_some, Option.some.injEq, hsD] at hdd
      simp only [Option.map_some, Option.bind_eq_bind, Option.bind_some]
      generalize Sort.insertionSort Jsr.dispCandLess ds = dl at hdd ⊢
      cases dl with
      | nil =>
        simp only [List.map_nil, dispView, Prod.mk.injEq] at hdd
        obtain ⟨h1, h2, h3⟩ := hdd
        simp only [h3, if_true]
        rfl
      | cons dc dl =>
        simp only [List.map_cons, dispView, Prod.mk.injEq] at hdd
        obtain ⟨h1, h2, h3⟩ := hdd
        subst h1 h2
        simp only [h3, Bool.false_eq_true, if_false]
        have hdisp : (genDispCand E (routesOfJ E req) dc).dispatcher = some (genSvcJ E (routesOfJ E req) dc.svc) := rfl
        have hfin : (genDispCand E (routesOfJ E req) dc).finalMatch = dc.finalMatch := rfl
        rw [hdisp, hfin]
        obtain ⟨svc, final, _, _, _⟩ := dc
        dsimp only
        have hsr' := hsr svc final
        rw [show (some { genSvcJ E (routesOfJ E req) svc with pathExpr := genPE E svc.rootPath, routes := List.map (genRouteJ E (mkJ req)) svc.built }
              : Option ImpGen.GoWebService) = some (genSvcJ E (routesOfJ E req) svc) from rfl] at hsr'
        rw [hsr', Jsr.selectRoutes]
        cases Jsr.routeCandidates E svc.built final with
        | none => rfl
        | some cs =>
          simp only [Option.map_some, Option.bind_some, hsR]
          generalize Sort.insertionSort Jsr.routeCandLess cs = l
          cases l with
          | nil => rfl
          | cons c l =>
            have hmap : List.map (fun x => x.route) (List.map (genRouteCand E (mkJ req)) (c :: l))
                = List.map (genRouteJ E (mkJ req)) (List.map (·.route) (c :: l)) := by
              simp [genRouteCand]
            rw [hmap]
            have hlen : (len (List.map (genRouteJ E (mkJ req)) (List.map (·.route) (c :: l))) == 0) = false := by
              rw [beq_eq_false_iff_ne]; simp [len]; omega
            simp only [hlen, Bool.false_eq_true, if_false]
            have hd := detect_route_g X req (genRouteJ E (mkJ req))
              ⟨fun _ => rfl, fun _ => rfl, fun _ => rfl, fun _ => rfl, fun _ => rfl⟩ (List.map (·.route) (c :: l))
            rw [show (match some (List.map (·.route) (c :: l)) with
                  | none => (Except.error "jsr.compile" : Sel)
                  | some [] => Except.ok (some svc, Except.error (404, none))
                  | some cands => Except.ok (some svc, detectRoute cands req))
                = Except.ok (some svc, detectRoute (List.map (·.route) (c :: l)) req) from rfl]
            generalize detectRoute (List.map (·.route) (c :: l)) req = d at hd ⊢
            generalize ImpGen.RouterJSR311_detectRoute X _ (genReq req) = o at hd ⊢
            refine T12.glue_tail (genRouteJ E (mkJ req)) _ svc d o _ hd ?_
            intro x _
            rfl

end TieImp
end Restful

#print axioms Restful.TieImp.routeCurly_eq_sel
#print axioms Restful.TieImp.curly_select_route
#print axioms Restful.TieImp.jsr_select_route
