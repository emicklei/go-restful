/-
The translated decision functions (Gen/Translated.lean, regenerated from the Go sources by tools/gotrans on
every run) ARE the model's definitions, for all arguments: a change to one of these Go functions changes
the generated definition and breaks its theorem here at compile time.  This file: the three orderings and
the sort call sites (C03, C18).
-/
import Restful.Gen.Translated
import Restful.Model.Curly
import Restful.Model.Jsr
namespace Restful
namespace Tie
open Translated

/-- Comparison functions are compared one pair of keys at a time, most significant first.  Whichever way
    the pair is ordered, the case comes with every fact a test on it may ask for (`<`, `>`, `==`, `!=`), so
    that `simp` evaluates all tests on the pair however the cascade is written; only equal keys leave
    something to compare. -/
theorem byKey (a b : Nat) {p q : Bool}
    (hlt : a < b ∧ ¬ b < a ∧ (a : Int) ≠ b ∧ (b : Int) ≠ a → p = q)
    (hgt : b < a ∧ ¬ a < b ∧ (a : Int) ≠ b ∧ (b : Int) ≠ a → p = q)
    (heq : a = b → p = q) : p = q := by
  rcases Nat.lt_trichotomy a b with h | h | h
  · exact hlt ⟨h, by omega, by omega, by omega⟩
  · exact heq h
  · exact hgt ⟨h, by omega, by omega, by omega⟩

/-- curly_route.go `sortableCurlyRoutes.Less(i, j)` with `x = s[i]`, `y = s[j]` is `Curly.candLess x y` -/
theorem curly_less (x y : Curly.Cand) :
    sortableCurlyRoutes_Less y.staticCount x.staticCount y.paramCount x.paramCount y.route.path x.route.path
      = Curly.candLess x y := by
  unfold sortableCurlyRoutes_Less Curly.candLess
  refine byKey y.staticCount x.staticCount (fun h => by simp [h])
    (fun h => by simp [h]) fun h₁ => ?_
  refine byKey y.paramCount x.paramCount (fun h => by simp [h₁, h])
    (fun h => by simp [h₁, h]) fun h₂ => ?_
  simp [h₁, h₂]

/-- jsr311.go `sortableRouteCandidates.Less` under `sort.Reverse` (`Less(i, j) = orig.Less(j, i)`):
    with `x` at `i` and `y` at `j` the original is called with `ci = y`, `cj = x` -/
theorem jsr_route_less (x y : Jsr.RouteCand) :
    sortableRouteCandidates_Less y.literalCount x.literalCount y.matchesCount x.matchesCount
      y.nonDefaultCount x.nonDefaultCount y.route.path x.route.path = Jsr.routeCandLess x y := by
  unfold sortableRouteCandidates_Less Jsr.routeCandLess
  refine byKey y.literalCount x.literalCount (fun h => by simp [h])
    (fun h => by simp [h]) fun h₁ => ?_
  refine byKey y.matchesCount x.matchesCount (fun h => by simp [h₁, h])
    (fun h => by simp [h₁, h]) fun h₂ => ?_
  refine byKey y.nonDefaultCount x.nonDefaultCount (fun h => by simp [h₁, h₂, h])
    (fun h => by simp [h₁, h₂, h]) fun h₃ => ?_
  simp [h₁, h₂, h₃]

/-- jsr311.go `sortableDispatcherCandidates.Less` under `sort.Reverse` -/
theorem jsr_dispatcher_less (x y : Jsr.DispCand) :
    sortableDispatcherCandidates_Less y.matchesCount x.matchesCount y.literalCount x.literalCount
      y.nonDefaultCount x.nonDefaultCount = Jsr.dispCandLess x y := by
  unfold sortableDispatcherCandidates_Less Jsr.dispCandLess
  refine byKey y.matchesCount x.matchesCount (fun h => by simp [h])
    (fun h => by simp [h]) fun h₁ => ?_
  refine byKey y.literalCount x.literalCount (fun h => by simp [h₁, h])
    (fun h => by simp [h₁, h]) fun h₂ => ?_
  simp [h₁, h₂]

/-- which ordering is applied where, and by which algorithm: `sort.Sort` (insertion sort up to 12
    elements, which is stable) or `sort.Stable` (stable at every size: what the model's insertion
    sort is) on the curly candidates, the same under `sort.Reverse` on both JSR311 candidate lists;
    no other use of package sort on the request path (mime.go inserts by hand) -/
def sortSiteOK (p : String × String) : Bool :=
  match p.1 with
  | "CurlyRouter.selectRoutes" => p.2 == "sort.Sort(candidates)" || p.2 == "sort.Stable(candidates)"
  | "RouterJSR311.selectRoutes" | "RouterJSR311.detectDispatcher" =>
      p.2 == "sort.Sort(sort.Reverse(filtered))" || p.2 == "sort.Stable(sort.Reverse(filtered))"
  | "Parameter.AllowableValues" => true
  | _ => false

theorem sort_call_sites :
    sortCalls.map Prod.fst = ["CurlyRouter.selectRoutes", "RouterJSR311.selectRoutes",
      "RouterJSR311.detectDispatcher", "Parameter.AllowableValues"] ∧ sortCalls.all sortSiteOK = true := by
  decide +kernel

end Tie
end Restful
