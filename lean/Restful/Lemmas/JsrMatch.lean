/-
RouterJSR311: a successful two-stage match (service root, then route path) is an admission by
the declared template (C01) binding every variable to exactly the URL text (C04) — `match_sound`;
conversely an admitted, newline-free path is matched (C02) — `match_complete`.
-/
import Restful.Lemmas.DecideLits
import Restful.Lemmas.JsrExpr
import Restful.Lemmas.JsrParse
import Restful.Lemmas.ReadTemplate
import Restful.Spec.Params
namespace Restful
open Str

namespace Jsr
variable (E : ReEnv)

theorem bindParams_nil_left (ms : List Str) (ps : Params) : bindParams [] ms ps = ps := by
  rw [bindParams.eq_2]; intro n ns m ms' h; simp at h

theorem bindParams_nil_right (ns : List Str) (ps : Params) : bindParams ns [] ps = ps := by
  rw [bindParams.eq_2]; intro n ns' m ms' _ h; simp at h

theorem bindParams_zip : ∀ (ns ms : List Str) (ps : Params), ns.Nodup → (∀ n ∈ ns, n ∉ ps.map (·.1)) →
    bindParams ns ms ps = ps ++ ns.zip ms
  | [], ms, ps, _, _ => by simp [bindParams_nil_left]
  | n :: ns, [], ps, _, _ => by simp [bindParams_nil_right]
  | n :: ns, m :: ms, ps, hnd, hps => by
    rw [bindParams.eq_1, setParam_not_mem (hps n List.mem_cons_self)]
    rw [List.nodup_cons] at hnd
    rw [bindParams_zip ns ms _ hnd.2]
    · simp
    · intro n' hn'
      simp only [List.map_append, List.map_cons, List.map_nil, List.mem_append, List.mem_singleton, not_or]
      refine ⟨hps n' (List.mem_cons_of_mem _ hn'), ?_⟩
      rintro rfl
      exact hnd.1 hn'

theorem bindParams_two {na nb wc rc : List Str} (hnd : (na ++ nb).Nodup) (hl : wc.length = na.length) :
    bindParams nb rc (bindParams na wc []) = (na ++ nb).zip (wc ++ rc) := by
  rw [List.nodup_append] at hnd
  obtain ⟨h1, h2, h3⟩ := hnd
  rw [bindParams_zip na wc [] h1 (by simp), List.nil_append]
  rw [bindParams_zip nb rc _ h2, List.zip_append hl.symm]
  intro n hn hm
  rw [List.map_fst_zip (by omega)] at hm
  exact h3 n hm n hn rfl

end Jsr

theorem getLast?_dropLast_eq {α} {l : List α} {a : α} (h : l.getLast? = some a) : l = l.dropLast ++ [a] := by
  obtain ⟨ys, rfl⟩ := List.getLast?_eq_some_iff.1 h
  simp

namespace Spec
variable (E : ReEnv)

theorem rawSegments_cons (r : Str) : rawSegments ('/' :: r) =
    (rawSegments (r.dropWhile (· != '/'))).map (r.takeWhile (· != '/') :: ·) := by
  rw [rawSegments.eq_2, split_eq]
  rcases dropWhile_ne_cases '/' r with h | ⟨r', h⟩
  · rw [h]; rfl
  · rw [h]; rfl

theorem rawSegments_some {p : Str} {raw : List Str} (h : rawSegments p = some raw) :
    (p = [] ∧ raw = []) ∨ ∃ r, p = '/' :: r ∧ raw = split '/' r := by
  unfold rawSegments at h
  split at h <;> cases h
  · exact Or.inl ⟨rfl, rfl⟩
  · exact Or.inr ⟨_, rfl, rfl⟩

theorem admits_cons_jsr {base : Tok} (hnw : base.isWild = false) (ts : List TTok) (q : Str) (qs : List Str) :
    admits E .jsr (⟨base, none⟩ :: ts) (q :: qs) = (tokOK E .jsr base q && admits E .jsr ts qs) := by
  rw [admits.eq_3]
  simp [hnw, segOK]

theorem expectedParams_cons_jsr {base : Tok} (hj : tokJsrOK ⟨base, none⟩ = true) (hnw : base.isWild = false)
    (ts : List TTok) (q : Str) (qs : List Str) :
    expectedParams (⟨base, none⟩ :: ts) (q :: qs) = (base.name?.map (·, q)).toList ++ expectedParams ts qs := by
  rw [expectedParams.eq_3]
  cases base <;> simp_all [tokJsrOK, Tok.isWild, Tok.name?, unverb]

/-- RouterJSR311 admits the raw segments, or, if it does not and they end in an empty one (a
    trailing slash), the raw segments without it -/
theorem admittedSegments_jsr_iff {ts : List TTok} {p : Str} {segs : List Str} :
    admittedSegments E .jsr ts p = some segs ↔
      admits E .jsr ts segs = true ∧ ∃ extra, rawSegments p = some (segs ++ extra) ∧
        (extra = [] ∨ (extra = [[]] ∧ admits E .jsr ts (segs ++ [[]]) = false)) := by
  unfold admittedSegments
  cases rawSegments p with
  | none => simp
  | some raw =>
    simp only [Option.some.injEq]
    by_cases hraw : admits E .jsr ts raw = true
    · rw [if_pos hraw]
      constructor
      · intro h
        cases h
        exact ⟨hraw, [], (List.append_nil _).symm, Or.inl rfl⟩
      · rintro ⟨_, extra, rfl, rfl | ⟨rfl, hna⟩⟩
        · rw [List.append_nil]
        · rw [hna] at hraw; cases hraw
    · rw [if_neg hraw]
      constructor
      · intro h
        split at h
        · rename_i hc
          rw [Bool.and_eq_true, beq_iff_eq] at hc
          cases h
          have he := getLast?_dropLast_eq hc.1
          exact ⟨hc.2, [[]], he, Or.inr ⟨rfl, by rw [← he]; simpa using hraw⟩⟩
        · cases h
      · rintro ⟨ha, extra, rfl, rfl | ⟨rfl, _⟩⟩
        · rw [List.append_nil] at hraw; exact absurd ha hraw
        · simp [ha]

end Spec

theorem Tok.eq_wild_of_isWild {b : Tok} (h : b.isWild = true) : ∃ n, b = .wild n := by
  cases b with
  | wild n => exact ⟨n, rfl⟩
  | _ => cases h

namespace Jsr
variable (E : ReEnv)

theorem varNames_append (a b : List TTok) : varNames (a ++ b) = varNames a ++ varNames b := by
  simp [varNames]

/-- a one-segment token of the expression takes exactly the first raw segment, provided the match can
    go on with what is left (it is empty or starts with `/`): that is what keeps a literal, which
    only tests a prefix, from stopping in the middle of a segment -/
theorem matchTok_ofTok {base : Tok} (hw : base.wf = true) (hj : Spec.tokJsrOK ⟨base, none⟩ = true)
    (hnw : base.isWild = false) {r : Str} {ct : List Str} {rest : Str} (hs : Starts rest) :
    matchTok E (ofTok base) r = some (ct, rest) ↔
      Spec.tokOK E .jsr base (r.takeWhile (· != '/')) = true ∧ rest = r.dropWhile (· != '/') ∧
        ct = (base.name?.map fun _ => r.takeWhile (· != '/')).toList := by
  cases base with
  | lit l =>
    have hl : '/' ∉ l := (litOK_spec hw).2.1
    simp only [ofTok, matchTok, Spec.tokOK, Tok.name?, Option.map_none, Option.toList_none, beq_iff_eq]
    constructor
    · intro h
      split at h
      · rename_i hp
        obtain ⟨rest', rfl⟩ := List.isPrefixOf_iff_prefix.1 hp
        rw [List.drop_left] at h
        cases h
        obtain ⟨e1, e2⟩ := takeWhile_ne_append hl hs
        exact ⟨e1, e2.symm, rfl⟩
      · cases h
    · rintro ⟨h1, rfl, rfl⟩
      have hr : l ++ r.dropWhile (· != '/') = r := h1 ▸ List.takeWhile_append_dropWhile
      rw [if_pos (List.isPrefixOf_iff_prefix.2 ⟨_, hr⟩)]
      conv => lhs; rw [← hr, List.drop_left]
  | var n =>
    simp only [ofTok, matchTok, Spec.tokOK, Tok.name?, Option.map_some, Option.toList_some]
    split <;> simp [*, @eq_comm _ ct, @eq_comm _ rest, and_comm]
  | re n e =>
    simp only [ofTok, matchTok, Spec.tokOK, Spec.reOKFor, Tok.name?, Option.map_some, Option.toList_some]
    split <;> simp [*, @eq_comm _ ct, @eq_comm _ rest, and_comm]
  | suf n s => simp [Spec.tokJsrOK] at hj
  | wild n => cases hnw

/-- a match of the whole template reads the path's raw segments position-wise, up to those of the
    final group; and a final group is left only if the template has no tail wildcard -/
theorem match_segs : ∀ (ts : List TTok), (∀ t ∈ ts, t.wf = true) → (∀ t ∈ ts, Spec.tokJsrOK t = true) →
    ∀ (p : Str) (caps : List Str) (f : Str), matchExpr E (ts.map ofTTok) p = some (caps, f) →
      ∃ segs, Spec.admits E .jsr ts segs = true ∧ (varNames ts).zip caps = Spec.expectedParams ts segs ∧
        Spec.rawSegments p = (Spec.rawSegments f).map (segs ++ ·) ∧
        (f ≠ [] → Spec.admits E .jsr ts (segs ++ [[]]) = false) := by
  intro ts
  induction ts with
  | nil =>
    intro _ _ p caps f h
    obtain ⟨rfl, rfl, _, _⟩ := (matchExpr_nil_iff E).1 h
    exact ⟨[], rfl, rfl, by simp, fun _ => rfl⟩
  | cons t ts ih =>
    intro hw hj p caps f h
    have hwt := hw t List.mem_cons_self
    have hjt := hj t List.mem_cons_self
    obtain ⟨r, ct, rest, cs, rfl, ht, hts, rfl⟩ := (matchExpr_cons_iff E).1 h
    obtain ⟨base, verb⟩ := t
    obtain rfl : verb = none := by
      simp only [Spec.tokJsrOK, Bool.and_eq_true, Option.isNone_iff_eq_none] at hjt
      exact hjt.1
    cases hnw : base.isWild with
    | true =>
      -- the tail wildcard takes the rest of the path; nothing can follow it
      obtain ⟨n, rfl⟩ := Tok.eq_wild_of_isWild hnw
      simp only [ofTTok, ofTok, matchTok] at ht
      split at ht
      · cases ht
      · cases ht
        cases ts with
        | cons t' ts' => obtain ⟨_, h⟩ := matchExpr_cons_some E hts; cases h
        | nil =>
          obtain ⟨rfl, rfl, _, _⟩ := (matchExpr_nil_iff E).1 hts
          obtain ⟨q, qs, hq⟩ := List.exists_cons_of_ne_nil (split_ne_nil '/' r)
          refine ⟨split '/' r, ?_, ?_, by simp [Spec.rawSegments], fun h => absurd rfl h⟩
          · rw [hq, Spec.admits.eq_3]; rfl
          · rw [hq, Spec.expectedParams.eq_3, ← hq]
            simp [varNames, Tok.name?, untokenize, join_split]
    | false =>
      have hwb : base.wf = true := by simpa [TTok.wf] using hwt
      obtain ⟨hok, rfl, rfl⟩ := (matchTok_ofTok E hwb hjt hnw (matchExpr_some_starts E hts)).1 ht
      obtain ⟨segs', ha, hz, hraw, hna⟩ := ih (fun x hx => hw x (List.mem_cons_of_mem _ hx))
        (fun x hx => hj x (List.mem_cons_of_mem _ hx)) _ _ _ hts
      refine ⟨r.takeWhile (· != '/') :: segs', ?_, ?_, ?_, fun hf => ?_⟩
      · rw [Spec.admits_cons_jsr E hnw, hok, ha]; rfl
      · rw [Spec.expectedParams_cons_jsr hjt hnw, varNames_cons, ← hz]
        cases base.name? <;> rfl
      · rw [Spec.rawSegments_cons, hraw, Option.map_map]; rfl
      · rw [List.cons_append, Spec.admits_cons_jsr E hnw, hna hf, Bool.and_false]

theorem readTemplateJ_spec {root rel : Str} {ts : List TTok} (hts : Spec.readTemplateJ root rel = some ts) :
    ∃ a b, readToks (Spec.nonEmptyToks root) = some a ∧ readToks (Spec.nonEmptyToks rel) = some b ∧ ts = a ++ b ∧
      shapeOK (a ++ b) = true ∧ (∀ t ∈ a ++ b, Spec.tokJsrOK t = true) ∧ (varNames (a ++ b)).Nodup := by
  unfold Spec.readTemplateJ at hts
  split at hts
  · rename_i a b ha hb
    split at hts
    · rename_i hc
      simp only [Bool.and_eq_true, List.all_eq_true, decide_eq_true_eq] at hc
      simp only [Option.some.injEq] at hts
      exact ⟨a, b, ha, hb, hts.symm, hc.1.1, hc.1.2, hc.2⟩
    · simp at hts
  · simp at hts

theorem readTemplateJ_compile {root rel : Str} {ts : List TTok} (hts : Spec.readTemplateJ root rel = some ts)
    {wex rex : Expr} (hw : compile root = some wex) (hr : compile rel = some rex) :
    ∃ a b, ts = a ++ b ∧ wex.toks = a.map ofTTok ∧ wex.varNames = varNames a ∧
      rex.toks = b.map ofTTok ∧ rex.varNames = varNames b ∧
      (∀ t ∈ a ++ b, t.wf = true) ∧ (∀ t ∈ a ++ b, Spec.tokJsrOK t = true) ∧ shapeOK (a ++ b) = true ∧
      (varNames (a ++ b)).Nodup := by
  obtain ⟨a, b, ha, hb, rfl, hshape, hjsr, hnd⟩ := readTemplateJ_spec hts
  obtain ⟨hwt, hwn⟩ := compile_of_readToks ha (fun t ht => hjsr t (List.mem_append_left _ ht)) hw
  obtain ⟨hrt, hrn⟩ := compile_of_readToks hb (fun t ht => hjsr t (List.mem_append_right _ ht)) hr
  refine ⟨a, b, rfl, hwt, hwn, hrt, hrn, fun t ht => ?_, hjsr, hshape, hnd⟩
  rcases List.mem_append.1 ht with h | h
  · exact (readToks_render ha).2 t h
  · exact (readToks_render hb).2 t h

/-- C01 + C04 for RouterJSR311 -/
theorem match_sound (E : ReEnv) (root rel path : Str) (ts : List TTok)
    (hts : Spec.readTemplateJ root rel = some ts)
    (wex rex : Jsr.Expr) (hw : Jsr.compile root = some wex) (hr : Jsr.compile rel = some rex)
    (wc rc : List Str) (final f : Str)
    (h1 : Jsr.matchExpr E wex.toks path = some (wc, final))
    (h2 : Jsr.matchExpr E rex.toks final = some (rc, f)) (hf : f = [] ∨ f = ['/']) :
    ∃ segs, Spec.admittedSegments E .jsr ts path = some segs ∧
      Jsr.bindParams rex.varNames rc (Jsr.bindParams wex.varNames wc []) = Spec.expectedParams ts segs := by
  obtain ⟨a, b, rfl, hwt, hwn, hrt, hrn, hwf, hjsr, _, hnd⟩ := readTemplateJ_compile hts hw hr
  rw [hwt] at h1
  rw [hrt] at h2
  -- the two matches are one match of the whole template
  have hall := matchExpr_append E _ h1 h2
  rw [← List.map_append] at hall
  have hlen : wc.length = (varNames a).length := by
    rw [matchExpr_caps_length E h1, filterMap_varNameOf a]
  rw [varNames_append] at hnd
  rw [hwn, hrn, bindParams_two hnd hlen, ← varNames_append]
  obtain ⟨segs, hadm, hz, hraw, hna⟩ := match_segs E (a ++ b) hwf hjsr path _ f hall
  refine ⟨segs, (Spec.admittedSegments_jsr_iff E).2 ⟨hadm, ?_⟩, hz⟩
  rcases hf with rfl | rfl
  · exact ⟨[], hraw, Or.inl rfl⟩
  · exact ⟨[[]], hraw, Or.inr ⟨rfl, hna (by simp)⟩⟩

/-- non-vacuity of `match_sound`: root `/users`, route `/{id:[0-9]+}/x/{rest:*}`, request
    `/users/42/x/a/b`, and an oracle that knows the one expression; every hypothesis is decided -/
example :
    let E : ReEnv := ⟨fun _ _ => false, fun e s => e == "[0-9]+".toList && !s.isEmpty && s.all Char.isDigit⟩
    let ts : List TTok := [⟨.lit "users".toList, none⟩, ⟨.re "id".toList "[0-9]+".toList, none⟩,
      ⟨.lit "x".toList, none⟩, ⟨.wild "rest".toList, none⟩]
    let wex : Jsr.Expr := ⟨[.lit "users".toList], 5, [], 0⟩
    let rex : Jsr.Expr := ⟨[.re "id".toList "[0-9]+".toList, .lit "x".toList, .wild "rest".toList], 1,
      ["id".toList, "rest".toList], 2⟩
    ∃ segs, Spec.admittedSegments E .jsr ts "/users/42/x/a/b".toList = some segs ∧
      Jsr.bindParams rex.varNames ["42".toList, "a/b".toList] (Jsr.bindParams wex.varNames [] []) =
        Spec.expectedParams ts segs :=
  match_sound _ "/users".toList "/{id:[0-9]+}/x/{rest:*}".toList "/users/42/x/a/b".toList _ (by decide_lits)
    _ _ (by decide_lits) (by decide_lits) [] ["42".toList, "a/b".toList] "/42/x/a/b".toList []
    (by decide_lits) (by decide_lits)
    (Or.inl rfl)

/-- … and what the theorem then delivers there -/
example :
    let E : ReEnv := ⟨fun _ _ => false, fun e s => e == "[0-9]+".toList && !s.isEmpty && s.all Char.isDigit⟩
    let ts : List TTok := [⟨.lit "users".toList, none⟩, ⟨.re "id".toList "[0-9]+".toList, none⟩,
      ⟨.lit "x".toList, none⟩, ⟨.wild "rest".toList, none⟩]
    Spec.admittedSegments E .jsr ts "/users/42/x/a/b".toList =
        some ["users".toList, "42".toList, "x".toList, "a".toList, "b".toList] ∧
      Spec.expectedParams ts ["users".toList, "42".toList, "x".toList, "a".toList, "b".toList] =
        [("id".toList, "42".toList), ("rest".toList, "a/b".toList)] := by
  decide_lits

/-- The converse of `match_segs`, by induction on the template, one token against one raw segment.
    `extra` is what the raw segments have beyond the admitted ones: nothing, or the one empty
    segment of a trailing slash (the two forms of `admittedSegments`); carrying it unchanged keeps the
    induction from splitting on those forms at every token; it surfaces only at the end: the empty
    template leaves it as the final group `""` or `"/"`, the tail wildcard swallows it. -/
theorem segs_match : ∀ (ts : List TTok), (∀ t ∈ ts, t.wf = true) → (∀ t ∈ ts, Spec.tokJsrOK t = true) →
    shapeOK ts = true →
    ∀ (p : Str) (segs extra : List Str), '\n' ∉ p → Spec.rawSegments p = some (segs ++ extra) →
      Spec.admits E .jsr ts segs = true → (extra = [] ∨ extra = [[]]) →
      ∃ caps f, matchExpr E (ts.map ofTTok) p = some (caps, f) ∧ (f = [] ∨ f = ['/']) := by
  intro ts
  induction ts with
  | nil =>
    intro _ _ _ p segs extra hn hraw hadm hex
    rw [Spec.admits.eq_1, List.isEmpty_iff] at hadm
    subst hadm
    -- no token: the path is `""`, or `"/"` with its one empty raw segment
    have hp : p = [] ∨ p = ['/'] := by
      rcases Spec.rawSegments_some hraw with ⟨rfl, _⟩ | ⟨r, rfl, he⟩
      · exact Or.inl rfl
      · rcases hex with rfl | rfl
        · exact absurd he.symm (split_ne_nil _ _)
        · have hj := join_split '/' r
          rw [← he] at hj
          rw [← hj]; exact Or.inr rfl
    refine ⟨[], p, (matchExpr_nil_iff E).2 ⟨rfl, rfl, ?_, hn⟩, hp⟩
    rcases hp with rfl | rfl
    · exact Or.inl rfl
    · exact Or.inr ⟨[], rfl⟩
  | cons t ts ih =>
    intro hw hj hs p segs extra hn hraw hadm hex
    have hwt := hw t List.mem_cons_self
    have hjt := hj t List.mem_cons_self
    obtain ⟨q, segs', rfl⟩ : ∃ q segs', segs = q :: segs' := by
      cases segs with
      | nil => simp [Spec.admits.eq_2] at hadm
      | cons q segs' => exact ⟨q, segs', rfl⟩
    rcases Spec.rawSegments_some hraw with ⟨_, h⟩ | ⟨r, rfl, _⟩
    · cases h
    rw [Spec.rawSegments_cons, Option.map_eq_some_iff] at hraw
    obtain ⟨tl, htl, he⟩ := hraw
    rw [List.cons_append, List.cons.injEq] at he
    obtain ⟨rfl, rfl⟩ := he
    have hnr : '\n' ∉ r := fun hm => hn (List.mem_cons_of_mem _ hm)
    obtain ⟨base, verb⟩ := t
    obtain rfl : verb = none := by
      simp only [Spec.tokJsrOK, Bool.and_eq_true, Option.isNone_iff_eq_none] at hjt
      exact hjt.1
    rw [List.map_cons]
    cases hnw : base.isWild with
    | true =>
      obtain ⟨n, rfl⟩ := Tok.eq_wild_of_isWild hnw
      obtain rfl := shapeOK_wild_last hs rfl
      refine ⟨[r] ++ [], [], (matchExpr_cons_iff E).2 ⟨r, [r], [], [], rfl, ?_, ?_, rfl⟩, Or.inl rfl⟩
      · simp only [ofTTok, ofTok, matchTok]
        rw [if_neg (by simpa using hnr)]
      · exact (matchExpr_nil_iff E).2 ⟨rfl, rfl, Or.inl rfl, List.not_mem_nil⟩
    | false =>
      rw [Spec.admits_cons_jsr E hnw, Bool.and_eq_true] at hadm
      obtain ⟨caps, f, hm, hf⟩ := ih (fun x hx => hw x (List.mem_cons_of_mem _ hx))
        (fun x hx => hj x (List.mem_cons_of_mem _ hx)) (shapeOK_tail hs) _ segs' extra
        (fun hm => hnr ((List.dropWhile_sublist _).subset hm)) htl hadm.2 hex
      have hwb : base.wf = true := by simpa [TTok.wf] using hwt
      exact ⟨_, f, (matchExpr_cons_iff E).2 ⟨r, _, _, caps, rfl,
        (matchTok_ofTok E hwb hjt hnw (dropWhile_ne_cases '/' r)).2 ⟨hadm.1, rfl, rfl⟩, hm, rfl⟩, hf⟩

/-- C02 direction for RouterJSR311: an admitted path is matched by both stages -/
theorem match_complete (E : ReEnv) (root rel path : Str) (ts : List TTok)
    (hts : Spec.readTemplateJ root rel = some ts)
    (wex rex : Jsr.Expr) (hw : Jsr.compile root = some wex) (hr : Jsr.compile rel = some rex)
    (hn : ¬ ('\n' ∈ path))
    (segs : List Str) (ha : Spec.admittedSegments E .jsr ts path = some segs) :
    ∃ wc final rc f, Jsr.matchExpr E wex.toks path = some (wc, final) ∧
      Jsr.matchExpr E rex.toks final = some (rc, f) ∧ (f = [] ∨ f = ['/']) := by
  obtain ⟨a, b, rfl, hwt, _, hrt, _, hwf, hjsr, hshape, _⟩ := readTemplateJ_compile hts hw hr
  obtain ⟨hadm, extra, hraw, hex⟩ := (Spec.admittedSegments_jsr_iff E).1 ha
  obtain ⟨caps, f, hm, hf⟩ := segs_match E (a ++ b) hwf hjsr hshape path segs extra hn hraw hadm
    (hex.imp_right And.left)
  rw [List.map_append] at hm
  obtain ⟨c1, final, c2, h1, h2⟩ := matchExpr_split E _ hn hm
  rw [hwt, hrt]
  exact ⟨c1, final, c2, f, h1, h2, hf⟩

end Jsr
end Restful

