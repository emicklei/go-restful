/-
Lemmas for C05: `insertMime` keeps the list sorted, the first satisfiable element of the sorted list
is the earliest element of greatest weight, what `walk` returns on a well-formed route, the
agreement of the code's parse with the specification's, and `entityWriter` as one chain of fallbacks.
-/
import Restful.Model.Mime
import Restful.Spec.Mime
import Restful.Lemmas.Detect
import Restful.Lemmas.Entity
namespace Restful
namespace Mime
open Str

/-- descending by quality -/
abbrev Sorted (l : List Mime) : Prop := l.Pairwise (fun x y => y.quality ≤ x.quality)

theorem mem_insertMime {l : List Mime} {e x : Mime} : x ∈ insertMime l e ↔ x = e ∨ x ∈ l := by
  induction l with
  | nil => simp [insertMime]
  | cons each l ih =>
    unfold insertMime
    split
    · simp
    · simp only [List.mem_cons, ih, or_left_comm]

theorem insertMime_sorted {l : List Mime} (e : Mime) (h : Sorted l) : Sorted (insertMime l e) := by
  induction l with
  | nil => simp [insertMime]
  | cons each l ih =>
    have ⟨h1, h2⟩ := List.pairwise_cons.mp h
    unfold insertMime
    split
    · refine List.pairwise_cons.mpr ⟨fun y hy => ?_, h⟩
      rcases List.mem_cons.mp hy with rfl | hy
      · omega
      · have := h1 y hy
        omega
    · refine List.pairwise_cons.mpr ⟨fun y hy => ?_, ih h2⟩
      rcases mem_insertMime.mp hy with rfl | hy
      · omega
      · exact h1 y hy

/-- The better of an earlier candidate and a later one: the later one must be strictly better.
    "First maximum" is associative with unit `none`; `Spec.C05.maxFirst` folds it from the right,
    the insertions of `sortedMimes` from the left, which is why the two agree. -/
def combine : Option Mime → Option Mime → Option Mime
  | none, m => m
  | some b, none => some b
  | some b, some m => if b.quality < m.quality then some m else some b

theorem combine_none (x : Option Mime) : combine x none = x := by cases x <;> rfl

theorem combine_assoc : ∀ x y z : Option Mime, combine (combine x y) z = combine x (combine y z)
  | none, _, _ => rfl
  | some _, none, _ => rfl
  | some x, some y, none => by simp only [combine_none]
  | some x, some y, some z => by
    by_cases h1 : x.quality < y.quality <;> by_cases h2 : y.quality < z.quality <;>
      simp only [combine, h1, h2, if_true, if_false]
    · rw [if_pos (by omega)]
    · rw [if_neg (by omega)]

theorem maxFirst_cons (r : Mime) (rs : List Mime) :
    Spec.C05.maxFirst (r :: rs) = combine (some r) (Spec.C05.maxFirst rs) := by
  rw [Spec.C05.maxFirst]
  cases Spec.C05.maxFirst rs with
  | none => rfl
  | some b => by_cases h : b.quality ≤ r.quality <;> simp [combine, h, Nat.not_lt.mpr, Nat.lt_of_not_le]

theorem find?_insertMime (p : Mime → Bool) {l : List Mime} (e : Mime) (h : Sorted l) :
    (insertMime l e).find? p = combine (l.find? p) (if p e then some e else none) := by
  induction l with
  | nil => cases hp : p e <;> simp [insertMime, combine, hp]
  | cons each l ih =>
    have ⟨h1, h2⟩ := List.pairwise_cons.mp h
    unfold insertMime
    split
    · rename_i hlt
      cases hp : p e
      · simp [List.find?_cons, hp, combine_none]
      · cases hf : (each :: l).find? p with
        | none => simp [hp, combine]
        | some b =>
          have hq : b.quality < e.quality := by
            rcases List.mem_cons.mp (List.mem_of_find?_eq_some hf) with rfl | hb
            · exact hlt
            · have := h1 b hb
              omega
          simp [hp, combine, hq]
    · rename_i hlt
      cases hpe : p each
      · simpa [List.find?_cons, hpe] using ih h2
      · cases hp : p e <;> simp [hpe, combine, hlt]

theorem foldl_insertValid (acc : List Mime) (pieces : List Str) :
    pieces.foldl insertValid acc = (pieces.filterMap rangeOf).foldl insertMime acc := by
  induction pieces generalizing acc with
  | nil => rfl
  | cons x xs ih =>
    simp only [List.foldl_cons, List.filterMap_cons, insertValid]
    cases rangeOf x <;> exact ih _

theorem foldl_insertMime_sorted {acc : List Mime} (rs : List Mime) (h : Sorted acc) :
    Sorted (rs.foldl insertMime acc) := by
  induction rs generalizing acc with
  | nil => exact h
  | cons e rs ih => exact ih (insertMime_sorted e h)

theorem find?_foldl_insertMime (p : Mime → Bool) {acc : List Mime} (rs : List Mime) (h : Sorted acc) :
    (rs.foldl insertMime acc).find? p = combine (acc.find? p) (Spec.C05.maxFirst (rs.filter p)) := by
  induction rs generalizing acc with
  | nil => exact (combine_none _).symm
  | cons e rs ih =>
    rw [List.foldl_cons, ih (insertMime_sorted e h), find?_insertMime p e h, combine_assoc]
    cases hp : p e <;> simp [hp, maxFirst_cons, combine]

theorem find?_sortedMimes (p : Mime → Bool) (a : Str) :
    (sortedMimes a).find? p = Spec.C05.maxFirst (((split ',' a).filterMap rangeOf).filter p) := by
  rw [sortedMimes, foldl_insertValid, find?_foldl_insertMime p _ List.Pairwise.nil]
  rfl

theorem mem_sortedMimes {a : Str} {m : Mime} : m ∈ sortedMimes a ↔ m ∈ (split ',' a).filterMap rangeOf := by
  rw [sortedMimes, foldl_insertValid]
  suffices ∀ rs acc, m ∈ List.foldl insertMime acc rs ↔ m ∈ acc ∨ m ∈ rs by
    rw [this, List.mem_nil_iff, false_or]
  intro rs
  induction rs with
  | nil => simp
  | cons e rs ih =>
    intro acc
    rw [List.foldl_cons, ih, mem_insertMime, List.mem_cons, or_assoc, or_left_comm]

theorem sortedMimes_sorted (a : Str) : Sorted (sortedMimes a) := by
  rw [sortedMimes, foldl_insertValid]
  exact foldl_insertMime_sorted _ List.Pairwise.nil

theorem qualityOf_eq_weight (ps : List Str) : qualityOf ps = Spec.C05.weight ps := by
  induction ps with
  | nil => rfl
  | cons p rest ih =>
    rw [qualityOf, ih, Spec.C05.weight, Spec.C05.weight, List.findSome?_cons, Spec.C05.qParam]
    generalize split '=' p = sp
    rcases sp with _ | ⟨k, _ | ⟨v, _ | ⟨x, xs⟩⟩⟩
    · rfl
    · rfl
    · by_cases hk : trimOWS k = qKey <;> simp [hk]
    · rfl

theorem rangeOf_eq_parseRange (e : Str) : rangeOf e = Spec.C05.parseRange e := by
  unfold rangeOf Spec.C05.parseRange
  cases split ';' e with
  | nil => rfl
  | cons m ps => simp only [qualityOf_eq_weight]

theorem ranges_eq (a : Str) : Spec.C05.ranges a = (split ',' a).filterMap rangeOf :=
  congrArg (List.filterMap · _) (funext fun e => (rangeOf_eq_parseRange e).symm)

/-! ### the quantifier of C05, unpacked -/

structure WF (P reg : List Str) : Prop where
  ne : P ≠ []
  sub : ∀ p ∈ P, p ∈ reg
  pMedia : ∀ p ∈ P, Spec.wfMedia p = true
  rMedia : ∀ k ∈ reg, Spec.wfMedia k = true

theorem wf_of {P reg : List Str} (h : Spec.wfMime P reg = true) : WF P reg := by
  simp only [Spec.wfMime, Bool.and_eq_true, List.all_eq_true, Bool.not_eq_true', List.isEmpty_eq_false_iff,
    List.contains_iff_mem] at h
  obtain ⟨⟨⟨h1, h2⟩, h3⟩, h4⟩ := h
  exact ⟨h1, h4, h2, h3⟩

theorem wfMedia_ne_nil {m : Str} (h : Spec.wfMedia m = true) : m ≠ [] := by
  rintro rfl
  simp [Spec.wfMedia] at h

theorem WF.star_not_mem {P reg : List Str} (h : WF P reg) : starStar ∉ P := by
  intro hm
  simpa [Spec.wfMedia] using h.pMedia _ hm

theorem WF.nil_not_mem {P reg : List Str} (h : WF P reg) : ([] : Str) ∉ P :=
  fun hm => wfMedia_ne_nil (h.pMedia _ hm) rfl

theorem WF.usable {P reg : List Str} (h : WF P reg) : Spec.C05.usable P reg = P :=
  List.filter_eq_self.mpr fun p hp => List.contains_iff_mem.mpr (h.sub p hp)

theorem accessorAt_of_mem {reg : List Str} {m : Str} (h : m ∈ reg) : accessorAt reg m = [m] := by
  simp [accessorAt, h]

theorem walkProduces_eq (reg : List Str) (media : Str) (P : List Str) :
    walkProduces reg media P = if media ∈ P then accessorAt reg media else [] := by
  induction P with
  | nil => rfl
  | cons p ps ih =>
    rw [walkProduces, ih]
    by_cases hp : p = media
    · subst hp
      cases accessorAt reg p <;> simp
    · simp [hp, Ne.symm hp]

theorem firstProduced_eq {reg : List Str} (P : List Str) (hsub : ∀ p ∈ P, p ∈ reg) :
    firstProduced reg P = P.head?.toList := by
  cases P with
  | nil => rfl
  | cons p ps => simp [firstProduced, accessorAt_of_mem (hsub p List.mem_cons_self)]

theorem head?_eq_headD {P : List Str} (hne : P ≠ []) : P.head? = some (P.headD []) := by
  cases P with
  | nil => exact absurd rfl hne
  | cons p ps => rfl

theorem resolve_eq {P reg : List Str} (h : WF P reg) (x : Str) :
    Spec.C05.resolve P reg x = if x = starStar then P.head? else if x ∈ P then some x else none := by
  simp [Spec.C05.resolve, h.usable]

/-- the walk answers with what the specification resolves the first resolvable range to -/
theorem walk_eq {P reg : List Str} (h : WF P reg) (ms : List Mime) :
    walk reg P ms = (ms.findSome? fun r => Spec.C05.resolve P reg r.media).toList := by
  induction ms with
  | nil => rfl
  | cons m ms ih =>
    have hn := h.star_not_mem
    rw [walk, ih, walkProduces_eq, firstProduced_eq _ h.sub, List.findSome?_cons, resolve_eq h]
    by_cases hc : m.media ∈ P
    · have : m.media ≠ starStar := fun e => hn (e ▸ hc)
      simp [hc, this, accessorAt_of_mem (h.sub _ hc)]
    · by_cases hst : m.media = starStar
      · rw [hst, head?_eq_headD h.ne]
        simp [hn]
      · simp [hc, hst]

theorem find?_bind {α β : Type} (f : α → Option β) (l : List α) :
    (l.find? fun x => (f x).isSome).bind f = l.findSome? f := by
  induction l with
  | nil => rfl
  | cons x l ih =>
    rw [List.find?_cons, List.findSome?_cons]
    cases hx : f x <;> simp [hx, ih]

/-- the representation the specification demands is what it resolves the first resolvable element
    of the sorted list to -/
theorem best_eq (a : Str) (P reg : List Str) :
    Spec.best a P reg =
      (sortedMimes (if a.isEmpty then starStar else a)).findSome? fun r => Spec.C05.resolve P reg r.media := by
  rw [← find?_bind, find?_sortedMimes, ← ranges_eq, Spec.best]
  cases Spec.C05.maxFirst _ <;> rfl

/-- response.go:84 as one chain: the walk over the ranked ranges, the raw-header lookup, the default
    type, the first produced type -/
theorem entityWriter_eq (a : Str) (P reg : List Str) (d : Str) :
    entityWriter a P reg d =
      if walk reg P (sortedMimes (if a.isEmpty then starStar else a)) ≠ [] then
        walk reg P (sortedMimes (if a.isEmpty then starStar else a))
      else if accessorAt reg a ≠ [] then accessorAt reg a
      else if defaultSet d = true then accessorAt reg d
      else firstProduced reg P := by
  have ne_nil_iff (l : List Str) : (!l.isEmpty) = true ↔ l ≠ [] := by cases l <;> simp
  unfold entityWriter entityWriterTagged
  generalize walk reg P (sortedMimes (if a.isEmpty then starStar else a)) = w
  simp only [ne_nil_iff, apply_ite Prod.fst, defaultSet, Bool.or_eq_true, beq_iff_eq]
  congr 2
  split
  · simp [*]
  split
  · simp [*]
  split
  · simp [*]
  simp only [*, or_self, if_false, ite_eq_left_iff, ne_eq, Decidable.not_not]
  exact Eq.symm

/-- `EntityWriter` against the specification, for every header on a route of the quantifier -/
theorem entityWriter_spec {P reg : List Str} (h : WF P reg) (a d : Str) :
    entityWriter a P reg d =
      match Spec.best a P reg with
      | some b => [b]
      | none =>
        if accessorAt reg a ≠ [] then accessorAt reg a
        else if defaultSet d = true then accessorAt reg d
        else [P.headD []] := by
  rw [entityWriter_eq, walk_eq h, ← best_eq, firstProduced_eq _ h.sub, head?_eq_headD h.ne]
  cases Spec.best a P reg <;> rfl

theorem best_mem {a : Str} {P reg : List Str} {b : Str} (h : WF P reg) (hb : Spec.best a P reg = some b) :
    b ∈ P := by
  rw [best_eq] at hb
  obtain ⟨r, _, hr⟩ := List.exists_of_findSome?_eq_some hb
  rw [resolve_eq h] at hr
  split at hr
  · exact List.mem_of_head? hr
  · split at hr
    · exact Option.some.inj hr ▸ ‹_›
    · cases hr

theorem sortedMimes_star : sortedMimes starStar = [⟨starStar, 1000⟩] := by decide

theorem best_nil {P reg : List Str} (h : WF P reg) : Spec.best [] P reg = some (P.headD []) := by
  rw [best_eq]
  simp only [List.isEmpty_nil, if_true, sortedMimes_star, List.findSome?_cons, resolve_eq h, head?_eq_headD h.ne]

/-- the router admits what `acceptOK` holds of (the router's loop stops early, `acceptOK` does not) -/
theorem acceptOK_of_admitted {a : Str} {P : List Str} (hadm : routerAdmits a P = true) :
    Spec.acceptOK P a = true :=
  acceptLoop_sound _ _ hadm

theorem F07b_iff {a : Str} {P reg : List Str} :
    Spec.F07b a P reg = true ↔ a.isEmpty = false ∧ Spec.acceptOK P a = true ∧ Spec.best a P reg = none := by
  simp only [Spec.F07b, Bool.and_eq_true, Bool.not_eq_true', Option.isNone_iff_eq_none, and_assoc]

theorem best_isSome_of {a : Str} {P reg : List Str} (h : WF P reg)
    (hadm : routerAdmits a P = true) (h07b : Spec.F07b a P reg = false) : ∃ b, Spec.best a P reg = some b := by
  cases a with
  | nil => exact ⟨_, best_nil h⟩
  | cons c cs =>
    simpa [Spec.F07b, acceptOK_of_admitted hadm, Option.isSome_iff_exists] using h07b

/-- The model returns a writer as the list of keys the Go code could return, because the reverse
    lookup of `accessorAt` ranges over a map.  `OneVal`: whatever the iteration order, there is one
    answer, so the code's answer is a function of the request. -/
def OneVal (l : List Str) : Prop := ∀ m ∈ l, ∀ m' ∈ l, m = m'

theorem oneVal_nil : OneVal [] := fun _ h => nomatch h

theorem OneVal.ite {c : Prop} [Decidable c] {x y : List Str} (hx : OneVal x) (hy : OneVal y) :
    OneVal (if c then x else y) := by
  split <;> assumption

theorem accessorAt_function (reg : List Str) (x : Str) : OneVal (accessorAt reg x) := by
  unfold accessorAt
  intro m hm m' hm'
  by_cases hc : reg.contains x = true
  · rw [if_pos hc, List.mem_singleton] at hm hm'
    rw [hm, hm']
  · rw [if_neg hc, List.mem_filter] at hm hm'
    exact Entity.firstLongest_unique hm.1 hm'.1 hm.2 hm'.2

theorem accessorAt_ne_nil_of_contains {reg : List Str} {x k : Str} (hk : k ∈ reg) (hc : containsSub k x = true) :
    accessorAt reg x ≠ [] := by
  unfold accessorAt
  split
  · simp
  · obtain ⟨w, hw, hwin⟩ := Entity.firstLongest_exists (keys := reg) (v := x) ⟨k, hk, hc⟩
    exact List.ne_nil_of_mem (List.mem_filter.mpr ⟨hw, hwin⟩)

theorem firstProduced_function (reg : List Str) (P : List Str) : OneVal (firstProduced reg P) := by
  induction P with
  | nil => exact oneVal_nil
  | cons p ps ih =>
    exact .ite ih (accessorAt_function reg p)

theorem walk_function (reg P : List Str) (ms : List Mime) : OneVal (walk reg P ms) := by
  induction ms with
  | nil => exact oneVal_nil
  | cons m ms ih =>
    rw [walk, walkProduces_eq]
    exact .ite (.ite (accessorAt_function reg m.media) oneVal_nil)
      (.ite (.ite (firstProduced_function reg P) ih) ih)

theorem entityWriter_function (a : Str) (P reg : List Str) (d : Str) : OneVal (entityWriter a P reg d) := by
  rw [entityWriter_eq]
  exact .ite (walk_function _ _ _) (.ite (accessorAt_function _ _) (.ite (accessorAt_function _ _)
    (firstProduced_function _ _)))

/-- The observations are answers of the model, which has one answer `k`: produced, and the best
    representation if there is one.  Then the predicate of C05 holds. -/
theorem c05Holds_of_writer {a : Str} {P reg : List Str} {d k : Str} (h : WF P reg)
    (hk : k ∈ entityWriter a P reg d) (hP : k ∈ P)
    (hbest : Spec.best a P reg = none ∨ Spec.best a P reg = some k)
    {obs : List Spec.MimeObs} (hobs : ∀ o ∈ obs, ∃ m ∈ entityWriter a P reg d, o = .ct m) :
    Spec.c05Holds a P reg obs = true := by
  have hall : ∀ o ∈ obs, o = .ct k := fun o ho => by
    obtain ⟨m, hm, rfl⟩ := hobs o ho
    rw [entityWriter_function a P reg d m hm k hk]
  have hok : Spec.c05ObsOK a P reg (.ct k) = true := by
    rcases hbest with hb | hb <;> simp [Spec.c05ObsOK, hb, hP, h.sub k hP]
  unfold Spec.c05Holds
  rw [Bool.and_eq_true, List.all_eq_true]
  refine ⟨fun o ho => hall o ho ▸ hok, ?_⟩
  cases obs with
  | nil => rfl
  | cons o os =>
    rw [List.all_eq_true]
    intro x hx
    rw [hall x (List.mem_cons_of_mem _ hx), hall o List.mem_cons_self, beq_self_eq_true]

end Mime
end Restful
