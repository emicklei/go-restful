/-
`RouterJSR311.detectRoute` against the model for ANY image `g` of the model's routes that agrees with
`genRoute req` on the fields the function reads: RouterJSR311 hands over routes that carry their compiled
path expression, which `genRoute` does not.
-/
import Restful.Lemmas.TieImpVocab
import Restful.Lemmas.TieImpMedia
import Restful.Lemmas.TieImpBridge
namespace Restful
namespace TieImp
open Imp

namespace T7

/-- the inner loop over the If-conditions with its `break` -/
theorem all_loop {α : Type} (t : α → Bool) (f : α → Bool → Option (ForInStep Bool)) (l : List α) (b : Bool)
    (hf : ∀ x b, f x b = if (!t x) = true then pure (ForInStep.done false) else pure (ForInStep.yield b)) :
    forIn l b f = some (b && l.all t) := by
  rw [all_loop_gen t f l b false fun x => by rw [hf]; cases t x <;> rfl]
  cases l.all t <;> cases b <;> rfl

/-- the inner loop of `allowedLoop` setting the labelled-continue flag -/
theorem any_flag_loop {α : Type} (t : α → Bool) (f : α → Bool → Option (ForInStep Bool)) (l : List α) (b : Bool)
    (hf : ∀ x b, f x b = if t x = true then pure (ForInStep.done true) else pure (ForInStep.yield b)) :
    forIn l b f = some (b || l.any t) := by
  rw [any_loop_gen t f l b true fun x => by rw [hf]; cases t x <;> rfl]
  cases l.any t <;> cases b <;> rfl

/-- the Allow loop: methods in order of first appearance (the model accumulates in reverse) -/
theorem allowed_loop {α : Type} (g : Route → α)
    (f : α → List Str → Option (ForInStep (List Str))) (rs : List Route) (acc : List Str)
    (hf : ∀ r acc, f (g r) acc = some (.yield (if acc.contains r.method then acc else acc ++ [r.method]))) :
    forIn (rs.map g) acc f = some (allowedMethods rs acc.reverse) := by
  induction rs generalizing acc with
  | nil => simp [allowedMethods]
  | cons r rs ih =>
    rw [List.map_cons, List.forIn_cons, hf, allowedMethods, List.contains_reverse]
    simp only [Option.bind_eq_bind, Option.bind_some]
    cases h : acc.contains r.method
    · simp only [Bool.false_eq_true, if_false]
      rw [ih, List.reverse_append]
      rfl
    · simp only [if_true]
      rw [ih]

end T7

/-- the fields `detectRoute` reads -/
structure ReadsAs (req : Req) (g : Route → ImpGen.GoRoute) : Prop where
  method : ∀ r, (g r).Method = r.method
  produces : ∀ r, (g r).Produces = r.produces
  consumes : ∀ r, (g r).Consumes = r.consumes
  conds : ∀ r, (g r).If = r.conds.map (fun i _ => req.conds.getD i false)
  noct : ∀ r, (g r).allowedMethodsWithoutContentType = r.noct

theorem readsAs_genRoute (req : Req) : ReadsAs req (genRoute req) := ⟨fun _ => rfl, fun _ => rfl, fun _ => rfl, fun _ => rfl, fun _ => rfl⟩

/-- `ofDetect` with the image of the selected route abstracted -/
def ofDetectG (g : Route → ImpGen.GoRoute) : Except (Nat × Option (List Str)) Route → Option ImpGen.GoRoute × Option (Int × List (Str × List Str))
  | .ok r => (some (g r), none)
  | .error (c, allow) =>
    (none, some (((c : Nat) : Int),
      match allow with
      | some ms => [("Allow".toList, [Str.join ", ".toList ms])]
      | none => []))

theorem ofDetect_eq (req : Req) (d : Except (Nat × Option (List Str)) Route) :
    ofDetect req d = ofDetectG (genRoute req) d := by
  cases d with
  | ok r => rfl
  | error e => obtain ⟨c, allow⟩ := e; cases allow <;> rfl

/-- jsr311.go `RouterJSR311.detectRoute` (shared by both routers): the elimination by If-conditions,
    method, Content-Type and Accept, with the status codes 404 / 405 + Allow / 415 / 406, as translated on
    this run IS the model's `detectRoute`, for all route lists and requests -/
theorem detect_route_g (X : ImpGen.Ext) (req : Req) (g : Route → ImpGen.GoRoute) (hg : ReadsAs req g) (routes : List Route) :
    (ImpGen.RouterJSR311_detectRoute X (routes.map g) (genReq req)).map (fun p => (p.1, errView p.2))
      = some (ofDetectG g (detectRoute routes req)) := by
  have hCT : (genReq req).header "Content-Type".toList = req.contentType := by
    dsimp only [genReq]; exact if_pos rfl
  have hAc : (genReq req).header "Accept".toList = req.accept := by
    dsimp only [genReq]; rw [if_neg (by decide), if_pos rfl]
  have hmc : ∀ r ct, ImpGen.Route_matchesContentType X ct (g r).Consumes (g r).Method
      (g r).allowedMethodsWithoutContentType = some (matchesContentType r ct) :=
    fun r ct => by rw [hg.consumes, hg.method, hg.noct]; exact T5.matches_content_type X r ct
  have hma : ∀ r a, ImpGen.Route_matchesAccept X a (g r).Produces = some (matchesAccept r a) :=
    fun r a => by rw [hg.produces]; exact T5.matches_accept X r a
  have hme : ∀ r, ((genReq req).method == (g r).Method) = decide (req.method = r.method) := by
    intro r; rw [hg.method]; show (req.method == r.method) = decide _
    by_cases h : req.method = r.method <;> simp [h]
  unfold ImpGen.RouterJSR311_detectRoute
  unfold_gen_helpers keeping ImpGen.Route_matchesContentType ImpGen.Route_matchesAccept
  dsimp only
  rw [enum_filter_loop g (passesConds · req)]
  case hf =>
    intro k r acc hk
    dsimp only
    have hp : (g r).If.all (fun fn => fn (genReq req)) = passesConds r req := by
      rw [hg.conds]; simp only [passesConds, List.all_map]; rfl
    -- the If-conditions: all of them must hold (a flag and `break`, or a helper returning early)
    rw [all_loop_gen (fun (fn : HttpRequest → Bool) => fn (genReq req))]
    case hf =>
      intro fn
      cases fn (genReq req) <;> rfl
    simp only [hp, at?_nat, List.getElem?_map, hk, Option.map_some, Option.bind_eq_bind, Option.bind_some]
    cases passesConds r req <;> rfl
  simp only [Option.bind_eq_bind, Option.bind_some]
  rw [filter_loop (fun r => some (g r)) (fun r => decide (req.method = r.method))]
  case hf =>
    intro r acc
    simp only [deref, Option.bind_some, hme]
    cases decide (req.method = r.method) <;> rfl
  simp only [Option.bind_some, List.nil_append]
  rw [T7.allowed_loop (fun r => some (g r)) (acc := [])]
  case hf =>
    intro r acc
    have hM : (g r).Method = r.method := hg.method r
    simp only [deref, Option.bind_some, hM]
    -- "the method is listed already": a flag set in an inner loop, in whatever form the body sets it
    rw [any_loop_gen (fun m => m == r.method)]
    case hf =>
      intro m
      cases (m == r.method) <;> rfl
    simp only [List.any_beq', Option.bind_some]
    cases acc.contains r.method <;> rfl
  rw [filter_loop (fun r => some (g r)) (matchesContentType · req.contentType)]
  case hf =>
    intro r acc
    simp only [deref, Option.bind_some, hCT, hmc]
    cases matchesContentType r req.contentType <;> rfl
  simp only [Option.bind_some, List.nil_append, hAc, len_beq_zero', List.isEmpty_map]
  unfold detectRoute
  dsimp only
  generalize routes.filter (fun x => passesConds x req) = c1
  generalize c1.filter (fun r => decide (req.method = r.method)) = c2
  generalize c2.filter (fun x => matchesContentType x req.contentType) = c3
  have hcl : (genReq req).contentLength = req.contentLength := rfl
  have hm : (genReq req).method = req.method := rfl
  have hss : "*/*".toList = starStar := rfl
  simp only [hcl, hm, hss]
  have hne : (req.contentLength != 0) = decide (req.contentLength ≠ 0) := by
    by_cases h : req.contentLength = 0 <;> simp [h]
  have hb : (bodylessMethods.contains req.method && decide (req.contentLength = 0)) =
      ((req.method == "POST".toList || req.method == "PUT".toList || req.method == "PATCH".toList) &&
        req.contentLength == 0) := by
    simp only [bodylessMethods, List.map_cons, List.map_nil, List.contains_cons, List.contains_nil,
      Bool.or_false, Bool.or_assoc]
    rfl
  cases ha : req.accept.isEmpty <;> simp only [if_true, Bool.false_eq_true, if_false]
  case' false => generalize req.accept = a
  case' true => generalize starStar = a
  all_goals
    rw [filter_loop (fun r => some (g r)) (matchesAccept · a)]
    case hf =>
      intro r acc
      simp only [deref, Option.bind_some, hma]
      cases matchesAccept r a <;> rfl
    simp only [Option.bind_some, List.nil_append, List.isEmpty_map,
      apply_ite (Option.map (fun (p : Option ImpGen.GoRoute × GoErr) => (p.1, errView p.2)))]
    generalize c3.filter (fun x => matchesAccept x a) = c4
    rw [total_loop_map (fun r => some (g r)) _ c3 [] _
      (fun (p : Option ImpGen.GoRoute × GoErr) => (p.1, errView p.2))
      (some (none, some (if (bodylessMethods.contains req.method && decide (req.contentLength = 0)) = true
        then (415, []) else (406, []))))]
    case hf => intro r acc; exact ⟨_, rfl⟩
    case hk =>
      intro res
      rw [hb]
      cases ((req.method == "POST".toList || req.method == "PUT".toList || req.method == "PATCH".toList) &&
        req.contentLength == 0) <;> rfl
    rw [hne]
    generalize (bodylessMethods.contains req.method && decide (req.contentLength = 0)) = bb
    generalize decide (req.contentLength ≠ 0) = nz
    generalize c1.isEmpty = e1
    generalize c2.isEmpty = e2
    generalize c3.isEmpty = e3
    -- the eliminations in program order: 404 without a route whose conditions hold, 405 without one for the method
    cases e1
    case true => rfl
    cases e2
    case true => rfl
    -- 415 for a body without a matching Content-Type, then the first route left, 406 / 415 when there is none
    cases c4 with
    | nil => cases e3 <;> cases nz <;> cases bb <;> rfl
    | cons r t => cases e3 <;> cases nz <;> rfl


end TieImp
end Restful
#print axioms Restful.TieImp.detect_route_g
