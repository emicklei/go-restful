/- What the ties of mime.go (`insertMime`, `sortedMimes`) and of response.go `Response.EntityWriter` need: their loops
   with an abstract body, and the model's recursions as `findSome?` / insertion before the first match.  The ties
   themselves are in TieImpNegotiate. -/
import Restful.Lemmas.TieImp
import Restful.Lemmas.TieImpBridge
import Restful.Model.Mime
import Restful.Lemmas.SplitOn
namespace Restful
namespace TieImp
namespace T15
open Imp

/-- insertion before the first element satisfying `p`, else at the end -/
def insP {α : Type} (p : α → Bool) : List α → α → List α
  | [], e => [e]
  | x :: xs, e => if p x then e :: x :: xs else x :: insP p xs e

theorem insP_of_not_any {α : Type} (p : α → Bool) (l : List α) (e : α) (h : l.any p = false) :
    insP p l e = l ++ [e] := by
  induction l with
  | nil => rfl
  | cons x xs ih =>
    simp only [List.any_cons, Bool.or_eq_false_iff] at h
    simp [insP, h.1, ih h.2]

/-- `for i, each := range L { if p each { return L[0:i] ++ [e] ++ L[i:] } }` -/
theorem ins_loop {α : Type} (p : α → Bool) (e : α) (L : List α)
    (f : Int × α → Option (List α) × Unit → Option (ForInStep (Option (List α) × Unit)))
    (hf : ∀ pre x rest, L = pre ++ x :: rest → f ((pre.length : Int), x) (none, ()) =
      some (if p x then .done (some (pre ++ e :: x :: rest), ()) else .yield (none, ())))
    (rest pre : List α) (hL : L = pre ++ rest) :
    forIn (enumFrom pre.length rest) (none, ()) f =
      some (if rest.any p then some (pre ++ insP p rest e) else none, ()) := by
  induction rest generalizing pre with
  | nil => simp [enumFrom_nil]
  | cons x xs ih =>
    rw [enumFrom_cons, List.forIn_cons, hf pre x xs hL]
    by_cases hp : p x = true
    · simp [hp, insP]
    · have := ih (pre ++ [x]) (by simp [hL])
      simp only [List.length_append, List.length_cons, List.length_nil, Nat.zero_add] at this
      simp [hp, insP, this]



theorem ins_loop0 {α : Type} (p : α → Bool) (e : α) (L : List α)
    (f : Int × α → Option (List α) × Unit → Option (ForInStep (Option (List α) × Unit)))
    (hf : ∀ pre x rest, L = pre ++ x :: rest → f ((pre.length : Int), x) (none, ()) =
      some (if p x then .done (some (pre ++ e :: x :: rest), ()) else .yield (none, ()))) :
    forIn (enum L) (none, ()) f = some (if L.any p then some (insP p L e) else none, ()) :=
  ins_loop p e L f hf L [] rfl

theorem insertMime_eq (X : ImpGen.Ext) (l : List ImpGen.GoMime) (e : ImpGen.GoMime) :
    ImpGen.insertMime X l e = some (insP (fun x => X.float_gt e.quality x.quality) l e) := by
  unfold ImpGen.insertMime
  simp only [Option.pure_def, Option.bind_eq_bind]
  rw [ins_loop0 (fun x => X.float_gt e.quality x.quality) e l _ ?hf]
  case hf =>
    intro pre x rest hL
    subst hL
    simp only [slice_zero_append, sliceFrom_append, Option.bind_some, push, List.nil_append,
      List.append_assoc, List.cons_append]
    split <;> rfl
  by_cases h : l.any (fun x => X.float_gt e.quality x.quality) = true
  · simp [h]
  · simp only [Bool.not_eq_true] at h
    simp [h, insP_of_not_any _ _ _ h, push]

/-- what one iteration of the parameter loop does (`break` = `.done`), in the model's terms -/
def paramStep (param : Str) (s : Int × Bool) : ForInStep (Int × Bool) :=
  match Str.split '=' param with
  | [k, v] =>
    if Mime.trimOWS k = Mime.qKey then
      (match Mime.parseQ (Mime.trimOWS v) with
       | some q => .done (((q : Nat) : Int), s.2)
       | none => .done (s.1, false))
    else .yield s
  | _ => .yield s

/-- the result of the parameter loop: `(quality, valid)`; qualities are thousandths (`MimeExt`), `1000` is the `1.0` the
    code starts from -/
def qvOf (ps : List Str) : Int × Bool :=
  match Mime.qualityOf ps with
  | some q => (((q : Nat) : Int), true)
  | none => (1000, false)

theorem param_loop (f : Str → Int × Bool → Option (ForInStep (Int × Bool)))
    (hf : ∀ param s, f param s = some (paramStep param s)) (ps : List Str) :
    forIn ps ((1000 : Int), true) f = some (qvOf ps) := by
  induction ps with
  | nil => rfl
  | cons param rest ih =>
    rw [List.forIn_cons, hf]
    unfold qvOf at ih ⊢
    rcases hs : Str.split '=' param with _ | ⟨k, _ | ⟨v, _ | ⟨w, t⟩⟩⟩
    · simp [paramStep, Mime.qualityOf, hs, ih]
    · simp [paramStep, Mime.qualityOf, hs, ih]
    · simp only [paramStep, Mime.qualityOf, hs]
      by_cases hk : Mime.trimOWS k = Mime.qKey
      · simp only [hk, if_true]
        cases Mime.parseQ (Mime.trimOWS v) <;> rfl
      · simp [hk, ih]
    · simp [paramStep, Mime.qualityOf, hs, ih]

/-- the parameter loop written with early `return`s (a helper `func … (quality, valid)`): what one iteration
    returns, `none` = goes on; after the loop the function returns `(1.0, true)` -/
def paramRet (param : Str) : Option (Int × Bool) :=
  match Str.split '=' param with
  | [k, v] =>
    if Mime.trimOWS k = Mime.qKey then
      (match Mime.parseQ (Mime.trimOWS v) with
       | some q => some (((q : Nat) : Int), true)
       | none => some (1000, false))
    else none
  | _ => none

theorem paramRet_eq (ps : List Str) : (ps.findSome? paramRet).getD (1000, true) = qvOf ps := by
  induction ps with
  | nil => rfl
  | cons param rest ih =>
    unfold qvOf at ih ⊢
    rw [List.findSome?_cons]
    rcases hs : Str.split '=' param with _ | ⟨k, _ | ⟨v, _ | ⟨w, t⟩⟩⟩
    · simp [paramRet, Mime.qualityOf, hs, ih]
    · simp [paramRet, Mime.qualityOf, hs, ih]
    · simp only [paramRet, Mime.qualityOf, hs]
      by_cases hk : Mime.trimOWS k = Mime.qKey
      · simp only [hk, if_true]
        cases Mime.parseQ (Mime.trimOWS v) <;> rfl
      · simp [hk, ih]
    · simp [paramRet, Mime.qualityOf, hs, ih]

theorem at?_zero_cons {α : Type} (x : α) (xs : List α) : at? (x :: xs) 0 = some x := rfl

theorem at?_one_cons {α : Type} (x y : α) (xs : List α) : at? (x :: y :: xs) 1 = some y := rfl

theorem len_two {α : Type} (x y : α) : (len [x, y] == 2) = true := rfl

/-- a loop whose iterations either `return` a value or go on, through a representation `g` of the elements -/
theorem findSome_loop_map {α β ρ : Type} (g : β → α) (step : β → Option ρ)
    (f : α → Option ρ × Unit → Option (ForInStep (Option ρ × Unit)))
    (hf : ∀ x, f (g x) (none, ()) =
      some (match step x with | some r => .done (some r, ()) | none => .yield (none, ()))) (l : List β) :
    forIn (l.map g) (none, ()) f = some (l.findSome? step, ()) := by
  induction l with
  | nil => rfl
  | cons x xs ih =>
    rw [List.map_cons, List.forIn_cons, hf]
    cases hx : step x with
    | none => simpa [hx] using ih
    | some r => simp [hx]

theorem findSome_loop {α ρ : Type} (step : α → Option ρ)
    (f : α → Option ρ × Unit → Option (ForInStep (Option ρ × Unit)))
    (hf : ∀ x, f x (none, ()) =
      some (match step x with | some r => .done (some r, ()) | none => .yield (none, ()))) (l : List α) :
    forIn l (none, ()) f = some (l.findSome? step, ()) := by
  simpa using findSome_loop_map id step f hf l

/-- `entityAccessRegistry.accessorAt` as the translation sees it, instantiated by the model's -/
def accV (reg : List Str) (idOf : Str → Nat) (m : Str) : GoAccessor × Bool :=
  match Mime.accessorAt reg m with
  | [] => (default, false)
  | k :: _ => (idOf k, true)

/-- the model's answer (a list of at most one key) as the `(w, true)` the code returns early -/
def wv (idOf : Str → Nat) (w : List Str) : Option (GoAccessor × Bool) := w.head?.map (fun k => (idOf k, true))

theorem wv_isNone (idOf : Str → Nat) (w : List Str) : (wv idOf w).isNone = w.isEmpty := by
  cases w <;> rfl

/-- `if w, ok := accessorAt(m); ok { return w, true }` -/
def accStep (reg : List Str) (idOf : Str → Nat) (m : Str) : Option (GoAccessor × Bool) :=
  if (accV reg idOf m).snd then some ((accV reg idOf m).fst, true) else none

theorem accStep_eq (reg : List Str) (idOf : Str → Nat) (m : Str) :
    accStep reg idOf m = wv idOf (Mime.accessorAt reg m) := by
  unfold accStep accV wv
  cases Mime.accessorAt reg m <;> rfl

theorem firstProduced_eq (reg : List Str) (idOf : Str → Nat) (p : List Str) :
    p.findSome? (accStep reg idOf) = wv idOf (Mime.firstProduced reg p) := by
  induction p with
  | nil => rfl
  | cons x xs ih =>
    rw [List.findSome?_cons, accStep_eq, Mime.firstProduced]
    cases h : Mime.accessorAt reg x with
    | nil => simpa [wv] using ih
    | cons k t => simp [wv]

theorem walkProduces_eq (reg : List Str) (idOf : Str → Nat) (media : Str) (p : List Str) :
    p.findSome? (fun x => if x == media then accStep reg idOf media else none)
      = wv idOf (Mime.walkProduces reg media p) := by
  induction p with
  | nil => rfl
  | cons x xs ih =>
    rw [List.findSome?_cons, Mime.walkProduces]
    by_cases hx : x = media
    · subst hx
      simp only [beq_self_eq_true, if_true, accStep_eq] at ih ⊢
      cases h : Mime.accessorAt reg x with
      | nil => simp only [h] at ih; simpa [wv] using ih
      | cons k t => simp [wv]
    · simpa [hx] using ih

/-- `for each in produces { if w, ok := accessorAt(each); ok { return w, true } }` -/
theorem first_loop (reg : List Str) (idOf : Str → Nat) (p : List Str) :
    forIn p ((none : Option (GoAccessor × Bool)), ()) (fun each _ =>
      if (accV reg idOf each).snd = true then
        some (ForInStep.done (some ((accV reg idOf each).fst, true), ()))
      else some (ForInStep.yield (none, ()))) = some (wv idOf (Mime.firstProduced reg p), ()) := by
  rw [findSome_loop (accStep reg idOf), firstProduced_eq]
  intro x
  unfold accStep
  split <;> rfl

/-- `for each in produces { if each == media { if w, ok := accessorAt(media); ok { return w, true } } }` -/
theorem match_loop (reg : List Str) (idOf : Str → Nat) (media : Str) (p : List Str) :
    forIn p ((none : Option (GoAccessor × Bool)), ()) (fun each _ =>
      if (each == media) = true then
        if (accV reg idOf media).snd = true then
          some (ForInStep.done (some ((accV reg idOf media).fst, true), ()))
        else some (ForInStep.yield (none, ()))
      else some (ForInStep.yield (none, ()))) = some (wv idOf (Mime.walkProduces reg media p), ()) := by
  rw [findSome_loop (fun x => if x == media then accStep reg idOf media else none), walkProduces_eq]
  intro x
  unfold accStep
  split
  · split <;> rfl
  · rfl

/-- one iteration of the loop over the sorted ranges -/
def walkStep (reg : List Str) (idOf : Str → Nat) (p : List Str) (m : Mime.Mime) : Option (GoAccessor × Bool) :=
  match wv idOf (Mime.walkProduces reg m.media p) with
  | some r => some r
  | none => if m.media = starStar then wv idOf (Mime.firstProduced reg p) else none

theorem walk_eq (reg : List Str) (idOf : Str → Nat) (p : List Str) (ms : List Mime.Mime) :
    ms.findSome? (walkStep reg idOf p) = wv idOf (Mime.walk reg p ms) := by
  induction ms with
  | nil => rfl
  | cons m ms ih =>
    rw [List.findSome?_cons, Mime.walk, walkStep]
    cases h1 : Mime.walkProduces reg m.media p with
    | cons k t => simp [wv]
    | nil =>
      by_cases hm : m.media = starStar
      · cases h2 : Mime.firstProduced reg p with
        | cons k t => simp [wv, hm]
        | nil => simpa [wv, hm, h2] using ih
      · simpa [wv, hm] using ih

end T15
end TieImp
end Restful
