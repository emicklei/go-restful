/-
Lock discipline ⇒ no two conflicting accesses are ever simultaneously enabled;
acyclic lock order ⇒ no deadlock.

Interleaving semantics of threads that acquire/release reader-writer locks (`sync.RWMutex`) and
read/write shared variables.  No bound on the number of threads, the length of their programs or
the number of locks and variables.

Self-contained: core library only.
-/
namespace Restful.Lockset

inductive Mode | R | W
  deriving DecidableEq, Repr

inductive Action
  | acq (l : Nat) (m : Mode)
  | rel (l : Nat) (m : Mode)
  | read (x : Nat)
  | write (x : Nat)
  | other
  deriving DecidableEq, Repr

/-- what a thread still has to do -/
abbrev Prog := List Action

/-- `writer`: the thread holding the lock exclusively; `readers`: the threads holding it shared
    (with multiplicity) -/
structure LockSt where
  writer : Option Nat
  readers : List Nat

/-- thread id = index in `threads` -/
structure State where
  threads : List Prog
  locks : Nat → LockSt

/-! ### semantics -/

def upd {α : Type} (f : Nat → α) (i : Nat) (v : α) : Nat → α := fun j => if j = i then v else f j

@[simp] theorem upd_same {α : Type} (f : Nat → α) (i : Nat) (v : α) : upd f i v i = v := by
  simp [upd]

@[simp] theorem upd_ne {α : Type} (f : Nat → α) {i j : Nat} (v : α) (h : j ≠ i) :
    upd f i v j = f j := by
  simp [upd, h]

/-- `Lock()` succeeds iff nobody holds the lock; `RLock()` iff no writer holds it.
    (Go additionally lets a *pending* `Lock()` hold back new `RLock()`s.  That is a fairness device:
    it removes behaviours, so every safety statement proved here is unaffected.  For deadlocks see
    the remark at `no_deadlock`.) -/
def canAcq (ls : LockSt) : Mode → Bool
  | .W => ls.writer.isNone && ls.readers.isEmpty
  | .R => ls.writer.isNone

def doAcq (ls : LockSt) (t : Nat) : Mode → LockSt
  | .W => ⟨some t, ls.readers⟩
  | .R => ⟨ls.writer, t :: ls.readers⟩

/-- a thread can release only what it holds -/
def canRel (ls : LockSt) (t : Nat) : Mode → Bool
  | .W => decide (ls.writer = some t)
  | .R => decide (t ∈ ls.readers)

def doRel (ls : LockSt) (t : Nat) : Mode → LockSt
  | .W => ⟨none, ls.readers⟩
  | .R => ⟨ls.writer, ls.readers.erase t⟩

def enabled (locks : Nat → LockSt) (t : Nat) : Action → Bool
  | .acq l m => canAcq (locks l) m
  | .rel l m => canRel (locks l) t m
  | _ => true

def effect (locks : Nat → LockSt) (t : Nat) : Action → (Nat → LockSt)
  | .acq l m => upd locks l (doAcq (locks l) t m)
  | .rel l m => upd locks l (doRel (locks l) t m)
  | _ => locks

/-- thread `t` executes its next action, if it has one and it is enabled -/
def step (σ : State) (t : Nat) : Option State :=
  match σ.threads[t]? with
  | some (a :: rest) =>
    if enabled σ.locks t a then some ⟨σ.threads.set t rest, effect σ.locks t a⟩ else none
  | _ => none

def init (progs : List Prog) : State := ⟨progs, fun _ => ⟨none, []⟩⟩

inductive Reachable : State → State → Prop
  | refl (σ : State) : Reachable σ σ
  | tail {σ σ' σ'' : State} {t : Nat} : Reachable σ σ' → step σ' t = some σ'' → Reachable σ σ''

def nextIs (σ : State) (t : Nat) (a : Action) : Prop := ∃ rest, σ.threads[t]? = some (a :: rest)

inductive Kind | read | write
  deriving DecidableEq, Repr

def access (x : Nat) : Kind → Action
  | .read => .read x
  | .write => .write x

/-! ### the discipline -/

/-- the locks a thread holds, as a multiset -/
abbrev Held := List (Nat × Mode)

def after (held : Held) : Action → Held
  | .acq l m => (l, m) :: held
  | .rel l m => held.erase (l, m)
  | _ => held

def okNow (guard : Nat → Nat) (held : Held) : Action → Bool
  | .acq l _ => !decide ((l, Mode.R) ∈ held) && !decide ((l, Mode.W) ∈ held)   -- no re-entrancy
  | .rel l m => decide ((l, m) ∈ held)
  | .read x => decide ((guard x, Mode.R) ∈ held) || decide ((guard x, Mode.W) ∈ held)
  | .write x => decide ((guard x, Mode.W) ∈ held)
  | .other => true

/-- every read of `x` happens while `guard x` is held (shared or exclusively), every write while it
    is held exclusively, only held locks are released, no lock is re-acquired while held, and the
    program ends holding nothing -/
def Disciplined (guard : Nat → Nat) : Held → Prog → Bool
  | held, [] => held.isEmpty
  | held, a :: p => okNow guard held a && Disciplined guard (after held a) p

def ordNow (rank : Nat → Nat) (held : Held) : Action → Bool
  | .acq l _ => held.all (fun h => decide (rank h.1 < rank l))
  | _ => true

/-- every acquisition of `l` happens while all held locks have rank strictly below `rank l` -/
def Ordered (rank : Nat → Nat) : Held → Prog → Bool
  | _, [] => true
  | held, a :: p => ordNow rank held a && Ordered rank (after held a) p

theorem Disciplined_cons {guard : Nat → Nat} {held : Held} {a : Action} {p : Prog}
    (h : Disciplined guard held (a :: p) = true) :
    okNow guard held a = true ∧ Disciplined guard (after held a) p = true := by
  simpa [Disciplined] using h

theorem Ordered_cons {rank : Nat → Nat} {held : Held} {a : Action} {p : Prog}
    (h : Ordered rank held (a :: p) = true) :
    ordNow rank held a = true ∧ Ordered rank (after held a) p = true := by
  simpa [Ordered] using h

/-! ### the invariant: the lock state is exactly what the threads' held-sets say -/

/-- lock `l` in state `ls` agrees with the held-sets `H` -/
structure LockOK (ls : LockSt) (l : Nat) (H : Nat → Held) : Prop where
  wr : ∀ t, (H t).count (l, Mode.W) = if ls.writer = some t then 1 else 0
  rd : ∀ t, (H t).count (l, Mode.R) = ls.readers.count t
  excl : ls.writer ≠ none → ls.readers = []

section
variable {ls : LockSt} {l : Nat} {H : Nat → Held}

theorem LockOK.frame {H' : Nat → Held} (h : LockOK ls l H)
    (hc : ∀ t m, (H' t).count (l, m) = (H t).count (l, m)) : LockOK ls l H' :=
  ⟨fun t => by rw [hc]; exact h.wr t, fun t => by rw [hc]; exact h.rd t, h.excl⟩

theorem LockOK.mem_W (h : LockOK ls l H) (t : Nat) :
    (l, Mode.W) ∈ H t ↔ ls.writer = some t := by
  rw [← List.count_pos_iff, h.wr t]
  split <;> simp [*]

theorem LockOK.mem_R (h : LockOK ls l H) (t : Nat) :
    (l, Mode.R) ∈ H t ↔ t ∈ ls.readers := by
  rw [← List.count_pos_iff, h.rd t, List.count_pos_iff]

theorem LockOK.exclusive (h : LockOK ls l H) {s s' : Nat} (hss : s ≠ s') (hW : (l, Mode.W) ∈ H s)
    (m : Mode) : (l, m) ∉ H s' := by
  have hw := (h.mem_W s).mp hW
  intro hm
  cases m with
  | W => exact hss (Option.some.inj (hw.symm.trans ((h.mem_W s').mp hm)))
  | R => exact List.not_mem_nil (h.excl (hw ▸ nofun) ▸ (h.mem_R s').mp hm)

theorem count_upd {H : Nat → Held} {t : Nat} {v : Held} {e : Nat × Mode}
    (hv : v.count e = (H t).count e) (t' : Nat) : (upd H t v t').count e = (H t').count e := by
  by_cases ht : t' = t
  · rw [ht, upd_same, hv]
  · rw [upd_ne _ _ ht]

theorem LockOK.acq (h : LockOK ls l H) (t : Nat)
    (m : Mode) (hen : canAcq ls m = true) :
    LockOK (doAcq ls t m) l (upd H t ((l, m) :: H t)) := by
  cases m with
  | W =>
    simp only [canAcq, Bool.and_eq_true, Option.isNone_iff_eq_none, List.isEmpty_iff] at hen
    have hw0 : ∀ t', (H t').count (l, Mode.W) = 0 := fun t' => by simp [h.wr t', hen.1]
    refine ⟨fun t' => ?_, fun t' => (count_upd (List.count_cons_of_ne (by simp)) t').trans (h.rd t'),
      fun _ => hen.2⟩
    by_cases ht : t' = t
    · simp [doAcq, ht, hw0]
    · simp [doAcq, ht, hw0, Ne.symm ht]
  | R =>
    simp only [canAcq, Option.isNone_iff_eq_none] at hen
    refine ⟨fun t' => (count_upd (List.count_cons_of_ne (by simp)) t').trans (h.wr t'), fun t' => ?_,
      fun hw => absurd hen hw⟩
    by_cases ht : t' = t
    · simpa [doAcq, ht, List.count_cons] using h.rd t
    · simpa [doAcq, ht, List.count_cons, Ne.symm ht] using h.rd t'

theorem LockOK.rel (h : LockOK ls l H) (t : Nat)
    (m : Mode) (hm : (l, m) ∈ H t) :
    LockOK (doRel ls t m) l (upd H t ((H t).erase (l, m))) := by
  cases m with
  | W =>
    have hw : ls.writer = some t := (h.mem_W t).mp hm
    refine ⟨fun t' => ?_, fun t' => (count_upd (List.count_erase_of_ne (by simp)) t').trans (h.rd t'),
      fun hc => absurd rfl hc⟩
    by_cases ht : t' = t
    · simp [doRel, ht, h.wr t, hw]
    · simpa [doRel, ht, hw, Ne.symm ht] using h.wr t'
  | R =>
    refine ⟨fun t' => (count_upd (List.count_erase_of_ne (by simp)) t').trans (h.wr t'), fun t' => ?_,
      fun hw => by simp [doRel, h.excl hw]⟩
    by_cases ht : t' = t
    · simp [doRel, ht, List.count_erase_self, h.rd t]
    · simp [doRel, ht, List.count_erase_of_ne ht, h.rd t']

end

/-- `ok` is any additional property of (held-set, remaining program) that is passed on along
    execution – `fun _ _ => true` for `lockset_sound`, `Ordered rank` for `no_deadlock` -/
structure Inv (guard : Nat → Nat) (ok : Held → Prog → Bool) (σ : State) (H : Nat → Held) :
    Prop where
  prog : ∀ t p, σ.threads[t]? = some p → Disciplined guard (H t) p = true ∧ ok (H t) p = true
  out : ∀ t, σ.threads.length ≤ t → H t = []
  lock : ∀ l, LockOK (σ.locks l) l H

variable {guard : Nat → Nat} {ok : Held → Prog → Bool} {σ : State} {H : Nat → Held}

theorem step_eq_some {σ σ' : State} {t : Nat} (h : step σ t = some σ') :
    ∃ a rest, σ.threads[t]? = some (a :: rest) ∧ enabled σ.locks t a = true ∧
      σ' = ⟨σ.threads.set t rest, effect σ.locks t a⟩ := by
  unfold step at h
  split at h
  · rename_i a rest heq
    split at h
    · rename_i hen
      exact ⟨a, rest, heq, hen, by cases h; rfl⟩
    · cases h
  · cases h

/-- A step of thread `t` keeps `Inv`; the new held-sets are the old ones with `after` applied to `t`'s.
    The acted-on lock goes through `LockOK.acq` / `LockOK.rel` (the release is of something held,
    by discipline), every other lock through `LockOK.frame`: its counts are untouched. -/
theorem step_inv (hok : ∀ held a p, ok held (a :: p) = true → ok (after held a) p = true)
    {σ' : State} {t : Nat} (hi : Inv guard ok σ H)
    (hs : step σ t = some σ') : ∃ H', Inv guard ok σ' H' := by
  obtain ⟨a, rest, hth, hen, rfl⟩ := step_eq_some hs
  have htlt : t < σ.threads.length := by
    rcases Nat.lt_or_ge t σ.threads.length with h | h
    · exact h
    · rw [List.getElem?_eq_none h] at hth; cases hth
  have hdisc := Disciplined_cons (hi.prog t _ hth).1
  refine ⟨upd H t (after (H t) a), ?_, ?_, ?_⟩
  · intro t' p hp
    simp only [List.getElem?_set] at hp
    by_cases ht : t = t'
    · subst ht
      simp only [if_true, htlt] at hp
      cases hp
      simpa using ⟨hdisc.2, hok _ _ _ (hi.prog t _ hth).2⟩
    · simp only [ht, if_false] at hp
      have : t' ≠ t := fun e => ht e.symm
      simpa [this] using hi.prog t' p hp
  · intro t' hlen
    simp only [List.length_set] at hlen
    have : t' ≠ t := by omega
    simpa [this] using hi.out t' hlen
  · intro l
    have other : ∀ v : Held, (∀ m, v.count (l, m) = (H t).count (l, m)) → LockOK (σ.locks l) l (upd H t v) :=
      fun v hv => (hi.lock l).frame fun t' m => count_upd (hv m) t'
    cases a with
    | acq l' m =>
      by_cases hl : l = l'
      · subst hl; simpa [effect, after] using (hi.lock l).acq t m hen
      · simpa [effect, after, hl] using other _ fun _ => List.count_cons_of_ne (by simp [Ne.symm hl])
    | rel l' m =>
      by_cases hl : l = l'
      · subst hl
        have hm : (l, m) ∈ H t := by simpa [okNow] using hdisc.1
        simpa [effect, after] using (hi.lock l).rel t m hm
      · simpa [effect, after, hl] using other _ fun _ => List.count_erase_of_ne (by simp [hl])
    | _ => exact other _ fun _ => rfl

theorem reachable_inv (hok : ∀ held a p, ok held (a :: p) = true → ok (after held a) p = true)
    (progs : List Prog)
    (hd : ∀ p ∈ progs, Disciplined guard [] p = true) (ho : ∀ p ∈ progs, ok [] p = true)
    (hreach : Reachable (init progs) σ) : ∃ H, Inv guard ok σ H := by
  induction hreach with
  | refl =>
    exact ⟨fun _ => [], fun t p h => ⟨hd p (List.mem_of_getElem? h), ho p (List.mem_of_getElem? h)⟩,
      fun _ _ => rfl, fun l => ⟨fun t => by simp [init], fun t => by simp [init], fun _ => rfl⟩⟩
  | tail _ hs ih =>
    obtain ⟨H, hi⟩ := ih
    exact step_inv hok hi hs

/-! ### lockset soundness -/

/-- a thread about to access `x` holds `guard x`; exclusively if the access is a write -/
theorem Inv.holds_guard (hi : Inv guard ok σ H) {t x : Nat} {k : Kind}
    (hn : nextIs σ t (access x k)) : ∃ m, (guard x, m) ∈ H t ∧ (k = .write → m = .W) := by
  obtain ⟨rest, hth⟩ := hn
  have h := (Disciplined_cons (hi.prog t _ hth).1).1
  cases k with
  | read =>
    simp only [access, okNow, Bool.or_eq_true, decide_eq_true_eq] at h
    exact h.elim (fun h => ⟨.R, h, nofun⟩) (fun h => ⟨.W, h, fun _ => rfl⟩)
  | write => exact ⟨.W, by simpa [access, okNow] using h, fun _ => rfl⟩

/-- **Lockset soundness.**  If every thread's program is disciplined w.r.t. the guard assignment,
    then in no reachable state do two different threads have conflicting accesses (same variable,
    at least one write) as their next actions. -/
theorem lockset_sound (guard : Nat → Nat) (progs : List Prog)
    (hd : ∀ p ∈ progs, Disciplined guard [] p = true)
    (σ : State) (hreach : Reachable (init progs) σ) (k k' : Kind) :
    ¬ ∃ t t' x, t ≠ t' ∧ nextIs σ t (access x k) ∧ nextIs σ t' (access x k') ∧
        (k = Kind.write ∨ k' = Kind.write) := by
  rintro ⟨t, t', x, hne, hn, hn', hk⟩
  obtain ⟨H, hi⟩ := reachable_inv (guard := guard) (ok := fun _ _ => true)
    (fun _ _ _ _ => rfl) progs hd (fun _ _ => rfl) hreach
  obtain ⟨m, hm, hw⟩ := hi.holds_guard hn
  obtain ⟨m', hm', hw'⟩ := hi.holds_guard hn'
  rcases hk with hk | hk
  · exact (hi.lock _).exclusive hne (hw hk ▸ hm) m' hm'
  · exact (hi.lock _).exclusive (Ne.symm hne) (hw' hk ▸ hm') m hm

/-! ### deadlock freedom -/

/-- rank of the lock a program wants next (0 if its next action is no acquisition) -/
def headRank (rank : Nat → Nat) : Prog → Nat
  | .acq l _ :: _ => rank l
  | _ => 0

def bound (rank : Nat → Nat) : List Prog → Nat
  | [] => 0
  | p :: ps => max (headRank rank p) (bound rank ps)

theorem headRank_le_bound (rank : Nat → Nat) (ps : List Prog) (p : Prog) (h : p ∈ ps) :
    headRank rank p ≤ bound rank ps := by
  induction ps with
  | nil => cases h
  | cons q qs ih =>
    simp only [bound]
    rcases List.mem_cons.mp h with rfl | h
    · exact Nat.le_max_left _ _
    · exact Nat.le_trans (ih h) (Nat.le_max_right _ _)

/-- whoever holds a lock has not finished -/
theorem Inv.holder_unfinished (hi : Inv guard ok σ H) {t : Nat} {e : Nat × Mode} (he : e ∈ H t) :
    ∃ a rest, σ.threads[t]? = some (a :: rest) := by
  rcases Nat.lt_or_ge t σ.threads.length with hlt | hge
  · have hth : σ.threads[t]? = some σ.threads[t] := List.getElem?_eq_getElem hlt
    cases hp : σ.threads[t] with
    | nil =>
      rw [hp] at hth
      have := (hi.prog t _ hth).1
      simp only [Disciplined, List.isEmpty_iff] at this
      rw [this] at he; cases he
    | cons a rest => rw [hp] at hth; exact ⟨a, rest, hth⟩
  · rw [hi.out t hge] at he; cases he

/-- an unfinished thread that cannot step is waiting for a lock held by somebody -/
theorem Inv.stuck (hi : Inv guard ok σ H) {t : Nat} {a : Action} {rest : Prog}
    (hth : σ.threads[t]? = some (a :: rest)) (hstuck : step σ t = none) :
    ∃ l m, a = .acq l m ∧ ∃ t' m', (l, m') ∈ H t' := by
  have hen : enabled σ.locks t a = false := by
    cases h : enabled σ.locks t a with
    | false => rfl
    | true => simp [step, hth, h] at hstuck
  have hdisc := (Disciplined_cons (hi.prog t _ hth).1).1
  cases a with
  | acq l m =>
    refine ⟨l, m, rfl, ?_⟩
    -- somebody holds `l`: a writer, or (for `Lock()`) a reader
    cases hw : (σ.locks l).writer with
    | some t' => exact ⟨t', .W, ((hi.lock l).mem_W t').mpr hw⟩
    | none =>
      cases hr : (σ.locks l).readers with
      | cons t' r => exact ⟨t', .R, ((hi.lock l).mem_R t').mpr (hr ▸ List.mem_cons_self)⟩
      | nil => cases m <;> simp [enabled, canAcq, hw, hr] at hen
  | rel l m =>
    exfalso
    have hm : (l, m) ∈ H t := by simpa [okNow] using hdisc
    have hl := hi.lock l
    cases m with
    | W => simp [enabled, canRel, (hl.mem_W t).mp hm] at hen
    | R => simp [enabled, canRel, (hl.mem_R t).mp hm] at hen
  | _ => cases hen

/-- **No deadlock.**  If all programs are disciplined (in particular: they release what they
    acquire) and acquire locks in strictly increasing rank, then in every reachable state in which
    some thread has not finished, some thread can make a step.

    Go's writer preference (a pending `Lock()` holds back NEW `RLock()`s) is not modelled.  It
    cannot introduce a deadlock here.  A writer is pending on `l` only while some other thread
    holds `l`; so a reader held back by a pending writer waits, in effect, for a current holder of
    that same lock – a thread different from the reader, because no thread re-acquires a lock it
    holds.  That is the waits-for edge followed in the proof below (blocked on `l` ⟶ a holder of
    `l`, which is unfinished and either can move or wants a lock of strictly greater rank), and
    the same bounded-rank argument ends the chain at a thread that can move under writer
    preference too.  The one way writer preference does create a cycle is a thread re-acquiring a
    read lock it already holds (it waits for the pending writer, which waits for it); that is
    excluded by `Ordered` (the held lock would need rank strictly below itself) and by
    `Disciplined`. -/
theorem no_deadlock (guard : Nat → Nat) (rank : Nat → Nat) (progs : List Prog)
    (hd : ∀ p ∈ progs, Disciplined guard [] p = true)
    (ho : ∀ p ∈ progs, Ordered rank [] p = true)
    (σ : State) (hreach : Reachable (init progs) σ)
    (hunfinished : ∃ (t : Nat) (a : Action) (rest : Prog), σ.threads[t]? = some (a :: rest)) :
    ∃ t σ', step σ t = some σ' := by
  obtain ⟨H, hi⟩ := reachable_inv (guard := guard) (ok := Ordered rank)
    (fun _ _ _ h => (Ordered_cons h).2) progs hd ho hreach
  -- follow the waits-for chain; the rank of the wanted lock strictly increases and is bounded
  have chain : ∀ (fuel : Nat) (t l : Nat) (m : Mode) (rest : Prog),
      σ.threads[t]? = some (.acq l m :: rest) → bound rank σ.threads < rank l + fuel →
      ∃ t σ', step σ t = some σ' := by
    intro fuel
    induction fuel with
    | zero =>
      intro t l m rest hth hb
      have := headRank_le_bound rank σ.threads _ (List.mem_of_getElem? hth)
      simp only [headRank] at this
      omega
    | succ fuel ih =>
      intro t l m rest hth hb
      cases hst : step σ t with
      | some σ' => exact ⟨t, σ', hst⟩
      | none =>
        obtain ⟨l₁, m₁, heq, t', m', hheld⟩ := hi.stuck hth hst
        cases heq
        obtain ⟨a', rest', hth'⟩ := hi.holder_unfinished hheld
        cases hst' : step σ t' with
        | some σ' => exact ⟨t', σ', hst'⟩
        | none =>
          obtain ⟨l', m'', heq', _⟩ := hi.stuck hth' hst'
          subst heq'
          have hord := (Ordered_cons (hi.prog t' _ hth').2).1
          simp only [ordNow, List.all_eq_true, decide_eq_true_eq] at hord
          have hlt : rank l < rank l' := hord _ hheld
          exact ih t' l' m'' rest' hth' (by omega)
  obtain ⟨t, a, rest, hth⟩ := hunfinished
  cases hst : step σ t with
  | some σ' => exact ⟨t, σ', hst⟩
  | none =>
    obtain ⟨l, m, heq, _⟩ := hi.stuck hth hst
    subst heq
    exact chain (bound rank σ.threads + 1) t l m rest hth (by omega)

/-! ### non-vacuity -/

/-- a reader taking locks 0 then 1 (variables 0 and 3), and a writer on lock 0 -/
def exReader : Prog := [.acq 0 .R, .read 0, .acq 1 .R, .read 3, .rel 1 .R, .rel 0 .R]
def exWriter : Prog := [.acq 0 .W, .read 0, .write 0, .rel 0 .W]
/-- variable 3 is guarded by lock 1, everything else by lock 0 -/
def exGuard (x : Nat) : Nat := if x = 3 then 1 else 0

theorem ex_disciplined : ∀ p ∈ [exReader, exWriter], Disciplined exGuard [] p = true := by decide +kernel
theorem ex_ordered : ∀ p ∈ [exReader, exWriter], Ordered id [] p = true := by decide +kernel

example : ∀ p ∈ [exReader, exWriter], Disciplined exGuard [] p = true := ex_disciplined
example : ∀ p ∈ [exReader, exWriter], Ordered id [] p = true := ex_ordered
/-- an undisciplined program is rejected: writing under a read lock -/
example : Disciplined exGuard [] [.acq 0 .R, .write 0, .rel 0 .R] = false := by decide +kernel
/-- a wrongly ordered program is rejected -/
example : Ordered id [] [.acq 1 .R, .acq 0 .R, .rel 0 .R, .rel 1 .R] = false := by decide +kernel

/-- the two theorems apply to the example system -/
example (σ : State) (h : Reachable (init [exReader, exWriter]) σ) (k k' : Kind) :
    ¬ ∃ t t' x, t ≠ t' ∧ nextIs σ t (access x k) ∧ nextIs σ t' (access x k') ∧
        (k = Kind.write ∨ k' = Kind.write) :=
  lockset_sound exGuard _ ex_disciplined σ h k k'

example (σ : State) (h : Reachable (init [exReader, exWriter]) σ)
    (hu : ∃ (t : Nat) (a : Action) (rest : Prog), σ.threads[t]? = some (a :: rest)) : ∃ t σ', step σ t = some σ' :=
  no_deadlock exGuard id _ ex_disciplined ex_ordered σ h hu

/-- run a schedule (a list of thread ids); `none` if some step is not enabled -/
def runSched (σ : State) : List Nat → Option State
  | [] => some σ
  | t :: ts => (step σ t).bind (fun σ' => runSched σ' ts)

theorem Reachable.trans {σ σ' σ'' : State} (h₁ : Reachable σ σ') (h₂ : Reachable σ' σ'') :
    Reachable σ σ'' := by
  induction h₂ with
  | refl => exact h₁
  | tail _ hs ih => exact .tail ih hs

theorem runSched_reachable {σ σ' : State} {ts : List Nat} (h : runSched σ ts = some σ') :
    Reachable σ σ' := by
  induction ts generalizing σ with
  | nil =>
    cases h
    exact .refl _
  | cons t ts ih =>
    simp only [runSched] at h
    cases hs : step σ t with
    | none => simp [hs] at h
    | some σ₁ =>
      simp only [hs, Option.bind_some] at h
      exact (Reachable.tail (.refl _) hs).trans (ih h)

/-- thread `t` runs until it is blocked or has finished (at most `fuel` steps) -/
def runThread (σ : State) (t : Nat) : Nat → State
  | 0 => σ
  | fuel + 1 =>
    match step σ t with
    | some σ' => runThread σ' t fuel
    | none => σ

theorem runThread_reachable (σ : State) (t fuel : Nat) : Reachable σ (runThread σ t fuel) := by
  induction fuel generalizing σ with
  | zero => exact .refl σ
  | succ n ih =>
    simp only [runThread]
    cases hs : step σ t with
    | none => exact .refl σ
    | some σ' => exact (Reachable.tail (.refl _) hs).trans (ih σ')

/-- the example system really runs, interleaved, to completion … -/
example : ((runSched (init [exReader, exWriter]) [0, 0, 0, 0, 0, 0, 1, 1, 1, 1]).map
    (·.threads)) = some [[], []] := by decide +kernel
example : ((runSched (init [exReader, exWriter]) [1, 1, 1, 1, 0, 0, 0, 0, 0, 0]).map
    (·.threads)) = some [[], []] := by decide +kernel
/-- … and locks do block: once the reader holds lock 0 the writer cannot take it, and vice versa -/
example : (runSched (init [exReader, exWriter]) [0, 1]).isNone = true := by decide +kernel
example : (runSched (init [exReader, exWriter]) [1, 0]).isNone = true := by decide +kernel
/-- two readers share a lock -/
example : ((runSched (init [exReader, exReader]) [0, 1, 0, 1]).map (·.threads.map List.length)) =
    some [4, 4] := by decide +kernel

end Restful.Lockset
