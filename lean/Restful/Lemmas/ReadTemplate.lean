/- what being a built route, and the checked reading `readTemplate` of its path, give the proofs -/
import Restful.Spec.Admits
namespace Restful

/-- route_builder.go:314 `Build`: a built route is `svc.build` of a declared route -/
theorem Service.mem_built {svc : Service} {rt : Route} : rt ∈ svc.built ↔ ∃ rd ∈ svc.routes, rt = svc.build rd := by
  simp only [Service.built, List.mem_map, eq_comm]

theorem Service.built_path (svc : Service) {rt : Route} (h : rt ∈ svc.built) :
    rt.path = concatPath svc.rootPath rt.relPath := by
  obtain ⟨rd, _, rfl⟩ := Service.mem_built.mp h
  rfl

theorem Service.built_svc (svc : Service) {rt : Route} (h : rt ∈ svc.built) : rt.svc = svc.id := by
  obtain ⟨rd, _, rfl⟩ := Service.mem_built.mp h
  rfl

theorem Service.built_root (svc : Service) {rt : Route} (h : rt ∈ svc.built) : rt.root = svc.rootPath := by
  obtain ⟨rd, _, rfl⟩ := Service.mem_built.mp h
  rfl

theorem Config.template_of_wf {cfg : Config} (hwf : cfg.wfTemplates = true) {svc : Service}
    (hsvc : svc ∈ cfg.services) {rt : Route} (hrt : rt ∈ svc.built) :
    ∃ ts, Spec.templateOf cfg.router rt = some ts := by
  unfold Config.wfTemplates at hwf
  simp only [List.all_eq_true] at hwf
  exact Option.isSome_iff_exists.mp (hwf svc hsvc rt hrt)

theorem readTemplate_eq_some_iff {path : Str} {ts : List TTok} :
    readTemplate path = some ts ↔
      readToks (tokenize path) = some ts ∧ shapeOK ts = true ∧ hasCustomVerb path = lastHasVerb ts ∧
        (varNames ts).Nodup := by
  unfold readTemplate
  cases readToks (tokenize path) with
  | none => simp
  | some ts' =>
    simp only [Option.ite_none_right_eq_some, Option.some.injEq, Bool.and_eq_true, beq_iff_eq, decide_eq_true_eq]
    constructor
    · rintro ⟨⟨⟨h1, h2⟩, h3⟩, rfl⟩
      exact ⟨rfl, h1, h2, h3⟩
    · rintro ⟨rfl, h1, h2, h3⟩
      exact ⟨⟨⟨h1, h2⟩, h3⟩, rfl⟩

theorem readTemplate_facts {path : Str} {ts : List TTok} (h : readTemplate path = some ts) :
    ts.map TTok.render = tokenize path ∧ (∀ t ∈ ts, t.wf = true) ∧ shapeOK ts = true ∧
      hasCustomVerb path = lastHasVerb ts ∧ (varNames ts).Nodup := by
  obtain ⟨hr, hrest⟩ := readTemplate_eq_some_iff.mp h
  exact ⟨(readToks_render hr).1, (readToks_render hr).2, hrest⟩

theorem built_pathParts (svc : Service) {rt : Route} (h : rt ∈ svc.built) :
    rt.pathParts = tokenize rt.path ∧ rt.hasCustomVerb = hasCustomVerb rt.path := by
  obtain ⟨rd, _, rfl⟩ := Service.mem_built.mp h
  exact ⟨rfl, rfl⟩

theorem shapeOK_tail {t : TTok} {ts : List TTok} (h : shapeOK (t :: ts) = true) : shapeOK ts = true := by
  cases ts with
  | nil => rfl
  | cons t' ts' =>
    rw [shapeOK.eq_3] at h
    simp only [Bool.and_eq_true] at h
    exact h.2

theorem shapeOK_wild_last {t : TTok} {ts : List TTok} (h : shapeOK (t :: ts) = true)
    (hw : t.base.isWild = true) : ts = [] := by
  cases ts with
  | nil => rfl
  | cons t' ts' =>
    rw [shapeOK.eq_3] at h
    simp [hw] at h

namespace Jsr

theorem setParam_not_mem : ∀ {ps : Params} {k v : Str}, k ∉ ps.map (·.1) → setParam ps k v = ps ++ [(k, v)]
  | [], _, _, _ => rfl
  | (k', v') :: rest, k, v, h => by
    simp only [List.map_cons, List.mem_cons, not_or] at h
    have hk : ¬ k' = k := fun hh => h.1 hh.symm
    simp only [setParam, if_neg hk, List.cons_append, setParam_not_mem h.2]

theorem varNames_cons (t : TTok) (ts : List TTok) : varNames (t :: ts) = t.base.name?.toList ++ varNames ts := by
  unfold varNames
  rw [List.filterMap_cons]
  cases t.base.name? <;> rfl

end Jsr

end Restful
