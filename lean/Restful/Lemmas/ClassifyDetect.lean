/-
C02, step 2: `detectRoute` on a candidate list against the decision table `Spec.classifyIn`.

If the candidates are — as a set — the routes of the service whose template admits the path, then
stage by stage the model's filters and the table's filters keep the same routes (the header loops
are the declarative tests by `ClassifyHeaders`), so emptiness, the method set of the 405 and the
final stage agree; the model's one notion of "has a body" (`ContentLength ≠ 0`, since the repair of
F04) is `Spec.hasBody`.
-/
import Restful.Lemmas.ClassifyHeaders
import Restful.Lemmas.OrderPerm
import Restful.Spec.Classify
namespace Restful
open Str

theorem C02.mem_filter_congr {α : Type} {A B : List α} {p q : α → Bool} (h : ∀ x, x ∈ A ↔ x ∈ B)
    (hpq : ∀ x ∈ B, p x = q x) : ∀ x, x ∈ A.filter p ↔ x ∈ B.filter q := by
  intro x
  simp only [List.mem_filter, h]
  exact and_congr_right (fun hx => by rw [hpq x hx])

theorem C02.isEmpty_congr {α : Type} {A B : List α} (h : ∀ x, x ∈ A ↔ x ∈ B) : A.isEmpty = B.isEmpty := by
  rw [Bool.eq_iff_iff, List.isEmpty_iff, List.isEmpty_iff, List.eq_nil_iff_forall_not_mem, List.eq_nil_iff_forall_not_mem]
  exact forall_congr' (fun x => not_congr (h x))

/-- `detectRoute`'s two tests, "a body is sent" at the Content-Type stage and "no body is sent" at the
    Accept stage, are one notion -/
theorem Spec.hasBody_model (req : Req) :
    decide (req.contentLength ≠ 0) = Spec.hasBody req ∧
    decide (req.contentLength = 0) = !Spec.hasBody req := by
  unfold Spec.hasBody
  by_cases hz : req.contentLength = 0 <;> simp [hz]

theorem detect_classify (E : ReEnv) (k : RouterKind) (routes cands : List Route) (req : Req)
    (hmem : ∀ r, r ∈ cands ↔ r ∈ routes ∧ Spec.pathAdmits E k r req.path = true)
    (hyg : ∀ r ∈ routes, (∀ c ∈ r.consumes, c ≠ []) ∧ (∀ p ∈ r.produces, p ≠ [])) :
    match detectRoute cands req with
    | .ok r => r ∈ cands ∧ ∃ ids, Spec.classifyIn E k routes req = .runs ids ∧ r.id ∈ ids
    | .error (c, a) => Spec.verdictMatches (Spec.classifyIn E k routes req) (.error c a) 0 = true := by
  obtain ⟨hbody, hclen⟩ := Spec.hasBody_model req
  have sub {p : Route → Bool} {l : List Route} {r : Route} (h : r ∈ l.filter p) : r ∈ l := (List.mem_filter.1 h).1
  -- stage by stage, the model's list and the table's list have the same members
  have e1 : ∀ r, r ∈ cands.filter (passesConds · req) ↔
      r ∈ routes.filter (fun r => Spec.pathAdmits E k r req.path && passesConds r req) := fun r => by
    simp only [List.mem_filter, hmem, Bool.and_eq_true, and_assoc]
  have e2 := C02.mem_filter_congr (p := fun r => decide (req.method = r.method)) (q := fun r => req.method == r.method)
    e1 (fun r _ => (Bool.beq_eq_decide_eq _ _).symm)
  have e3 := C02.mem_filter_congr (p := (matchesContentType · req.contentType)) (q := (Spec.consumesOK · req.contentType))
    e2 (fun r hr => matchesContentType_iff r _ (hyg r (sub (sub hr))).1)
  have e4 := C02.mem_filter_congr (p := (matchesAccept · (if req.accept.isEmpty then starStar else req.accept)))
    (q := fun r => Spec.acceptOK r.produces req.accept)
    e3 (fun r hr => acceptLoop_iff _ _ (hyg r (sub (sub (sub hr)))).2)
  unfold detectRoute Spec.classifyIn
  simp only []
  rw [C02.isEmpty_congr e1, C02.isEmpty_congr e2, C02.isEmpty_congr e3, hbody, hclen]
  generalize routes.filter (fun r => Spec.pathAdmits E k r req.path && passesConds r req) = c0 at e1 e2 e3 e4 ⊢
  generalize c0.filter (fun r => req.method == r.method) = m at e2 e3 e4 ⊢
  generalize m.filter (fun r => Spec.consumesOK r req.contentType) = ct at e3 e4 ⊢
  generalize ct.filter (fun r => Spec.acceptOK r.produces req.accept) = a at e4 ⊢
  by_cases g0 : c0.isEmpty = true
  · simp only [g0, if_true]
    decide
  simp only [g0, Bool.false_eq_true, if_false]
  by_cases g1 : m.isEmpty = true
  · -- 405: the Allow header lists the methods of the routes that pass the conditions, as a set
    simp only [g1, if_true, Spec.verdictMatches, Bool.and_eq_true, List.all_eq_true, beq_self_eq_true, and_true,
      List.contains_iff_mem, List.mem_map, mem_allowedMethods, List.not_mem_nil, false_or]
    exact ⟨fun x ⟨r, hr, hx⟩ => ⟨r, (e1 r).2 hr, hx⟩, fun x ⟨r, hr, hx⟩ => ⟨r, (e1 r).1 hr, hx⟩⟩
  simp only [g1, Bool.false_eq_true, if_false]
  by_cases g2 : (ct.isEmpty && Spec.hasBody req) = true
  · simp only [g2, if_true]
    decide
  simp only [g2, Bool.false_eq_true, if_false]
  generalize hc4 : List.filter (fun x => matchesAccept x (if req.accept.isEmpty then starStar else req.accept)) _ = c4
    at e4 ⊢
  cases c4 with
  | nil =>
    have ha : a.isEmpty = true := by rw [← C02.isEmpty_congr e4]; rfl
    simp only [ha, if_true]
    by_cases g3 : (bodylessMethods.contains req.method && !Spec.hasBody req) = true
    · simp only [g3, if_true]
      decide
    · simp only [g3, Bool.false_eq_true, if_false]
      decide
  | cons r rest =>
    have hra : r ∈ a := (e4 r).1 List.mem_cons_self
    have ha : a.isEmpty = false := by
      rw [Bool.eq_false_iff, Ne, List.isEmpty_iff]
      exact List.ne_nil_of_mem hra
    simp only [ha, Bool.false_eq_true, if_false]
    have hr4 : r ∈ r :: rest := List.mem_cons_self
    rw [← hc4] at hr4
    exact ⟨sub (sub (sub (sub hr4))), _, rfl, List.mem_map.2 ⟨r, hra, rfl⟩⟩

theorem C02.hygiene_route {cfg : Config} (hh : Spec.mediaHygiene cfg = true) {svc : Service} (hsvc : svc ∈ cfg.services)
    {rt : Route} (hrt : rt ∈ svc.built) : (∀ c ∈ rt.consumes, c ≠ []) ∧ (∀ p ∈ rt.produces, p ≠ []) := by
  unfold Spec.mediaHygiene at hh
  simp only [List.all_eq_true, Bool.and_eq_true, Bool.not_eq_true', List.isEmpty_eq_false_iff] at hh
  exact hh svc hsvc rt hrt

theorem Spec.c02Holds_nosvc (E : ReEnv) {cfg : Config} {req : Req} (h : Spec.bestServices E cfg req = []) :
    Spec.c02Holds E cfg req (.error 404 none) 0 = true := by
  unfold Spec.c02Holds
  simp only [h]
  decide

theorem Spec.c02Holds_of (E : ReEnv) {cfg : Config} {req : Req} {o : Outcome} {inv : Nat} {svc : Service}
    (hbest : svc ∈ Spec.bestServices E cfg req) (hnp : ∀ w, o ≠ .panic w)
    (hsel : ∀ s r ps, o = .selected s r ps → svc.id = s)
    (hv : Spec.verdictMatches (Spec.classifyIn E cfg.router svc.built req) o inv = true) :
    Spec.c02Holds E cfg req o inv = true := by
  obtain ⟨x, xs, hbs⟩ := List.exists_cons_of_ne_nil (List.ne_nil_of_mem hbest)
  unfold Spec.c02Holds
  cases o with
  | panic w => exact absurd rfl (hnp w)
  | error c a =>
    simp only [hbs]
    rw [← hbs, List.any_eq_true]
    exact ⟨svc, hbest, by simpa using hv⟩
  | selected s r ps =>
    simp only [hbs]
    rw [← hbs, List.any_eq_true]
    exact ⟨svc, hbest, Bool.and_eq_true _ _ ▸ ⟨by simpa using hsel s r ps rfl, hv⟩⟩

/-- `o` is the outcome of `detectRoute` on the candidates `cands` of `svc`, the path parameters of
    the route found having been bound -/
def Dispatches (svc : Service) (cands : List Route) (req : Req) (o : Outcome) : Prop :=
  match detectRoute cands req with
  | .error (c, a) => o = .error c a
  | .ok r => ∃ ps, o = .selected svc.id r.id ps

theorem Dispatches.ne_panic {svc : Service} {cands : List Route} {req : Req} {o : Outcome}
    (h : Dispatches svc cands req o) (w : String) : o ≠ .panic w := by
  unfold Dispatches at h
  split at h
  · rw [h]
    simp
  · obtain ⟨ps, rfl⟩ := h
    simp

/-- both routers end in `finishWith` on their sorted candidates -/
theorem Dispatches.finishWith {svc : Service} {cands : List Route} {req : Req} {extract : Route → Option Params}
    (h : ∀ r, detectRoute cands req = .ok r → r.svc = svc.id ∧ ∃ ps, extract r = some ps) :
    Dispatches svc cands req (finishWith extract cands req) := by
  unfold Dispatches Restful.finishWith
  cases cands with
  | nil => rfl
  | cons x xs =>
    simp only
    cases hd : detectRoute (x :: xs) req with
    | error e => rfl
    | ok r =>
      obtain ⟨hs, ps, hps⟩ := h r hd
      simp only [hps, hs]
      exact ⟨ps, rfl⟩

/-- a dispatch that ends without panic: no service is best (404), or `detectRoute` runs on the
    routes of a best service whose template admits the path -/
def Routed (E : ReEnv) (cfg : Config) (req : Req) (o : Outcome) : Prop :=
  (Spec.bestServices E cfg req = [] ∧ o = .error 404 none) ∨
    ∃ svc cands, svc ∈ cfg.services ∧ svc ∈ Spec.bestServices E cfg req ∧
      (∀ r, r ∈ cands ↔ r ∈ svc.built ∧ Spec.pathAdmits E cfg.router r req.path = true) ∧
      Dispatches svc cands req o

theorem Routed.ne_panic {E : ReEnv} {cfg : Config} {req : Req} {o : Outcome} (h : Routed E cfg req o)
    (w : String) : o ≠ .panic w := by
  rcases h with ⟨_, rfl⟩ | ⟨svc, cands, _, _, _, hd⟩
  · simp
  · exact hd.ne_panic w

theorem Routed.c02Holds {E : ReEnv} {cfg : Config} {req : Req} {o : Outcome} (h : Routed E cfg req o)
    (hh : Spec.mediaHygiene cfg = true) :
    Spec.c02Holds E cfg req o (match (generalizing := false) o with | .selected _ _ _ => 1 | _ => 0) = true := by
  rcases h with ⟨hnil, rfl⟩ | ⟨svc, cands, hsvc, hbest, hmem, hd⟩
  · exact Spec.c02Holds_nosvc E hnil
  have hdc := detect_classify E cfg.router svc.built cands req hmem (fun r hr => C02.hygiene_route hh hsvc hr)
  unfold Dispatches at hd
  cases hdr : detectRoute cands req with
  | error e =>
    obtain ⟨c, a⟩ := e
    rw [hdr] at hd hdc
    subst hd
    exact Spec.c02Holds_of E hbest (by simp) (by simp) hdc
  | ok r =>
    rw [hdr] at hd hdc
    obtain ⟨ps, rfl⟩ := hd
    obtain ⟨_, ids, hids, hrid⟩ := hdc
    refine Spec.c02Holds_of E hbest (by simp) (fun s r' ps' h => (Outcome.selected.inj h).1) ?_
    rw [hids]
    simp [Spec.verdictMatches, hrid]

end Restful
