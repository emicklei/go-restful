/-
C02, step 1: the header loops of route.go (`matchesAccept`, `matchesContentType`) decide exactly the
declarative `Spec.acceptOK` / `Spec.consumesOK` once no Produces/Consumes entry is the empty string.

The loops stop before one trailing empty piece (`remainingEmpty`).  Its media type is `""`, which
is neither `*/*` nor — under hygiene — a declared type; it can only "match" a declared `*/*`, and
then the first piece has matched already.
-/
import Restful.Lemmas.Detect
namespace Restful
open Str

theorem mediaOf_nil : mediaOf [] = [] := by decide

theorem remainingEmpty_cases {rest : List Str} (h : remainingEmpty rest = true) : rest = [] ∨ rest = [[]] := by
  match rest, h with
  | [], _ => exact Or.inl rfl
  | [p], h => exact Or.inr (by rw [List.isEmpty_iff.1 h])
  | _ :: _ :: _, h => cases h

/-- the piece the loop does not look at changes nothing if a test that accepts the empty piece
    accepts every piece -/
theorem headerLoop_eq_any {ok : Str → Bool} (h : ok [] = true → ∀ piece, ok piece = true) (pieces : List Str) :
    headerLoop ok pieces = pieces.any ok := by
  induction pieces with
  | nil => rfl
  | cons piece rest ih =>
    unfold headerLoop
    rw [List.any_cons]
    cases h1 : ok piece with
    | true => rfl
    | false =>
      simp only [Bool.false_eq_true, if_false, Bool.false_or]
      by_cases h3 : remainingEmpty rest = true
      · have h0 : ok [] = false := by
          cases h0 : ok [] with
          | false => rfl
          | true => rw [h h0] at h1; cases h1
        rw [if_pos h3]
        rcases remainingEmpty_cases h3 with rfl | rfl
        · rfl
        · simp only [List.any_cons, List.any_nil, h0, Bool.or_false]
      · rw [if_neg h3]
        exact ih

/-- a declared `*/*` matches every piece -/
theorem any_star_of_any_nil {l : List Str} (hne : ∀ p ∈ l, p ≠ []) {mt : Str}
    (h : l.any (fun p => p == starStar || p == ([] : Str)) = true) :
    l.any (fun p => p == starStar || p == mt) = true := by
  rw [List.any_eq_true] at h ⊢
  obtain ⟨p, hp, hpp⟩ := h
  refine ⟨p, hp, ?_⟩
  simp only [Bool.or_eq_true, beq_iff_eq] at hpp ⊢
  exact hpp.imp_right (fun h1 => absurd h1 (hne p hp))

theorem acceptLoop_iff (produces pieces : List Str) (hne : ∀ p ∈ produces, p ≠ []) :
    acceptLoop produces pieces = pieces.any (acceptPieceOK produces) := by
  rw [acceptLoop_eq]
  refine headerLoop_eq_any (fun h piece => ?_) pieces
  rw [acceptPieceOK, mediaOf_nil, Bool.or_eq_true] at h
  rw [acceptPieceOK, Bool.or_eq_true]
  exact Or.inr (any_star_of_any_nil hne (h.resolve_left (by decide)))

theorem consumeLoop_iff (consumes pieces : List Str) (hne : ∀ c ∈ consumes, c ≠ []) :
    consumeLoop consumes pieces = pieces.any (consumePieceOK consumes) := by
  rw [consumeLoop_eq]
  refine headerLoop_eq_any (fun h piece => ?_) pieces
  rw [consumePieceOK, mediaOf_nil] at h
  exact any_star_of_any_nil hne h

theorem matchesContentType_iff (r : Route) (ct : Str) (hne : ∀ c ∈ r.consumes, c ≠ []) :
    matchesContentType r ct = Spec.consumesOK r ct := by
  unfold Spec.consumesOK Spec.consumesAny
  simp only [matchesContentType_eq, consumeLoop_iff _ _ hne]
/-- why hygiene is needed: with an empty Produces entry, `Accept: a/b,` (one trailing comma) is
    satisfiable declaratively (the empty range names the empty type) but the loop never looks at it -/
theorem matchesAccept_iff_needs_hygiene :
    acceptLoop [[]] (split ',' "a/b,".toList) = false ∧
      Spec.acceptOK [[]] "a/b,".toList = true := by
  decide +kernel

end Restful
