/-
What the class of F07b consists of: a header in it has an element the router admits on (its media
type, blanks trimmed, is `*/*` or produced) whose quality `sortedMimes` cannot parse.
-/
import Restful.Lemmas.Mime
import Restful.Lemmas.MimeOWS
namespace Restful
namespace Mime
open Str

theorem trimOWS_surround {l t r : Str} (hl : ∀ c ∈ l, isOWS c = true) (hr : ∀ c ∈ r, isOWS c = true)
    (ht : ∀ c ∈ t, isOWS c = false) (hne : t ≠ []) : trimOWS (l ++ t ++ r) = t := by
  have e1 : (t ++ r).dropWhile isOWS = t ++ r := by
    cases t with
    | nil => exact absurd rfl hne
    | cons y ys => exact dropWhile_eq_self_of_head fun x hx => ht x (List.mem_of_head? hx)
  unfold trimOWS
  rw [List.append_assoc, List.dropWhile_append_of_pos hl, e1, List.reverse_append,
    List.dropWhile_append_of_pos (by simpa using hr), dropWhile_eq_self_of_head, List.reverse_reverse]
  exact fun x hx => ht x (List.mem_reverse.mp (List.mem_of_head? hx))

theorem wfMedia_no_ows {m : Str} (h : Spec.wfMedia m = true) : ∀ c ∈ m, isOWS c = false := by
  intro c hc
  simp only [Spec.wfMedia, Bool.and_eq_true, List.all_eq_true] at h
  have := h.1.2 c hc
  simp only [Bool.not_eq_true', Bool.or_eq_false_iff] at this
  exact this.2

theorem trimOWS_eq_trim_space {x : Str} (hne : trim ' ' x ≠ []) (h : ∀ c ∈ trim ' ' x, isOWS c = false) :
    trimOWS x = trim ' ' x := by
  have hblank (s : Str) : ∀ c ∈ s.takeWhile (· == ' '), isOWS c = true := fun c hc => by
    have hc : (c == ' ') = true := List.all_eq_true.mp List.all_takeWhile c hc
    rw [beq_iff_eq.mp hc]
    rfl
  -- `x` is its blank-trimmed core between two runs of blanks
  have hx : x = x.takeWhile (· == ' ') ++ trim ' ' x ++ ((trimLeft ' ' x).reverse.takeWhile (· == ' ')).reverse := by
    rw [trim, trimRight, List.append_assoc, ← List.reverse_append, List.takeWhile_append_dropWhile,
      List.reverse_reverse, trimLeft, List.takeWhile_append_dropWhile]
  conv => lhs; rw [hx]
  exact trimOWS_surround (hblank x) (fun c hc => hblank _ c (List.mem_reverse.mp hc)) h hne

theorem admitted_media {piece : Str} {P reg : List Str} (h : WF P reg)
    (hm : mediaOf piece = starStar ∨ mediaOf piece ∈ P) :
    mediaOf piece ≠ [] ∧ ∀ c ∈ mediaOf piece, isOWS c = false := by
  rcases hm with e | e
  · rw [e]
    decide
  · exact ⟨wfMedia_ne_nil (h.pMedia _ e), wfMedia_no_ows (h.pMedia _ e)⟩

/-- a media type the router admits on is free of optional whitespace, so `sortedMimes`, which trims
    that, reads it as the router does, which trims blanks -/
theorem trimOWS_cutAtSemi {piece : Str} {P reg : List Str} (h : WF P reg)
    (hm : mediaOf piece = starStar ∨ mediaOf piece ∈ P) : trimOWS (cutAtSemi piece) = mediaOf piece :=
  trimOWS_eq_trim_space (admitted_media h hm).1 (admitted_media h hm).2

theorem rangeOf_media {piece : Str} {m : Mime} (hr : rangeOf piece = some m) :
    m.media = trimOWS (cutAtSemi piece) := by
  rw [rangeOf, split_eq] at hr
  simp only [Option.map_eq_some_iff] at hr
  obtain ⟨q, _, rfl⟩ := hr
  rfl

theorem acceptOK_piece {a : Str} {P reg : List Str} (h : WF P reg) (ha : a.isEmpty = false)
    (hacc : Spec.acceptOK P a = true) :
    ∃ piece ∈ split ',' a, mediaOf piece = starStar ∨ mediaOf piece ∈ P := by
  simp only [Spec.acceptOK, ha, Bool.false_eq_true, if_false, List.any_eq_true, Bool.or_eq_true, beq_iff_eq] at hacc
  obtain ⟨piece, hp, hm | ⟨p, hpP, rfl | rfl⟩⟩ := hacc
  · exact ⟨piece, hp, .inl hm⟩
  · exact absurd hpP h.star_not_mem
  · exact ⟨piece, hp, .inr hpP⟩

/-- a present header the router admits does not normalise to the empty header: the element it was
    admitted on keeps its media type -/
theorem dropOWS_ne_nil_of_admitted {a : Str} {P reg : List Str} (h : WF P reg) (ha : a.isEmpty = false)
    (hadm : routerAdmits a P = true) : dropOWS a ≠ [] := by
  obtain ⟨piece, hp, hm⟩ := acceptOK_piece h ha (acceptOK_of_admitted hadm)
  intro hd
  have hmem : normElem piece ∈ split ',' (dropOWS a) := by
    rw [split_dropOWS]
    exact List.mem_map_of_mem hp
  rw [hd, show split ',' ([] : Str) = [[]] from rfl, List.mem_singleton] at hmem
  have hn := split_normElem (split_eq ';' piece)
  rw [hmem, show split ';' ([] : Str) = [[]] from rfl] at hn
  exact (admitted_media h hm).1 ((trimOWS_cutAtSemi h hm).symm.trans (List.cons.inj hn).1.symm)

theorem isEmpty_eq_of_admitted {a a' : Str} {P reg : List Str} (h : WF P reg)
    (hadm : routerAdmits a P = true) (hadm' : routerAdmits a' P = true) (hd : dropOWS a = dropOWS a') :
    a.isEmpty = a'.isEmpty := by
  have h0 : dropOWS [] = [] := rfl
  cases a <;> cases a'
  · rfl
  · exact absurd (hd.symm.trans h0) (dropOWS_ne_nil_of_admitted h rfl hadm')
  · exact absurd (hd.trans h0) (dropOWS_ne_nil_of_admitted h rfl hadm)
  · rfl

end Mime
end Restful
