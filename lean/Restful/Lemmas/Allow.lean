/-
C17 helpers: what `detectRoute` answers as a function of the request's METHOD alone, both routers
as "a stage that reads only the path, then `detectRoute`", and the link between RouterJSR311's
dispatch and `computeAllowedMethods`: routable ⇒ listed, and listed ⇒ routable outside F14.
-/
import Restful.Lemmas.Agree
import Restful.Lemmas.CorsRoutable
import Restful.Spec.Options
namespace Restful
open Str

namespace Allow
variable (E : ReEnv)

/-! ### `detectRoute` by cases on its first two stages -/

/-- the candidates whose If-conditions hold for the request, and among them those with its method -/
def passing (routes : List Route) (req : Req) : List Route := routes.filter (passesConds · req)
def withMethod (routes : List Route) (req : Req) : List Route :=
  (passing routes req).filter (fun r => req.method = r.method)

theorem mem_withMethod {routes : List Route} {req : Req} {r : Route} :
    r ∈ withMethod routes req ↔ r ∈ routes ∧ passesConds r req = true ∧ req.method = r.method := by
  unfold withMethod passing
  rw [List.mem_filter, List.mem_filter, decide_eq_true_eq, and_assoc]

/-- `passesConds` does not read the method -/
theorem passesConds_setMethod (r : Route) (req : Req) (m : Str) :
    passesConds r { req with method := m } = passesConds r req := rfl

theorem passing_setMethod (routes : List Route) (req : Req) (m : Str) :
    passing routes { req with method := m } = passing routes req := rfl

/-- the three ways `detectRoute` can go: nobody passes its conditions (404); somebody does but
    nobody has the method (405 with the methods of those who pass); somebody has the method — then
    the answer is a route, 415 or 406, never 404 or 405 -/
theorem detectRoute_cases (routes : List Route) (req : Req) :
    (passing routes req = [] ∧ detectRoute routes req = .error (404, none)) ∨
    (passing routes req ≠ [] ∧ withMethod routes req = [] ∧
      detectRoute routes req = .error (405, some (allowedMethods (passing routes req) []))) ∨
    (withMethod routes req ≠ [] ∧
      ((∃ r, detectRoute routes req = .ok r) ∨ detectRoute routes req = .error (415, none) ∨
        detectRoute routes req = .error (406, none))) := by
  unfold detectRoute
  simp only [List.isEmpty_iff]
  by_cases h1 : passing routes req = []
  · exact .inl ⟨h1, if_pos h1⟩
  by_cases h2 : withMethod routes req = []
  · exact .inr (.inl ⟨h1, h2, (if_neg h1).trans (if_pos h2)⟩)
  refine .inr (.inr ⟨h2, ?_⟩)
  unfold withMethod passing at h1 h2
  rw [if_neg h1, if_neg h2]
  split
  · exact .inr (.inl rfl)
  · split
    · split
      · exact .inr (.inl rfl)
      · exact .inr (.inr rfl)
    · exact .inl ⟨_, rfl⟩

/-! ### `finishWith` (what both routers do with their sorted candidates) -/

/-- `detectRoute_cases` carried through parameter extraction -/
theorem finishWith_cases (ex : Route → Option Params) (cands : List Route) (req : Req) :
    (withMethod cands req = [] ∧
      (finishWith ex cands req = .error 404 none ∨
        finishWith ex cands req = .error 405 (some (allowedMethods (passing cands req) [])))) ∨
    (withMethod cands req ≠ [] ∧
      ((∃ s r ps, finishWith ex cands req = .selected s r ps) ∨ (∃ w, finishWith ex cands req = .panic w) ∨
        finishWith ex cands req = .error 415 none ∨ finishWith ex cands req = .error 406 none)) := by
  have hfw : finishWith ex cands req =
      match detectRoute cands req with
      | .error (c, a) => .error c a
      | .ok r => match ex r with
        | none => .panic "params"
        | some ps => .selected r.svc r.id ps := by
    cases cands <;> rfl
  rw [hfw]
  rcases detectRoute_cases cands req with ⟨h0, hd⟩ | ⟨_, h0, hd⟩ | ⟨h0, ⟨r, hd⟩ | hd | hd⟩ <;> rw [hd]
  · exact .inl ⟨congrArg (List.filter _) h0, .inl rfl⟩
  · exact .inl ⟨h0, .inr rfl⟩
  · refine .inr ⟨h0, ?_⟩
    dsimp only
    cases ex r
    · exact .inr (.inl ⟨_, rfl⟩)
    · exact .inl ⟨_, _, _, rfl⟩
  · exact .inr ⟨h0, .inr (.inr (.inl rfl))⟩
  · exact .inr ⟨h0, .inr (.inr (.inr rfl))⟩

/-- a model panic while extracting parameters has status 500: it counts as routable -/
theorem finishWith_routable (ex : Route → Option Params) (cands : List Route) (req : Req) :
    (Spec.statusOf (finishWith ex cands req) ≠ 404 ∧ Spec.statusOf (finishWith ex cands req) ≠ 405) ↔
      withMethod cands req ≠ [] := by
  rcases finishWith_cases ex cands req with ⟨h0, h | h⟩ | ⟨h0, ⟨_, _, _, h⟩ | ⟨_, h⟩ | h | h⟩ <;>
    simp [h, h0, Spec.statusOf]

theorem finishWith_allow {ex : Route → Option Params} {cands : List Route} {req : Req} {c : Nat} {allow : List Str}
    (h : finishWith ex cands req = .error c (some allow)) (m : Str) :
    m ∈ allow ↔ ∃ r ∈ passing cands req, r.method = m := by
  -- of the shapes `finishWith` can take only the 405 is an error with a list
  have hc := finishWith_cases ex cands req
  simp only [h, reduceCtorEq, Outcome.error.injEq, Option.some.injEq, false_or, or_false, and_false, exists_false] at hc
  rw [hc.2.2, mem_allowedMethods]
  simp

/-! ### both routers: a stage that reads only the path, then `finishWith` -/

/-- neither router reads the method before `detectRoute`: with everything but the method fixed,
    dispatch is a model panic whatever the method, or `finishWith` on the same sorted candidates
    (none when no WebService is found: 404) -/
theorem route_staged (cfg : Config) (req : Req) :
    (∃ w, ∀ m, route E cfg { req with method := m } = .panic w) ∨
    ∃ ex cands, ∀ m, route E cfg { req with method := m } = finishWith ex cands { req with method := m } := by
  cases hk : cfg.router with
  | curly =>
    simp only [route_curly E hk, routeCurly_fst]
    rcases Curly.detectWebService E (tokenize req.path) cfg.services none with _ | _ | ⟨svc, sc⟩
    · exact .inl ⟨_, fun _ => rfl⟩
    · exact .inr ⟨fun _ => none, [], fun _ => rfl⟩
    · simp only [curlyAfterSvc_finishWith]
      cases Curly.candidates E svc.built (tokenize req.path)
      · exact .inl ⟨_, fun _ => rfl⟩
      · exact .inr ⟨_, _, fun _ => rfl⟩
  | jsr =>
    simp only [route_jsr E hk, routeJsr_fst]
    rcases Jsr.detectDispatcher E cfg.services req.path with _ | _ | ⟨svc, final⟩
    · exact .inl ⟨_, fun _ => rfl⟩
    · exact .inr ⟨fun _ => none, [], fun _ => rfl⟩
    · simp only [jsrAfterSvc]
      cases Jsr.routeCandidates E svc.built final
      · exact .inl ⟨_, fun _ => rfl⟩
      · exact .inr ⟨_, _, fun _ => rfl⟩

theorem routable_iff_status (cfg : Config) (req : Req) (m : Str) :
    Spec.routable E cfg req m = true ↔
      (Spec.statusOf (route E cfg { req with method := m }) ≠ 404 ∧
       Spec.statusOf (route E cfg { req with method := m }) ≠ 405) := by
  simp [Spec.routable]

/-- **the 405 Allow header is exact** (both routers, every table, every request) -/
theorem allow_405_exact (cfg : Config) (req : Req) (allow : List Str)
    (h : route E cfg req = .error 405 (some allow)) (m : Str) :
    m ∈ allow ↔ Spec.routable E cfg req m = true := by
  rcases route_staged E cfg req with ⟨w, hw⟩ | ⟨ex, cands, hf⟩
  · cases (hw req.method).symm.trans h
  · rw [routable_iff_status, hf m, finishWith_allow ((hf req.method).symm.trans h) m, finishWith_routable]
    -- neither side reads the method the request came with (`passing_setMethod`)
    simp only [withMethod, Ne, List.filter_eq_nil_iff, decide_eq_true_eq, Classical.not_forall, Classical.not_not,
      exists_prop]
    exact exists_congr fun r => and_congr_right fun _ => eq_comm

/-! ### RouterJSR311: the routable methods and the methods `computeAllowedMethods` lists -/

/-- if RouterJSR311 does not answer 404/405, the request's method is the method of a route of the
    dispatched service whose expression matches the remainder: `computeAllowedMethods` lists it
    (no hypothesis on nesting of roots) -/
theorem routable_listed_jsr (tbl : Config) (path : Str) (ms : List Str)
    (hc : Cors.computeAllowedMethods E tbl.services path = some ms)
    (req : Req) (hpath : req.path = path)
    (hs : Spec.statusOf (routeJsr E tbl req).1 ≠ 404 ∧ Spec.statusOf (routeJsr E tbl req).1 ≠ 405) :
    req.method ∈ ms := by
  obtain ⟨_, hroots, hroutes⟩ := Cors.computeAllowedMethods_spec E tbl.services path ms hc
  rw [Cors.computeAllowedMethods_eq_methodsAt E tbl path ms hc]
  rw [routeJsr_fst, hpath] at hs
  cases hd : Jsr.detectDispatcher E tbl.services path with
  | none =>
    obtain ⟨cs, hcs, _⟩ := Cors.dispCandidates_complete E tbl.services path hroots
    simp [Jsr.detectDispatcher, hcs] at hd
  | some d =>
    cases d with
    | none =>
      rw [hd] at hs
      simp [Spec.statusOf] at hs
    | some x =>
      obtain ⟨svc, final⟩ := x
      rw [hd] at hs
      simp only at hs
      obtain ⟨hsvc, wex, wcaps, hwex, hwm⟩ := Jsr.detectDispatcher_mem E hd
      have hsm : Spec.rootMatches E svc path = true := by simp [Spec.rootMatches, hwex, hwm]
      obtain ⟨cs2, hcs2, _⟩ := Cors.routeCandidates_complete E svc.built final
        (List.forall_mem_map.mpr (hroutes svc hsvc hsm))
      unfold jsrAfterSvc at hs
      rw [hcs2] at hs
      have hsel : Jsr.selectRoutes E svc.built final = some ((Sort.insertionSort Jsr.routeCandLess cs2).map (·.route)) := by
        rw [Jsr.selectRoutes, hcs2]
        rfl
      obtain ⟨r, hr⟩ := List.exists_mem_of_ne_nil _ ((finishWith_routable _ _ _).mp hs)
      obtain ⟨hr, _, hmeth⟩ := mem_withMethod.mp hr
      obtain ⟨hrb, rex, rcaps, last, hrex, hrm, hlast⟩ := Jsr.selectRoutes_mem E hsel hr
      obtain ⟨rd, hrd, rfl⟩ := List.mem_map.mp hrb
      rw [hmeth]
      simp only [Spec.methodsAt, List.mem_flatMap, List.mem_map, List.mem_filter]
      refine ⟨svc, hsvc, rd, ⟨hrd, ?_⟩, rfl⟩
      change Jsr.compile rd.relPath = some rex at hrex
      simp [Spec.routableAt, Spec.routeOK, hwex, hwm, hrex, hrm, hlast]

/-- conversely, outside F14 and with the If-conditions holding, a listed method is routable -/
theorem listed_routable_jsr (tbl : Config) (path : Str) (ms : List Str) (m : Str)
    (hc : Cors.computeAllowedMethods E tbl.services path = some ms) (hm : m ∈ ms)
    (hF14 : Spec.severalRootsMatch E tbl path = false)
    (req : Req) (hmeth : req.method = m) (hpath : req.path = path)
    (hconds : ∀ s ∈ tbl.services, ∀ r ∈ s.built, passesConds r req = true) :
    Spec.statusOf (routeJsr E tbl req).1 ≠ 404 ∧ Spec.statusOf (routeJsr E tbl req).1 ≠ 405 := by
  obtain ⟨svc, final, cands, hdisp, hsel, r, hr, hrm⟩ := Cors.computed_method_routable_jsr E tbl path ms m hc hm hF14
  have hrb := (Jsr.selectRoutes_mem E hsel hr).1
  rw [routeJsr_fst, hpath, hdisp]
  unfold Jsr.selectRoutes at hsel
  obtain ⟨cs, hcs, rfl⟩ := Option.map_eq_some_iff.mp hsel
  simp only [jsrAfterSvc, hcs]
  exact (finishWith_routable _ _ _).mpr (List.ne_nil_of_mem (mem_withMethod.mpr
    ⟨hr, hconds svc (Jsr.detectDispatcher_mem E hdisp).1 r hrb, hmeth.trans hrm.symm⟩))

theorem routable_curly_iff (tbl : Config) (hk : tbl.router = .curly) (req : Req) (m : Str) :
    Spec.routable E tbl req m = true ↔
      (Spec.statusOf (routeCurly E tbl { req with method := m }).1 ≠ 404 ∧
       Spec.statusOf (routeCurly E tbl { req with method := m }).1 ≠ 405) := by
  rw [routable_iff_status, route_curly E hk]

/-! ### transport to CurlyRouter through C18 -/

theorem statusOf_sameOutcome {a b : Outcome} (h : Spec.sameOutcome a b) : Spec.statusOf a = Spec.statusOf b := by
  unfold Spec.sameOutcome at h
  split at h
  · rfl
  · exact h.1
  · exact h
  · rfl
  · exact h.elim

/-- on the common fragment and a normal path the two routers answer with the same status
    (`ranksAgree` is not needed: when both select, both statuses are "a route function runs") -/
theorem status_agrees (cfg : Config) (hwf : Spec.wfCommon cfg = true) (hroots : Spec.rootsDistinct cfg = true)
    (hclean : Spec.rootsClean cfg = true) (req : Req) (hp : Spec.normalPath req.path = true) :
    Spec.statusOf (routeCurly E cfg req).1 = Spec.statusOf (routeJsr E cfg req).1 := by
  rcases agree_core E cfg hwf hroots hclean req hp with
    ⟨_, _, _, _, _, _, _, _, _, _, _, _, _, _, _, _, hoc, hoj⟩ | h
  · rw [hoc, hoj]
    rfl
  · exact statusOf_sameOutcome h.1

end Allow
end Restful
