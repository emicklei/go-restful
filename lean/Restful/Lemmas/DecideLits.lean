/-!
Kernel evaluation of closed statements about fixtures that are written with string literals.
-/

/-- `decide_lits` replaces every `"…".toList` in the goal by the list of its characters and lets the
kernel evaluate the `Decidable` instance of the goal; `decide_lits [f₁, …, fₙ]` first unfolds
`f₁, …, fₙ`, in this order, so that the literals they hide become visible: the fixtures of the
statement, the constructors they are written with (a literal handed to a function as a `String` shows
as `"…".toList` only once that function is unfolded) and, where a model or specification function
holds header or media-type constants, that function. Every name must occur in the goal when its turn
comes. The list is there for the cost alone: with an empty or shorter list the same goal is proved,
the kernel then evaluates `String.toList` on what is left.

The literals are rewritten with `String.toList_ofList`, not evaluated: the kernel reads a literal as
`String.ofList […]` at no cost, whereas evaluating `String.toList` decodes the UTF-8 bytes of the
literal, about 20 ms per character, in every declaration that mentions it. Each distinct literal costs
one rewrite of the whole goal, so on a very large goal with many literals plain `decide +kernel` is
the cheaper of the two and is what the files use there. -/
syntax "decide_lits" ("[" ident,* "]")? : tactic

macro_rules
  | `(tactic| decide_lits) =>
    `(tactic| ((repeat rewrite [String.toList_ofList])
               decide +kernel))
  | `(tactic| decide_lits [$fixtures,*]) =>
    `(tactic| (unfold $[$fixtures]*
               decide_lits))
