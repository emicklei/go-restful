/- curly.go `isTailWildcard`, `regularMatchesPathToken` as translated on this run ARE the model's -/
import Restful.Lemmas.TieImpBase
namespace Restful
namespace TieImp
namespace T2
open Imp

theorem is_tail_wildcard (X : ImpGen.Ext) (rt : Str) :
    ImpGen.isTailWildcard X rt = some (Curly.isTailWildcard rt) := by
  unfold ImpGen.isTailWildcard Curly.isTailWildcard
  simp only [String.reduceToList, index_char]
  cases hi : Str.index ':' rt with
  | none => simp
  | some k =>
    have := index_lt hi
    have h1 : 0 ≤ (k : Int) + 1 ∧ (k : Int) + 1 ≤ ((rt.length : Nat) : Int) := by omega
    have h2 : List.take (rt.length - (k + 1)) (List.drop (k + 1) rt) = List.drop (k + 1) rt :=
      List.take_of_length_le (by simp)
    cases hp : Str.hasPrefix ['{'] rt <;> simp [sliceFrom, slice, len, h1, h2]

theorem regular_matches (rx : Str → Str → Bool × GoErr) (full : Str → Str → Bool) (join : Str → Str → Str)
    (rt : Str) (colon : Nat) (q : Str) :
    ImpGen.CurlyRouter_regularMatchesPathToken (extOf rx join) rt ((colon : Nat) : Int) q
      = ofStep (Curly.regularMatches (envOf rx full) rt colon q) := by
  unfold ImpGen.CurlyRouter_regularMatchesPathToken Curly.regularMatches Curly.regPart
  simp only [String.reduceToList, slice_eq, len]
  have : (((colon + 1 : Nat)) : Int) = (colon : Int) + 1 := by omega
  rw [this]
  cases rt.slice? ((colon : Int) + 1) (((rt.length : Nat) : Int) - 1) with
  | none => simp [ofStep]
  | some rp =>
    by_cases h1 : rp = ['*']
    · simp [h1, ofStep]
    · simp only [bind, Option.bind, beq_iff_eq, h1, if_false, extOf, envOf]
      have key : ∀ b : Bool, (pure (b, false) : Option (Bool × Bool)) =
          ofStep (if b = true then Curly.Step.next else Curly.Step.fail) := by
        intro b; cases b <;> rfl
      exact key _

end T2
end TieImp
end Restful
