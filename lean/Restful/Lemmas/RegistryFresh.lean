/-
What a NEW container holds after `Add`ing services in order and `Handle`ing plain handlers, in closed
form; and the bookkeeping fact that without a `Handle` before a `Remove` no plain handler is lost.
-/
import Restful.Lemmas.RegistryInv
namespace Restful
namespace Registry
open List Str

theorem runFrom_append (st : State) (a b : List Op) :
    runFrom st (a ++ b) = match runFrom st a with
      | .ok st' => runFrom st' b
      | .error e => .error e := by
  induction a generalizing st with
  | nil => rfl
  | cons op ops ih =>
    simp only [List.cons_append, runFrom]
    cases step st op with
    | ok s1 => exact ih s1
    | error e => rfl

theorem runFrom_adds (svcs : List Svc) (s0 : State)
    (hmux : s0.mux = (Spec.regFrom (roots s0.services) [] false).map dispE)
    (hflag : s0.onRoot = Spec.flagFrom (roots s0.services) false)
    (hroots : (roots (s0.services ++ svcs)).Nodup) :
    runFrom s0 (svcs.map .add) = .ok { s0 with
      services := s0.services ++ svcs,
      mux := (Spec.regFrom (roots (s0.services ++ svcs)) [] false).map dispE,
      onRoot := Spec.flagFrom (roots (s0.services ++ svcs)) false } := by
  induction svcs generalizing s0 with
  | nil => simp only [List.map_nil, runFrom, List.append_nil, ← hmux, ← hflag]
  | cons s rest ih =>
    rw [List.append_cons] at hroots ⊢
    have hnew : s.root ∉ roots s0.services := by
      rw [roots_append, roots_append, List.append_assoc] at hroots
      exact not_mem_of_nodup_append hroots s.root (by simp [roots])
    have hk : ∀ p ∈ addPats s0 s, p ∉ keys s0.mux := by
      rw [hmux, keys_dispE]
      exact not_mem_of_nodup_append (regFrom_added hflag s ▸ regFrom_nodup' _)
    have hmux1 : (added s0 s).mux = (Spec.regFrom (roots (added s0 s).services) [] false).map dispE := by
      dsimp only [added]
      rw [regFrom_added hflag, List.map_append, hmux]
    simp only [List.map_cons, runFrom, step_add_of hnew hk]
    exact ih (added s0 s) hmux1 (flagFrom_added hflag s).symm hroots

theorem runFrom_handles (hs : List (Str × Nat)) (s1 : State)
    (hn : (keys s1.mux ++ hs.map (·.1)).Nodup) (hne : ∀ h ∈ hs, h.1 ≠ []) :
    runFrom s1 (hs.map fun h => .handle h.1 h.2) = .ok { s1 with
      mux := s1.mux ++ hs.map plainE, live := s1.live ++ hs, handlers := s1.handlers ++ hs } := by
  induction hs generalizing s1 with
  | nil => simp [runFrom]
  | cons h rest ih =>
    have hp : h.1 ∉ keys s1.mux := not_mem_of_nodup_append hn _ (by simp)
    rw [List.map_cons, runFrom, step_handle, if_neg (hne h mem_cons_self), if_neg hp]
    simp only
    rw [ih _ (by simpa [handled, keys, plainE, List.append_assoc] using hn)
      (fun x hx => hne x (mem_cons_of_mem _ hx))]
    simp [handled, List.append_assoc]

/-- the new container with this content, when it can be built -/
def freshOf (c : Content) : State :=
  { router := c.router, services := c.services,
    mux := (Spec.regFrom (roots c.services) [] false).map dispE ++ c.handlers.map plainE,
    onRoot := Spec.flagFrom (roots c.services) false,
    live := c.handlers, handlers := c.handlers }

theorem fresh_eq (c : Content) (hroots : (roots c.services).Nodup)
    (hk : (Spec.regFrom (roots c.services) [] false ++ c.handlers.map (·.1)).Nodup)
    (hne : ∀ h ∈ c.handlers, h.1 ≠ []) : fresh c = .ok (freshOf c) := by
  unfold fresh run Content.ops
  rw [runFrom_append, runFrom_adds c.services (init c.router) rfl rfl hroots]
  simp only
  rw [runFrom_handles c.handlers _ (by rwa [keys_dispE]) hne]
  rfl

theorem live_eq_handlers {ops : List Op} {st0 st : State} {seen : Bool} (h : runFrom st0 ops = .ok st)
    (h0 : st0.live = st0.handlers) (hs : seen = false → st0.handlers = [])
    (hno : Spec.noHandleBeforeRemove ops seen = true) : st.live = st.handlers := by
  induction ops generalizing st0 seen with
  | nil => exact Except.ok.inj h ▸ h0
  | cons op ops ih =>
    obtain ⟨s1, hstep, h⟩ := runFrom_cons_ok h
    cases op with
    | add s =>
      obtain ⟨_, _, rfl⟩ := step_add_ok hstep
      exact ih h h0 hs hno
    | remove root =>
      simp only [Spec.noHandleBeforeRemove, Bool.and_eq_true, Bool.not_eq_true'] at hno
      rw [step_remove] at hstep
      obtain rfl := Except.ok.inj hstep
      exact ih h (hs hno.1).symm (fun _ => hs hno.1) hno.2
    | route root r =>
      obtain rfl := Except.ok.inj hstep
      exact ih h h0 hs hno
    | removeRoute root p m =>
      obtain rfl := Except.ok.inj hstep
      exact ih h h0 hs hno
    | handle p id =>
      obtain ⟨_, _, rfl⟩ := step_handle_ok hstep
      exact ih (seen := true) h (by simp [handled, h0]) nofun hno

theorem services_of_adds {svcs : List Svc} {s0 s1 : State} (h : runFrom s0 (svcs.map .add) = .ok s1) :
    s1.services = s0.services ++ svcs := by
  induction svcs generalizing s0 with
  | nil => simp [← Except.ok.inj h]
  | cons s rest ih =>
    obtain ⟨s', hs, h⟩ := runFrom_cons_ok h
    obtain ⟨_, _, rfl⟩ := step_add_ok hs
    rw [ih h]
    exact (List.append_cons ..).symm

theorem services_of_handles {hs : List (Str × Nat)} {s1 s2 : State}
    (h : runFrom s1 (hs.map fun x => .handle x.1 x.2) = .ok s2) : s2.services = s1.services := by
  induction hs generalizing s1 with
  | nil => rw [← Except.ok.inj h]
  | cons x rest ih =>
    obtain ⟨s', hs', h⟩ := runFrom_cons_ok h
    obtain ⟨_, _, rfl⟩ := step_handle_ok hs'
    exact (ih h :)

theorem distinctB_iff (l : List Str) : Spec.distinctB l = true ↔ l.Nodup := by
  induction l with
  | nil => simp [Spec.distinctB]
  | cons x xs ih => simp [Spec.distinctB, ih]

/-- `Dispatch` sees the router and the services only, and a new container with the content of ANY
    state `st` has those of `st`. -/
theorem dispatch_fresh (E : ReEnv) (st st' : State) (hf : fresh (content st) = .ok st') (req : Req) :
    answer E st .dispatch req = answer E st' .dispatch req := by
  have hr : st'.router = st.router := runFrom_router (st := init st.router) hf
  have hs : st'.services = st.services := by
    unfold fresh run Content.ops at hf
    rw [runFrom_append] at hf
    cases ha : runFrom (init (content st).router) ((content st).services.map .add) with
    | error e => rw [ha] at hf; cases hf
    | ok s1 =>
      rw [ha] at hf
      rw [services_of_handles hf, services_of_adds ha]
      rfl
  simp only [answer, State.config, hr, hs]

/-- A state that satisfies the invariant and has lost no plain handler: the new container with its
    content can be built, and both entry points answer every request alike. -/
theorem answer_fresh_of_inv (E : ReEnv) {st : State} (inv : Inv st) (hl : st.live = st.handlers) :
    fresh (content st) = .ok (freshOf (content st)) ∧
      ∀ e req, answer E st e req = answer E (freshOf (content st)) e req := by
  have hk : (keys ((Spec.regFrom (roots st.services) [] false).map dispE ++ st.handlers.map plainE)).Nodup :=
    hl ▸ inv.keys.perm inv.perm
  rw [keys_append, keys_dispE, keys_plainE] at hk
  refine ⟨fresh_eq (content st) inv.rootsNodup hk (hl ▸ inv.liveNe :), fun e req => ?_⟩
  cases e with
  | dispatch => rfl
  | serveHTTP =>
    have hmux : Mux.lookup st.mux req.method req.path = Mux.lookup (freshOf (content st)).mux req.method req.path :=
      Mux.lookup_perm (hl ▸ inv.perm :) inv.keys _ _
    simp only [answer, hmux]
    rfl

end Registry
end Restful
