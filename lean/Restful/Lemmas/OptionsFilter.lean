/- `Options.optionsOut` by cases on the method, and what it reads of the path. -/
import Restful.Model.Options
namespace Restful
namespace Options

theorem optionsOut_options (E : ReEnv) (tbl : Config) (rq : OptReq) (h : rq.method = Cors.sOPTIONS) :
    optionsOut E tbl rq = (Cors.computeAllowedMethods E tbl.services rq.path).map fun ms =>
      ⟨[("Allow".toList, Str.join Cors.sComma ms), (Cors.hAllowOrigin, rq.origin), (Cors.hAllowHeaders, rq.acrh),
        (Cors.hAllowMethods, Str.join Cors.sComma ms)], false⟩ := by
  unfold optionsOut
  rw [h, if_neg (by simp)]
  cases Cors.computeAllowedMethods E tbl.services rq.path <;> rfl

theorem optionsOut_computed (E : ReEnv) (tbl : Config) (rq : OptReq) (h : rq.method = Cors.sOPTIONS) (ms : List Str)
    (hc : Cors.computeAllowedMethods E tbl.services rq.path = some ms) :
    optionsOut E tbl rq = some
      ⟨[("Allow".toList, Str.join Cors.sComma ms), (Cors.hAllowOrigin, rq.origin), (Cors.hAllowHeaders, rq.acrh),
        (Cors.hAllowMethods, Str.join Cors.sComma ms)], false⟩ := by
  rw [optionsOut_options E tbl rq h, hc]
  rfl

theorem optionsOut_other (E : ReEnv) (tbl : Config) (rq : OptReq) (h : rq.method ≠ Cors.sOPTIONS) :
    optionsOut E tbl rq = some ⟨[], true⟩ :=
  if_pos (by simpa using h)

theorem optionsOut_congr_path (E : ReEnv) (cfg : Config) (rq : OptReq) (p : Str)
    (h : Cors.computeAllowedMethods E cfg.services p = Cors.computeAllowedMethods E cfg.services rq.path) :
    optionsOut E cfg { rq with path := p } = optionsOut E cfg rq := by
  unfold optionsOut
  simp only [h]

end Options
end Restful
