/-
The tie between the translated decision functions (Gen/Translated.lean, regenerated from the Go
sources by tools/gotrans on every run) and the hand-written models: the model's definitions ARE
the translated ones, for all arguments.  A change to one of these Go functions changes the
generated definition and breaks the corresponding theorem here at compile time.  One file per
group of properties, so that a change breaks the obligations of the properties it concerns only.
This file: the three decisions of the CORS filter (C08, C09) — search loops over the configured
lists (`Translated.search`), `strings.ToLower` as a function parameter (the model's `lower`),
the user's `AllowedDomainFunc` as a function leaf plus its nil test (the model's `pred`).
-/
import Restful.Gen.Translated
import Restful.Lemmas.Cors
namespace Restful
namespace Tie
open Translated

/-- a loop whose body can only `return true` -/
theorem search_any {α : Type} (p : α → Bool) (f : α → Option Bool)
    (hf : ∀ x, f x = if p x then some true else none) (rest : Bool) :
    ∀ l : List α, search l f rest = (l.any p || rest)
  | [] => by simp [search]
  | a :: t => by
    rw [search, hf]
    cases h : p a <;> simp [h, search_any p f hf rest t]

/-- the loop of cors_filter.go:144 (`for _, domain := range c.AllowedDomains`) as translated is the
    model's `Cors.domainLoop`; `rest` is what follows the loop -/
theorem cors_domain_loop (lower : Str → Str) (origin : Str) (rest : Bool) (ds : List Str) :
    search ds (fun x => if (x == ".*".toList) || (lower x == lower origin) then some true else none) rest
      = (if Cors.domainLoop lower (lower origin) ds then true else rest) := by
  rw [search_any _ _ (fun _ => rfl), Cors.domainLoop_eq_any]
  unfold Cors.sDotStar
  cases ds.any _ <;> rfl

/-- cors_filter.go:131 `CrossOriginResourceSharing.isOriginAllowed`: `strings.ToLower` is the
    model's `lower`, `c.AllowedDomainFunc == nil` is `cc.pred.isNone`, the function itself is the
    predicate (whatever stands for a nil function: `dflt`) -/
theorem cors_is_origin_allowed (lower : Str → Str) (cc : Cors.CorsCfg) (origin : Str) (dflt : Str → Bool) :
    CrossOriginResourceSharing_isOriginAllowed origin cc.allowedDomains cc.pred.isNone
        (cc.pred.getD dflt) lower
      = Cors.isOriginAllowed lower cc origin := by
  unfold CrossOriginResourceSharing_isOriginAllowed Cors.isOriginAllowed
  rw [cors_domain_loop]
  have h1 : ∀ n : Nat, (n : Int) + 1 ≠ 0 := fun n => by omega
  cases origin <;> cases cc.allowedDomains <;> cases cc.pred <;> simp [h1]

/-- cors_filter.go:174 `isValidAccessControlRequestMethod(method, allowedMethods)` -/
theorem cors_is_valid_request_method (method : Str) (allowed : List Str) :
    CrossOriginResourceSharing_isValidAccessControlRequestMethod allowed method
      = Cors.isValidAccessControlRequestMethod method allowed := by
  unfold CrossOriginResourceSharing_isValidAccessControlRequestMethod
  rw [search_any _ _ (fun _ => rfl), Cors.isValidMethod_eq, List.contains_eq_any_beq]
  simp [BEq.comm]

/-- cors_filter.go:183 `isValidAccessControlRequestHeader(header)` over `c.AllowedHeaders` -/
theorem cors_is_valid_request_header (lower : Str → Str) (header : Str) (allowed : List Str) :
    CrossOriginResourceSharing_isValidAccessControlRequestHeader allowed lower header
      = Cors.isValidAccessControlRequestHeader lower header allowed := by
  unfold CrossOriginResourceSharing_isValidAccessControlRequestHeader
  rw [search_any (fun a => lower a == lower header || a == "*".toList) _
    (fun a => by cases lower a == lower header <;> cases a == "*".toList <;> rfl), Cors.isValidHeader_eq]
  simp [Spec.headerAllowed, Cors.sStar]

end Tie
end Restful
