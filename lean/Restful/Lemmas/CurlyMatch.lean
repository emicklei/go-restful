/-
CurlyRouter's token walk (`Curly.matchTokens`, curly.go:60) agrees with declarative
admission (`Spec.admits`) on every well-formed template, and reports the template's
parameter / static counts.
-/
import Restful.Lemmas.Render
import Restful.Lemmas.DecideLits
namespace Restful
open Str

namespace Curly
variable (E : ReEnv)

/-- the part of one loop iteration after the custom verb has been dealt with:
    `rt'`, `q'` are the route / request token without their verbs -/
def stepBody (hv : Bool) (rts qs : List Str) (rt' q' : Str) (p s : Nat) : MatchResult :=
  if hasPrefix ['{'] rt' then
    match index ':' rt' with
    | some colon =>
      match regularMatches E rt' colon q' with
      | .fail => .no
      | .panic => .panic
      | .stop => .yes (p + 1) s
      | .next => walk E hv rts qs (p + 1) s
    | none =>
      match index '}' rt' with
      | some e => if !hasSuffix (rt'.drop (e + 1)) q' then .no else walk E hv rts qs (p + 1) s
      | none => walk E hv rts qs (p + 1) s
  else if q' != rt' then .no
  else walk E hv rts qs p (s + 1)

theorem walk_nil (hv : Bool) (qs : List Str) (p s : Nat) : walk E hv [] qs p s = .yes p s := by
  cases qs <;> rfl

theorem walk_cons_nil (hv : Bool) (rt : Str) (rts : List Str) (p s : Nat) :
    walk E hv (rt :: rts) [] p s = .no := rfl

theorem walk_cons (hv : Bool) (rt : Str) (rts : List Str) (q : Str) (qs : List Str) (p s : Nat) :
    walk E hv (rt :: rts) (q :: qs) p s =
      if ((hv && hasCustomVerb rt) && !isMatchCustomVerb rt q) = true then .no else
        stepBody E hv rts qs (if (hv && hasCustomVerb rt) = true then removeCustomVerb rt else rt)
          (if (hv && hasCustomVerb rt) = true then removeCustomVerb q else q) p
          (if (hv && hasCustomVerb rt) = true then s + 1 else s) := by
  rw [walk]
  rfl

def pc (b : Tok) : Nat := if b.name?.isSome then 1 else 0
def sc (b : Tok) : Nat := if b.name?.isNone then 1 else 0

theorem stepBody_render {b : Tok} (hb : b.wf = true) (hv : Bool) (rts qs : List Str) (q : Str)
    (p s : Nat) :
    stepBody E hv rts qs b.render q p s =
      if b.isWild = true then .yes (p + 1) s
      else if Spec.tokOK E .curly b q = true then walk E hv rts qs (p + pc b) (s + sc b)
      else .no := by
  cases b with
  | lit l =>
    have hne : (q != (Tok.lit l).render) = !(q == l) := by simp [Tok.render, bne]
    simp only [stepBody, Tok.hasPrefix_render hb, Bool.false_eq_true, if_false, hne,
      Tok.isWild, Spec.tokOK, pc, sc, Tok.name?, Option.isSome_none, Option.isNone_none,
      if_true, Nat.add_zero]
    cases q == l <;> simp
  | var n =>
    simp only [stepBody, Tok.hasPrefix_render hb, if_true, Tok.index_colon_render hb,
      Tok.index_rbrace_render_var hb, Tok.drop_render_var, hasSuffix, List.isSuffixOf_nil_left,
      Bool.not_true, Bool.false_eq_true, if_false, Tok.isWild, Spec.tokOK, pc, sc, Tok.name?,
      Option.isSome_some, Option.isNone_some, Nat.add_zero]
  | re n e =>
    simp only [stepBody, Tok.hasPrefix_render hb, if_true, Tok.index_colon_render hb,
      regularMatches, Tok.regPart_render_re, Tok.re_ne_star hb, if_false, Tok.isWild, Bool.false_eq_true,
      Spec.tokOK, Spec.reOKFor, pc, sc, Tok.name?, Option.isSome_some, Option.isNone_some,
      Nat.add_zero]
    cases E.search e q <;> simp
  | suf n suffix =>
    simp only [stepBody, Tok.hasPrefix_render hb, if_true, Tok.index_colon_render hb,
      Tok.index_rbrace_render_suf hb, Tok.drop_render_suf, Tok.isWild, Bool.false_eq_true,
      if_false, Spec.tokOK, pc, sc, Tok.name?, Option.isSome_some, Option.isNone_some,
      Nat.add_zero]
    cases hasSuffix suffix q <;> simp
  | wild n =>
    simp only [stepBody, Tok.hasPrefix_render hb, Tok.name?, Option.isSome_some, if_true,
      Tok.index_colon_render hb, regularMatches, Tok.regPart_render_wild, Tok.isWild]

theorem walk_cons_render {t : TTok} (ht : t.wf = true) {hv : Bool}
    (hhv : t.verb.isSome = true → hv = true) (rts : List Str) (q : Str) (qs : List Str)
    (p s : Nat) :
    walk E hv (t.render :: rts) (q :: qs) p s =
      if t.base.isWild = true then .yes (p + 1) s
      else if Spec.segOK E .curly t q = true then
        walk E hv rts qs (p + pc t.base) (s + sc t.base + (if t.verb.isSome then 1 else 0))
      else .no := by
  have hb := TTok.wf_base ht
  obtain ⟨hflag, hkey⟩ := TTok.verb_flag ht hhv
  rw [walk_cons, hkey, hflag]
  cases hverb : t.verb with
  | none =>
    simp only [Option.isSome_none, Bool.false_and, Bool.false_eq_true, if_false, stepBody_render E hb,
      Spec.segOK, hverb, Nat.add_zero]
  | some v =>
    obtain ⟨hvo, hw⟩ := TTok.wf_verb ht hverb
    rw [TTok.isMatchCustomVerb_render ht hverb]
    simp only [Spec.segOK, hverb, hw, Bool.false_eq_true, if_false, Option.isSome_some, if_true,
      Bool.true_and, Bool.and_eq_true, Bool.not_eq_true']
    cases hs : hasSuffix (':' :: v) q with
    | false => simp
    | true =>
      rw [removeCustomVerb_eq_stripVerb hvo hs, stepBody_render E hb]
      simp only [hw, Bool.false_eq_true, if_false, true_and, Nat.add_right_comm _ 1]
      cases Spec.tokOK E RouterKind.curly t.base (Spec.stripVerb v q) <;> simp

end Curly

def lastWild (ts : List TTok) : Bool :=
  match ts.getLast? with
  | some t => t.base.isWild
  | none => false

theorem shapeOK_cons_cons {t t' : TTok} {ts : List TTok} :
    shapeOK (t :: t' :: ts) = true ↔ t.base.isWild = false ∧ t.verb = none ∧ shapeOK (t' :: ts) = true := by
  simp only [shapeOK, Bool.and_eq_true, Bool.not_eq_true', Option.isNone_iff_eq_none, and_assoc]

theorem lastWild_cons_cons (t t' : TTok) (ts : List TTok) :
    lastWild (t :: t' :: ts) = lastWild (t' :: ts) := by
  simp [lastWild, List.getLast?_cons_cons]

theorem lastHasVerb_cons_cons (t t' : TTok) (ts : List TTok) :
    lastHasVerb (t :: t' :: ts) = lastHasVerb (t' :: ts) := by
  simp [lastHasVerb, List.getLast?_cons_cons]

theorem paramCount_cons (t : TTok) (ts : List TTok) :
    paramCount (t :: ts) = Curly.pc t.base + paramCount ts := by
  cases h : t.base.name?.isSome <;> simp [paramCount, Curly.pc, h, Nat.add_comm]

theorem staticCount_singleton (t : TTok) :
    staticCount [t] = Curly.sc t.base + (if t.verb.isSome then 1 else 0) := by
  have hl : lastHasVerb [t] = t.verb.isSome := by simp [lastHasVerb]
  rw [staticCount, hl, Curly.sc, List.filter_cons]
  cases t.base.name?.isNone <;> rfl

theorem staticCount_cons_cons (t t' : TTok) (ts : List TTok) :
    staticCount (t :: t' :: ts) = Curly.sc t.base + staticCount (t' :: ts) := by
  rw [staticCount, staticCount, lastHasVerb_cons_cons, List.filter_cons, Curly.sc]
  cases t.base.name?.isNone <;> simp [Nat.add_left_comm, Nat.add_comm]

theorem lastIsStar_render {ts : List TTok} (hwf : ∀ t ∈ ts, t.wf = true) :
    Curly.lastIsStar (ts.map TTok.render) = lastWild ts := by
  simp only [Curly.lastIsStar, lastWild, List.getLast?_map]
  cases h : ts.getLast? with
  | none => rfl
  | some t =>
    have : t ∈ ts := List.mem_of_getLast? h
    simpa using TTok.isTailWildcard_render (hwf t this)

theorem admits_eq_false_of_length_lt (E : ReEnv) :
    ∀ (ts : List TTok) (qs : List Str), ts.length < qs.length → lastWild ts = false →
      Spec.admits E .curly ts qs = false
  | [], [], h, _ => by simp at h
  | [], _ :: _, _, _ => by simp [Spec.admits]
  | _ :: _, [], h, _ => by simp at h
  | [t], [q], h, _ => by simp at h
  | [t], q :: q' :: qs, _, hw => by
    simp [Spec.admits, show t.base.isWild = false by simpa [lastWild] using hw]
  | t :: t' :: ts, q :: qs, h, hw => by
    have ih := admits_eq_false_of_length_lt E (t' :: ts) qs (by simpa using h)
      (by simpa [lastWild_cons_cons] using hw)
    rw [Spec.admits, ih]
    simp

/-- The walk, started anywhere inside a template: `ts` is the part of the template still to be
    read, `p`/`s` the counts so far.  `hv` is the route's (fixed) verb flag; all that is needed
    of it is that it is set when the last token carries a verb.  The walk does not look at the
    number of request tokens left once it runs out of template tokens, hence `hlen`. -/
theorem Curly.walk_spec (E : ReEnv) (hv : Bool) :
    ∀ (ts : List TTok), (∀ t ∈ ts, t.wf = true) → shapeOK ts = true →
      (lastHasVerb ts = true → hv = true) →
      ∀ (qs : List Str) (p s : Nat), (qs.length ≤ ts.length ∨ lastWild ts = true) →
      Curly.walk E hv (ts.map TTok.render) qs p s =
        if Spec.admits E .curly ts qs = true then .yes (p + paramCount ts) (s + staticCount ts)
        else .no
  | [], _, _, _, [], p, s, _ => by
    simp [Curly.walk, Spec.admits, paramCount, staticCount, lastHasVerb]
  | [], _, _, _, _ :: _, _, _, hlen => by simp [lastWild] at hlen
  | t :: ts, _, _, _, [], p, s, _ => by
    simp [Curly.walk, Spec.admits]
  | [t], hwf, _, hhv, q :: qs, p, s, hlen => by
    have ht : t.wf = true := hwf t (by simp)
    have hhv' : t.verb.isSome = true → hv = true := by
      intro h; apply hhv; simpa [lastHasVerb] using h
    rw [List.map_singleton, Curly.walk_cons_render E ht hhv', Curly.walk_nil]
    simp only [Spec.admits, List.isEmpty_nil, Bool.and_true, paramCount_cons,
      staticCount_singleton]
    cases hw : t.base.isWild with
    | true =>
      obtain ⟨n, hn⟩ : ∃ n, t.base.name? = some n := by cases hb : t.base <;> simp [hb, Tok.isWild, Tok.name?] at hw ⊢
      simp [TTok.wf_wild_verb ht hw, Curly.pc, Curly.sc, hn, paramCount]
    | false =>
      have : qs = [] := by
        rcases hlen with h | h
        · simpa using h
        · simp [lastWild, hw] at h
      subst this
      simp only [Bool.false_eq_true, if_false, List.isEmpty_nil, Bool.and_true, paramCount,
        List.filter_nil, List.length_nil, Nat.add_zero, Nat.add_assoc]
  | t :: t' :: ts, hwf, hshape, hhv, q :: qs, p, s, hlen => by
    have ht : t.wf = true := hwf t (by simp)
    obtain ⟨hw, hverb, hshape'⟩ := shapeOK_cons_cons.mp hshape
    have hhv' : t.verb.isSome = true → hv = true := by simp [hverb]
    have ih := Curly.walk_spec E hv (t' :: ts) (fun x hx => hwf x (by simp [hx])) hshape'
      (by simpa [lastHasVerb_cons_cons] using hhv) qs (p + Curly.pc t.base) (s + Curly.sc t.base)
      (by
        rcases hlen with h | h
        · left; simpa using h
        · right; simpa [lastWild_cons_cons] using h)
    rw [List.map_cons, Curly.walk_cons_render E ht hhv']
    simp only [hverb, Option.isSome_none, Bool.false_eq_true, if_false, Nat.add_zero]
    rw [ih]
    simp only [hw, Bool.false_eq_true, if_false, Spec.admits, Bool.false_and, Bool.and_eq_true,
      paramCount_cons, staticCount_cons_cons, Nat.add_assoc]
    cases Spec.segOK E RouterKind.curly t q <;> simp

/-- **CurlyRouter token matching is exactly declarative admission** (C01/C02/C04 for one route),
    and the counts it ranks candidates by are the template's parameter and static counts. -/
theorem Curly.matchTokens_spec (E : ReEnv) (ts : List TTok) (hwf : ∀ t ∈ ts, t.wf = true)
    (hshape : shapeOK ts = true) (qs : List Str) :
    Curly.matchTokens E (ts.map TTok.render) qs (lastHasVerb ts) =
      if Spec.admits E .curly ts qs = true then .yes (paramCount ts) (staticCount ts) else .no := by
  unfold Curly.matchTokens
  rw [lastIsStar_render hwf, List.length_map]
  by_cases hlt : ts.length < qs.length
  · cases hw : lastWild ts with
    | false =>
      simp [hlt, admits_eq_false_of_length_lt E ts qs hlt hw]
    | true =>
      have := Curly.walk_spec E (lastHasVerb ts) ts hwf hshape id qs 0 0 (Or.inr hw)
      simpa [hlt] using this
  · have := Curly.walk_spec E (lastHasVerb ts) ts hwf hshape id qs 0 0 (Or.inl (by omega))
    simpa [hlt] using this

theorem Curly.admits_of_matchTokens (E : ReEnv) {ts : List TTok} (hwf : ∀ t ∈ ts, t.wf = true)
    (hshape : shapeOK ts = true) {qs : List Str} {p s : Nat}
    (h : Curly.matchTokens E (ts.map TTok.render) qs (lastHasVerb ts) = .yes p s) :
    Spec.admits E .curly ts qs = true := by
  rw [Curly.matchTokens_spec E ts hwf hshape] at h
  split at h
  · assumption
  · cases h

/-- non-vacuity: `/users/{id}/{n:[0-9]+}/{file}.json:export` admits `/users/u1/42/report.json:export` -/
example :
    let ts : List TTok :=
      [ { base := .lit "users".toList },
        { base := .var "id".toList },
        { base := .re "n".toList "[0-9]+".toList },
        { base := .suf "file".toList ".json".toList, verb := some "export".toList } ]
    let E : ReEnv := ⟨fun _ _ => true, fun _ _ => true⟩
    let qs : List Str := ["users", "u1", "42", "report.json:export"].map String.toList
    (∀ t ∈ ts, t.wf = true) ∧ shapeOK ts = true ∧ lastHasVerb ts = true ∧
      Spec.admits E .curly ts qs = true ∧
      Curly.matchTokens E (ts.map TTok.render) qs (lastHasVerb ts) = .yes 3 2 := by
  simp only [List.map]
  decide_lits

end Restful

