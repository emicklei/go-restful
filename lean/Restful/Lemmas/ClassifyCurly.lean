/-
C02 for CurlyRouter: totality and exact classification.

  * the candidate list of the detected service is, as a set, the built routes whose template admits
    the path (`Curly.curlyAfterSvc_cases`, per route `curly_route_facts` of Lemmas/AgreeRoutes.lean);
    nothing panics on checked templates;
  * since fix 19aa57d `computeWebserviceScore` evaluates the expression of a `{name:regex}` root
    token: the router's score IS `Spec.claimScore` (`Curly.wsScoreE_claim`, Lemmas/CurlyScore.lean),
    scoring cannot panic (`Curly.detectWebService_total`), so the service `detectWebService` picks
    is one of `Spec.bestServices` (`Curly.detected_best`) — no hypothesis on root expressions (F03).
    What is needed of the roots (`Curly.RootGood`): `Config.wfTemplates` for services with routes
    (`Curly.rootGood_of_route`), `Curly.rootsRead` for services without.
-/
import Restful.Lemmas.ClassifyDetect
import Restful.Lemmas.Order
import Restful.Lemmas.CurlyParams
import Restful.Lemmas.AgreeRoutes
namespace Restful
open Str
variable (E : ReEnv)

namespace Curly

theorem template_of_wf {cfg : Config} (hk : cfg.router = .curly) (hwf : cfg.wfTemplates = true) {svc : Service}
    (hsvc : svc ∈ cfg.services) {rt : Route} (hrt : rt ∈ svc.built) : ∃ ts, readTemplate rt.path = some ts := by
  have := Config.template_of_wf hwf hsvc hrt
  rwa [hk] at this

theorem pathAdmits_curly {rt : Route} {ts : List TTok} (hts : readTemplate rt.path = some ts) (path : Str) :
    Spec.pathAdmits E .curly rt path = Spec.admits E .curly ts (tokenize path) := by
  unfold Spec.pathAdmits Spec.templateOf
  simp only [hts]
  unfold Spec.admittedSegments
  simp only
  cases Spec.admits E .curly ts (tokenize path) <;> rfl

theorem curlyAfterSvc_cases (svc : Service) (hread : ∀ rt ∈ svc.built, ∃ ts, readTemplate rt.path = some ts)
    (req : Req) :
    ∃ cands, (∀ r, r ∈ cands ↔ r ∈ svc.built ∧ Spec.pathAdmits E .curly r req.path = true) ∧
      Dispatches svc cands req (curlyAfterSvc E svc.built req) := by
  have hmem : ∀ r, r ∈ (Sort.insertionSort candLess (svc.built.filterMap (candOf E (tokenize req.path)))).map (·.route) ↔
      r ∈ svc.built ∧ Spec.pathAdmits E .curly r req.path = true := by
    intro r
    rw [(sorted_routes_perm (candOf E (tokenize req.path)) (·.route) candLess svc.built
      fun x c hc => (candOf_some E hc).1).mem_iff, List.mem_filter]
    refine and_congr_right fun hrt => ?_
    obtain ⟨ts, hts⟩ := hread r hrt
    rw [pathAdmits_curly E hts, ← (curly_route_facts E svc hrt hts req.path).2.1]
  have hnp : svc.built.any (panics E (tokenize req.path)) = false := List.any_eq_false.2 fun rt hrt => by
    obtain ⟨ts, hts⟩ := hread rt hrt
    simp [(curly_route_facts E svc hrt hts req.path).1]
  rw [curlyAfterSvc_finishWith, candidates_eq, hnp]
  refine ⟨_, hmem, Dispatches.finishWith fun r hd => ?_⟩
  obtain ⟨hrt, ha⟩ := (hmem r).1 (detectRoute_ok hd).1
  obtain ⟨ts, hts⟩ := hread r hrt
  rw [pathAdmits_curly E hts] at ha
  exact ⟨Service.built_svc svc hrt, _, (curly_route_facts E svc hrt hts req.path).2.2 ha⟩

/-- under `wfTemplates` (services with routes) and `Curly.rootsRead` (services without) every root
    path reads the way `computeWebserviceScore` treats it -/
theorem rootGood_of_cfg {cfg : Config} (hk : cfg.router = .curly) (hwf : cfg.wfTemplates = true)
    (hroots : Curly.rootsRead cfg = true) {s : Service} (hs : s ∈ cfg.services) :
    RootGood (tokenize s.rootPath) := by
  cases hb : s.built with
  | nil =>
    have hr : s.routes = [] := by simpa [Service.built] using hb
    have h := List.all_eq_true.1 hroots s hs
    simp only [hr, List.isEmpty_nil, Bool.not_true, Bool.false_or] at h
    split at h
    · rename_i ts hts
      exact Or.inl ⟨ts, hts, by simpa [List.all_eq_true, Option.isNone_iff_eq_none] using h⟩
    · cases h
  | cons rt rest =>
    have hrt : rt ∈ s.built := by rw [hb]; exact List.mem_cons_self
    obtain ⟨ts, hts⟩ := template_of_wf hk hwf hs hrt
    exact rootGood_of_route hrt hts

theorem detectWebService_total {svcs : List Service} (hgood : ∀ s ∈ svcs, RootGood (tokenize s.rootPath))
    (qs : List Str) : detectWebService E qs svcs none ≠ none := by
  intro h
  rw [detectWebService_panic] at h
  obtain ⟨s, hs, hp⟩ := h
  exact wsScoreE_ne_panic E qs _ (hgood s hs).noPanic hp

/-- the scored services of `Spec.bestServices` are those the router scores `.yes`: the router's score
    is the specification's claim (`wsScoreE_claim`), regular expressions of root variables included -/
theorem mem_scored {svcs : List Service} (hgood : ∀ s ∈ svcs, RootGood (tokenize s.rootPath)) (qs : List Str)
    (p : Service × Nat) :
    p ∈ svcs.filterMap (fun s => (Spec.claimScore E s qs).map (fun sc => (s, sc))) ↔
      p.1 ∈ svcs ∧ wsScoreE E qs (tokenize p.1.rootPath) = .yes p.2 := by
  have hyes : ∀ s ∈ svcs, ∀ sc, Spec.claimScore E s qs = some sc ↔ wsScoreE E qs (tokenize s.rootPath) = .yes sc :=
    fun s hs sc => by
      rw [wsScoreE_claim E (hgood s hs)]
      cases Spec.claimScore E s qs <;> simp
  simp only [List.mem_filterMap, Option.map_eq_some_iff]
  constructor
  · rintro ⟨s, hs, sc, hc, rfl⟩
    exact ⟨hs, (hyes s hs sc).1 hc⟩
  · rintro ⟨hs, h⟩
    exact ⟨p.1, hs, p.2, (hyes _ hs _).2 h, rfl⟩

theorem foldl_max_eq (x : Nat) : ∀ (l : List (Service × Nat)) (init : Nat), (∀ p ∈ l, p.2 ≤ x) → init ≤ x →
    ((∃ p ∈ l, p.2 = x) ∨ init = x) → l.foldl (fun m p => max m p.2) init = x
  | [], init, _, _, h => by simpa using h
  | p :: l, init, hle, hinit, h => by
    have hp : p.2 ≤ x := hle p List.mem_cons_self
    refine foldl_max_eq x l (max init p.2) (fun q hq => hle q (List.mem_cons_of_mem _ hq)) (by omega) ?_
    rcases h with ⟨q, hq, hqx⟩ | h
    · rcases List.mem_cons.1 hq with rfl | hq
      · exact Or.inr (by omega)
      · exact Or.inl ⟨q, hq, hqx⟩
    · exact Or.inr (by omega)

theorem bestServices_nil {cfg : Config} (hk : cfg.router = .curly)
    (hgood : ∀ s ∈ cfg.services, RootGood (tokenize s.rootPath)) (req : Req)
    (h : detectWebService E (tokenize req.path) cfg.services none = some none) : Spec.bestServices E cfg req = [] := by
  rw [detectWebService_none] at h
  have : cfg.services.filterMap (fun s => (Spec.claimScore E s (tokenize req.path)).map (fun sc => (s, sc))) = [] := by
    rw [List.eq_nil_iff_forall_not_mem]
    intro p hp
    obtain ⟨hs, hy⟩ := (mem_scored E hgood _ p).1 hp
    cases (h.2 p.1 hs).symm.trans hy
  unfold Spec.bestServices
  rw [hk]
  simp only [this]
  rfl

theorem detected_best {cfg : Config} (hk : cfg.router = .curly)
    (hgood : ∀ s ∈ cfg.services, RootGood (tokenize s.rootPath)) (req : Req) {svc : Service} {sc : Nat}
    (h : detectWebService E (tokenize req.path) cfg.services none = some (some (svc, sc))) :
    svc ∈ cfg.services ∧ svc ∈ Spec.bestServices E cfg req := by
  have hsvc : svc ∈ cfg.services := detectWebService_mem_none E h
  obtain ⟨hsc, hmax⟩ := detectWebService_max E (tokenize req.path) cfg.services svc sc h
  have hin := (mem_scored E hgood (tokenize req.path) (svc, sc)).2 ⟨hsvc, hsc⟩
  have hle : ∀ p ∈ cfg.services.filterMap
      (fun s => (Spec.claimScore E s (tokenize req.path)).map (fun sc => (s, sc))), p.2 ≤ sc := fun p hp =>
    have ⟨hs, hy⟩ := (mem_scored E hgood _ p).1 hp
    hmax p.1 hs p.2 hy
  refine ⟨hsvc, ?_⟩
  unfold Spec.bestServices
  rw [hk]
  simp only
  rw [foldl_max_eq sc _ 0 hle (Nat.zero_le _) (Or.inl ⟨_, hin, rfl⟩), List.mem_map]
  exact ⟨(svc, sc), List.mem_filter.2 ⟨hin, by simp⟩, rfl⟩

theorem routed {cfg : Config} (hk : cfg.router = .curly) (hwf : cfg.wfTemplates = true)
    (hroots : Curly.rootsRead cfg = true) (req : Req) : Routed E cfg req (route E cfg req) := by
  rw [route_curly E hk, routeCurly_fst]
  have hgood : ∀ s ∈ cfg.services, RootGood (tokenize s.rootPath) := fun _ => rootGood_of_cfg hk hwf hroots
  cases hd : detectWebService E (tokenize req.path) cfg.services none with
  | none => exact absurd hd (detectWebService_total E hgood _)
  | some d =>
    cases d with
    | none => exact Or.inl ⟨bestServices_nil E hk hgood req hd, rfl⟩
    | some x =>
      obtain ⟨svc, sc⟩ := x
      obtain ⟨hsvc, hbest⟩ := detected_best E hk hgood req hd
      obtain ⟨cands, hmem, hcase⟩ := curlyAfterSvc_cases E svc (fun _ => template_of_wf hk hwf hsvc) req
      exact Or.inr ⟨svc, cands, hsvc, hbest, hk ▸ hmem, hcase⟩

end Curly

/-- **C02, CurlyRouter** (full statement, no hypothesis on root expressions since the repair
    19aa57d of /repo): on checked templates with hygienic media lists the outcome is exactly what the decision
    table says for a best-matching service — best among the roots that CLAIM the URL, regular
    expressions of root variables included -/
theorem C02_classify_curly (E : ReEnv) (cfg : Config) (hk : cfg.router = .curly) (hwf : cfg.wfTemplates = true)
    (hroots : Curly.rootsRead cfg = true) (hh : Spec.mediaHygiene cfg = true) (req : Req) :
    Spec.c02Holds E cfg req (route E cfg req)
      (match route E cfg req with | .selected _ _ _ => 1 | _ => 0) = true :=
  (Curly.routed E hk hwf hroots req).c02Holds hh

end Restful
