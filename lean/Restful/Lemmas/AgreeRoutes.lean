/-
C18, part 2: inside one WebService of the common fragment, on a normal path, the two routers have
the same candidate routes (up to order) and bind the same parameters for each of them; and what
`detectRoute` answers on two permutations of a candidate list.
-/
import Restful.Lemmas.AgreePath
import Restful.Lemmas.Order
import Restful.Lemmas.OrderJsr
import Restful.Lemmas.CurlyParams
import Restful.Lemmas.JsrMatch
namespace Restful
open Str

/-- what `finishWith` does with the route `detectRoute` returns -/
def finOf (extract : Route → Option Params) (r : Route) : Outcome :=
  match extract r with
  | none => .panic "params"
  | some ps => .selected r.svc r.id ps

theorem finishWith_of_stage4_cons (ex : Route → Option Params) {cands : List Route} {req : Req} {r : Route}
    {rest : List Route} (h : stage4 cands req = r :: rest) : finishWith ex cands req = finOf ex r := by
  unfold finishWith finOf
  cases cands with
  | nil => cases h
  | cons x xs => simp only [detectRoute_ok_iff.2 ⟨_, h⟩]; rfl

/-- without an eligible route the answer is `detectRoute`'s error, whatever the extraction -/
theorem finishWith_of_stage4_nil (ex ex' : Route → Option Params) {cands : List Route} {req : Req}
    (h : stage4 cands req = []) :
    finishWith ex cands req = finishWith ex' cands req ∧ ∀ s r ps, finishWith ex cands req ≠ .selected s r ps := by
  unfold finishWith
  cases cands with
  | nil => exact ⟨rfl, by simp⟩
  | cons x xs =>
    simp only
    cases hd : detectRoute (x :: xs) req with
    | error e => exact ⟨rfl, by simp⟩
    | ok r =>
      obtain ⟨rest, hr⟩ := detectRoute_ok_iff.1 hd
      rw [h] at hr
      cases hr

/-- two routers' tails on candidate lists that are permutations of each other: either both reach a
    route (each an eligible member of its list), or both answer the same error -/
theorem finishWith_perm_weak (ex ex' : Route → Option Params) {cands cands' : List Route}
    (hmp : cands.Perm cands') (req : Req) :
    (∃ r ∈ cands, ∃ r' ∈ cands', Spec.eligible r req = true ∧ Spec.eligible r' req = true ∧
        finishWith ex cands req = finOf ex r ∧ finishWith ex' cands' req = finOf ex' r') ∨
    (Spec.sameOutcome (finishWith ex cands req) (finishWith ex' cands' req) ∧
      ∀ s r ps, finishWith ex cands req ≠ .selected s r ps) := by
  have h4 : (stage4 cands req).Perm (stage4 cands' req) := by
    rw [stage4_eq_filter, stage4_eq_filter]; exact hmp.filter _
  cases hs : stage4 cands req with
  | nil =>
    have hs' : stage4 cands' req = [] := by rw [hs] at h4; exact h4.nil_eq.symm
    right
    refine ⟨?_, (finishWith_of_stage4_nil ex ex' hs).2⟩
    rw [← (finishWith_of_stage4_nil ex ex' hs').1]
    exact finishWith_perm ex hmp req (hs.trans hs'.symm)
  | cons r rest =>
    cases hs' : stage4 cands' req with
    | nil => rw [hs, hs'] at h4; exact absurd h4.eq_nil (by simp)
    | cons r' rest' =>
      left
      have hr : r ∈ stage4 cands req := hs ▸ List.mem_cons_self
      have hr' : r' ∈ stage4 cands' req := hs' ▸ List.mem_cons_self
      rw [stage4_eq_filter, List.mem_filter] at hr hr'
      exact ⟨r, hr.1, r', hr'.1, hr.2, hr'.2, finishWith_of_stage4_cons ex hs, finishWith_of_stage4_cons ex' hs'⟩

theorem filterMap_map_eq_filter {α β : Type} (f : α → Option β) (g : β → α) :
    ∀ (l : List α), (∀ x ∈ l, ∀ c, f x = some c → g c = x) →
      (l.filterMap f).map g = l.filter (fun x => (f x).isSome)
  | [], _ => rfl
  | x :: xs, h => by
    have ih := filterMap_map_eq_filter f g xs (fun y hy => h y (List.mem_cons_of_mem _ hy))
    rw [List.filterMap_cons, List.filter_cons]
    cases hf : f x with
    | none => simpa using ih
    | some c =>
      have := h x List.mem_cons_self c hf
      simp [this, ih]

/-- the sorted candidates' routes are, up to order, the routes that yield a candidate -/
theorem sorted_routes_perm {C : Type} (cand : Route → Option C) (route : C → Route) (less : C → C → Bool)
    (routes : List Route) (hroute : ∀ x c, cand x = some c → route c = x) :
    ((Sort.insertionSort less (routes.filterMap cand)).map route).Perm
      (routes.filter fun r => (cand r).isSome) := by
  have := (Sort.insertionSort_perm less (routes.filterMap cand)).map route
  rwa [filterMap_map_eq_filter _ _ _ fun x _ => hroute x] at this

variable (E : ReEnv)

theorem wfCommon_route {cfg : Config} (hwf : Spec.wfCommon cfg = true) {svc : Service} (hsvc : svc ∈ cfg.services)
    {rt : Route} (hrt : rt ∈ svc.built) :
    ∃ ts, readTemplate rt.path = some ts ∧ Spec.readTemplateJ svc.rootPath rt.relPath = some ts ∧
      ∀ t ∈ ts, t.wf = true ∧ Spec.tokCommon t = true := by
  unfold Spec.wfCommon at hwf
  simp only [List.all_eq_true, Bool.and_eq_true] at hwf
  have h := (hwf svc hsvc).2 rt hrt
  rw [Service.built_root svc hrt] at h
  split at h
  · rename_i a b ha hb
    simp only [Bool.and_eq_true, beq_iff_eq, List.all_eq_true] at h
    obtain ⟨rfl, hc⟩ := h
    exact ⟨a, ha, hb, fun t ht => ⟨(readTemplate_facts ha).2.1 t ht, hc t ht⟩⟩
  · simp at h

/-- CurlyRouter on one route: never a panic; a candidate iff the template admits the tokens; the
    path processor binds the expected parameters -/
theorem curly_route_facts (svc : Service) {rt : Route} (hrt : rt ∈ svc.built) {ts : List TTok}
    (hts : readTemplate rt.path = some ts) (p : Str) :
    Curly.panics E (tokenize p) rt = false ∧
    (Curly.candOf E (tokenize p) rt).isSome = Spec.admits E .curly ts (tokenize p) ∧
    (Spec.admits E .curly ts (tokenize p) = true →
      Params.extract rt p = some (Spec.expectedParams ts (tokenize p))) := by
  have hm := matchTokens_of_template E svc hrt hts (tokenize p)
  obtain ⟨hrender, htwf, hshape, hverb, hnd⟩ := readTemplate_facts hts
  obtain ⟨hparts, hhv⟩ := built_pathParts svc hrt
  refine ⟨?_, ?_, ?_⟩
  · unfold Curly.panics
    rw [hm]
    cases Spec.admits E .curly ts (tokenize p) <;> rfl
  · unfold Curly.candOf
    rw [hm]
    cases Spec.admits E .curly ts (tokenize p) <;> rfl
  · intro hadm
    have := Params.extractWalk_spec E ts htwf hshape hnd (tokenize p) hadm
    unfold Params.extract
    rw [hparts, hhv, ← hrender, hverb, this]

/-- RouterJSR311 on one route, once the root has matched: the relative template compiles; a
    candidate iff the template admits the path; the bound parameters are the expected ones -/
theorem jsr_route_facts (svc : Service) {rt : Route} {ts : List TTok}
    (hts : Spec.readTemplateJ svc.rootPath rt.relPath = some ts) {p : Str} (hn : '\n' ∉ p)
    {wex : Jsr.Expr} {wc : List Str} {final : Str} (hwex : Jsr.compile svc.rootPath = some wex)
    (hwm : Jsr.matchExpr E wex.toks p = some (wc, final)) :
    Jsr.rfails rt = false ∧
    (Jsr.rcandOf E final rt).isSome = (Spec.admittedSegments E .jsr ts p).isSome ∧
    (∀ segs, Spec.admittedSegments E .jsr ts p = some segs →
      Jsr.extract E svc rt p = some (Spec.expectedParams ts segs)) := by
  obtain ⟨a, b, ha, hb, hab, hshape, hjsr, hnd⟩ := Jsr.readTemplateJ_spec hts
  have hjb : ∀ t ∈ b, Spec.tokJsrOK t = true := fun t ht => hjsr t (List.mem_append_right _ ht)
  obtain ⟨rex, hrex, _, _⟩ := Jsr.compile_of_readToks' hb hjb
  have hcomplete : ∀ segs, Spec.admittedSegments E .jsr ts p = some segs →
      ∃ rc f, Jsr.matchExpr E rex.toks final = some (rc, f) ∧ (f = [] ∨ f = ['/']) := by
    intro segs hseg
    obtain ⟨wc', final', rc, f, h1, h2, hf⟩ :=
      Jsr.match_complete E svc.rootPath rt.relPath p ts hts wex rex hwex hrex hn segs hseg
    rw [hwm] at h1
    simp only [Option.some.injEq, Prod.mk.injEq] at h1
    obtain ⟨_, rfl⟩ := h1
    exact ⟨rc, f, h2, hf⟩
  refine ⟨by simp [Jsr.rfails, hrex], ?_, ?_⟩
  · cases hc : Jsr.rcandOf E final rt with
    | some c =>
      obtain ⟨_, ex, caps, f, hex, hm, hf, _⟩ := Jsr.rcandOf_some E hc
      rw [hrex] at hex
      cases hex
      obtain ⟨segs, hseg, _⟩ := Jsr.match_sound E svc.rootPath rt.relPath p ts hts wex rex hwex hrex wc caps final f hwm hm hf
      simp [hseg]
    | none =>
      cases hseg : Spec.admittedSegments E .jsr ts p with
      | none => rfl
      | some segs =>
        obtain ⟨rc, f, hm, hf⟩ := hcomplete segs hseg
        rw [Jsr.rcandOf_of E hrex hm hf] at hc
        simp at hc
  · intro segs hseg
    obtain ⟨rc, f, hm, hf⟩ := hcomplete segs hseg
    obtain ⟨segs', hseg', hbind⟩ := Jsr.match_sound E svc.rootPath rt.relPath p ts hts wex rex hwex hrex wc rc final f hwm hm hf
    rw [hseg] at hseg'
    cases hseg'
    unfold Jsr.extract
    simp only [hwex, hrex, hwm, hm, hbind]

end Restful
