/-
C14 for the COMPUTED Allow header (container.go:435 `computeAllowedMethods`, used by
`Container.OPTIONSFilter` and by the CORS preflight when no methods are configured).

`computeAllowedMethods` walks ALL services with the compiled (RouterJSR311-style) expressions,
whatever router the container uses: the root expression is matched against the URL, its final group
against every route's own expression, and the route's method is listed when the route's final group
is empty or `/`.  So the trailing-slash argument is the one of Lemmas/JsrSlash.lean, one level
deeper and without a sort: on `p ++ "/"` the root match is the one on `p` with the final group
extended by `/` (`Jsr.matchExpr_snoc_slash`); that final group is a suffix of `p`, hence again
empty or not ending in `/` (`Jsr.matchExpr_suffix`, `Jsr.NoTS.of_suffix`); the same two lemmas at
route level turn the route's final group `l` into `l ++ "/"`, and the test `l = "" ∨ l = "/"` has
the same value on both (`Jsr.final_test_append_slash`).
-/
import Restful.Lemmas.JsrSlash
import Restful.Lemmas.OptionsFilter
namespace Restful

theorem Jsr.NoTS.of_or {p : Str} (hp : p = [] ∨ p.getLast? ≠ some '/') : Jsr.NoTS p :=
  hp.elim (fun h => h ▸ .nil) id

namespace Cors
open Jsr

theorem routeMethods_append_slash (E : ReEnv) (routes : List RouteDecl)
    (hs : ∀ rt ∈ routes, ∀ ex, compile rt.relPath = some ex → ∀ t ∈ ex.toks, tokOK E t)
    (f : Str) (hf : NoTS f) :
    routeMethods E routes (f ++ ['/']) = routeMethods E routes f := by
  induction routes with
  | nil => rfl
  | cons r rs ih =>
    have ih' := ih (fun rt h => hs rt (List.mem_cons_of_mem _ h))
    unfold routeMethods
    cases hex : compile r.relPath with
    | none => rfl
    | some ex =>
      simp only
      rw [matchExpr_snoc_slash E ex.toks (hs r List.mem_cons_self ex hex) f]
      cases hm : matchExpr E ex.toks f with
      | none => simpa using ih'
      | some cf =>
        obtain ⟨caps, l⟩ := cf
        have hl : NoTS l := hf.of_suffix (matchExpr_suffix E _ _ _ _ hm)
        -- container.go:447 tests the final group for `""` or `"/"`
        simp only [Option.map_some, ih', ← List.isEmpty_iff, Bool.decide_eq_true, final_test_append_slash l hl]

theorem computeAllowedMethods_append_slash_tokOK (E : ReEnv) (svcs : List Service)
    (hroot : ∀ svc ∈ svcs, ∀ ex, compile svc.rootPath = some ex → ∀ t ∈ ex.toks, tokOK E t)
    (hrel : ∀ svc ∈ svcs, ∀ rt ∈ svc.routes, ∀ ex, compile rt.relPath = some ex → ∀ t ∈ ex.toks, tokOK E t)
    (p : Str) (hp : NoTS p) :
    computeAllowedMethods E svcs (p ++ ['/']) = computeAllowedMethods E svcs p := by
  induction svcs with
  | nil => rfl
  | cons s ss ih =>
    have ih' := ih (fun svc h => hroot svc (List.mem_cons_of_mem _ h))
      (fun svc h => hrel svc (List.mem_cons_of_mem _ h))
    unfold computeAllowedMethods
    cases hex : compile s.rootPath with
    | none => rfl
    | some ex =>
      simp only
      rw [matchExpr_snoc_slash E ex.toks (hroot s List.mem_cons_self ex hex) p]
      cases hm : matchExpr E ex.toks p with
      | none => simpa using ih'
      | some cf =>
        obtain ⟨caps, f⟩ := cf
        have hf : NoTS f := hp.of_suffix (matchExpr_suffix E _ _ _ _ hm)
        simp only [Option.map_some, ih', routeMethods_append_slash E s.routes (hrel s List.mem_cons_self) f hf]

/-- the CORS filter reads the path only through `computeAllowedMethods` (preflight without configured methods) -/
theorem corsOut_congr_path (lower : Str → Str) (E : ReEnv) (cc : CorsCfg) (cfg : Config) (rq : CorsReq) (p : Str)
    (h : computeAllowedMethods E cfg.services p = computeAllowedMethods E cfg.services rq.path) :
    corsOut lower E cc cfg { rq with path := p } = corsOut lower E cc cfg rq := by
  unfold corsOut doPreflightRequest doActualRequest setOptionsHeaders setAllowOriginHeader
  simp only [h]

end Cors

end Restful
