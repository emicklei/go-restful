/- web_service.go `WebService.Path` / `compilePathExpression` as translated on this run: the root path as
   given ("/" for the empty string) and its compiled expression -/
import Restful.Lemmas.TieImpBuild
namespace Restful
namespace TieImp
open Imp

/-- `ws.Path(root)`: the root path becomes `root`, "/" when `root` is empty, and `pathExpr` its compiled
    expression (text, literal count, variable names and count, tokens: `Jsr.compile` + `exprText`), for a
    root whose expression `regexp.Compile` accepts (`hc`; otherwise the library exits); the other fields are
    untouched; a slice panic while reading the template is `none` on both sides -/
theorem web_service_path (X : ImpGen.Ext) (quote : Str → Str) (m : Str → Regexp)
    (hT : X.TrimRightSlashEnabled = true) (hq : X.regexp_QuoteMeta = quote) (hts : X.strings_TrimSpace = Jsr.trimSpace)
    (hc : ∀ e : Str, X.regexp_Compile e = (m e, none))
    (w : ImpGen.GoWebService) (root : Str) :
    (ImpGen.WebService_Path X (some w) root).map (fun p => p.2)
      = (Jsr.compile (if root.isEmpty then ['/'] else root)).map (fun ex =>
          some { w with
            rootPath := (if root.isEmpty then ['/'] else root),
            pathExpr := some { LiteralCount := ((ex.literalCount : Nat) : Int), VarNames := ex.varNames,
                               VarCount := ((ex.varCount : Nat) : Int),
                               Matcher := m (exprText quote ex.toks), Source := exprText quote ex.toks,
                               tokens := tokenize (if root.isEmpty then ['/'] else root) } }) := by
  have hs : ("/".toList : Str) = ['/'] := rfl
  unfold ImpGen.WebService_Path ImpGen.WebService_compilePathExpression ImpGen.newPathExpression
  simp only [hc, deref, Option.bind_eq_bind, Option.bind_some, Option.pure_def, len_beq_zero', hs]
  cases hr : root.isEmpty with
  | true =>
    simp only [if_true]
    rw [T16.template_ext X quote hT hq hts, template_to_regex]
    cases Jsr.compile ['/'] with
    | none => rfl
    | some ex => rfl
  | false =>
    simp only [Bool.false_eq_true, if_false]
    rw [T16.template_ext X quote hT hq hts, template_to_regex]
    cases Jsr.compile root with
    | none => rfl
    | some ex => rfl

end TieImp
end Restful
