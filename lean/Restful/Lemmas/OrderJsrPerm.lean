/-
C03 for RouterJSR311: `Jsr.detectDispatcher` case by case (a root that does not compile, no
root matches, the head of the sorted candidate list), and what an all-literal root contributes to
its candidate's key.
-/
import Restful.Lemmas.OrderJsrSort
import Restful.Lemmas.Order
import Restful.Lemmas.JsrSelect
import Restful.Lemmas.JsrMatch
namespace Restful
open Str

namespace Jsr
variable (E : ReEnv)

theorem routeCandidates_perm {routes routes' : List Route} (hp : routes.Perm routes') (rem : Str) :
    OptPerm (routeCandidates E routes rem) (routeCandidates E routes' rem) := by
  rw [routeCandidates_eq, routeCandidates_eq]
  exact guarded_filterMap_perm _ _ hp

theorem detectDispatcher_none {svcs : List Service} {path : Str}
    (h : ∃ s ∈ svcs, compile s.rootPath = none) : detectDispatcher E svcs path = none := by
  unfold detectDispatcher
  rw [dispCandidates_eq, if_pos]
  · rfl
  · rw [List.any_eq_true]
    obtain ⟨s, hs, hc⟩ := h
    exact ⟨s, hs, by simp [dfails, hc]⟩

theorem detectDispatcher_eq {svcs : List Service} {path : Str}
    (h : ¬ ∃ s ∈ svcs, compile s.rootPath = none) :
    detectDispatcher E svcs path = some
      (match Sort.insertionSort dispCandLess (svcs.filterMap (dcandOf E path)) with
       | [] => none
       | c :: _ => some (c.svc, c.finalMatch)) := by
  unfold detectDispatcher
  rw [dispCandidates_eq, if_neg]
  · rfl
  · rw [List.any_eq_true]
    rintro ⟨s, hs, hc⟩
    exact h ⟨s, hs, by simpa [dfails] using hc⟩

theorem detectDispatcher_some_none {svcs : List Service} {path : Str}
    (h : ¬ ∃ s ∈ svcs, compile s.rootPath = none) (hm : ∀ s ∈ svcs, dcandOf E path s = none) :
    detectDispatcher E svcs path = some none := by
  rw [detectDispatcher_eq E h]
  have : svcs.filterMap (dcandOf E path) = [] := by
    rw [List.filterMap_eq_nil_iff]
    exact hm
  rw [this]
  rfl

theorem detectDispatcher_some_some {svcs : List Service} {path : Str} {svc : Service} {final : Str}
    (h : detectDispatcher E svcs path = some (some (svc, final))) :
    (¬ ∃ s ∈ svcs, compile s.rootPath = none) ∧ svc ∈ svcs ∧
    ∃ c, dcandOf E path svc = some c ∧ c.finalMatch = final ∧
      ∀ s' ∈ svcs, ∀ c', dcandOf E path s' = some c' → dispCandLess c' c = false := by
  by_cases hf : ∃ s ∈ svcs, compile s.rootPath = none
  · rw [detectDispatcher_none E hf] at h
    simp at h
  · refine ⟨hf, ?_⟩
    rw [detectDispatcher_eq E hf] at h
    simp only [Option.some.injEq] at h
    split at h
    · simp at h
    · rename_i c rest heq
      simp only [Option.some.injEq, Prod.mk.injEq] at h
      obtain ⟨rfl, rfl⟩ := h
      obtain ⟨hcm, _, hmax⟩ := Sort.insertionSort_filter_head dispCandLess_trans dispCandLess_asymm
        (fun _ => true) ((List.filter_eq_self.mpr fun _ _ => rfl).trans heq)
      obtain ⟨s, hs, hcs⟩ := List.mem_filterMap.mp hcm
      obtain ⟨ex, caps, _, _, hc⟩ := dcandOf_some E hcs
      have hsvc : c.svc = s := by rw [hc]
      rw [← hsvc] at hs hcs
      exact ⟨hs, c, hcs, rfl, fun s' hs' c' hc' => hmax c' (List.mem_filterMap.mpr ⟨s', hs', hc'⟩) rfl⟩

theorem detectDispatcher_isSome {svcs : List Service} {path : Str}
    (h : ¬ ∃ s ∈ svcs, compile s.rootPath = none) {s : Service} (hs : s ∈ svcs) {c : DispCand}
    (hc : dcandOf E path s = some c) :
    ∃ svc final, detectDispatcher E svcs path = some (some (svc, final)) := by
  rw [detectDispatcher_eq E h]
  have hperm := Sort.insertionSort_perm dispCandLess (svcs.filterMap (dcandOf E path))
  have hcm : c ∈ svcs.filterMap (dcandOf E path) := List.mem_filterMap.mpr ⟨s, hs, hc⟩
  cases hL : Sort.insertionSort dispCandLess (svcs.filterMap (dcandOf E path)) with
  | nil =>
    rw [hL] at hperm
    have := hperm.symm.subset hcm
    simp at this
  | cons c0 rest => exact ⟨c0.svc, c0.finalMatch, rfl⟩

theorem allLit_counts {template : Str} {ex : Expr} (hc : compile template = some ex)
    (hlit : ∀ t ∈ ex.toks, ∃ l, t = .lit l) :
    ex.varCount = 0 ∧ ∀ path caps f, matchExpr E ex.toks path = some (caps, f) → caps = [] := by
  have hz : ex.toks.filterMap varNameOf = [] := by
    rw [List.filterMap_eq_nil_iff]
    intro t ht
    obtain ⟨l, rfl⟩ := hlit t ht
    rfl
  constructor
  · unfold compile at hc
    cases hp : parseToks (tokenize template) with
    | none => simp [hp] at hc
    | some ts =>
      simp only [hp, Option.map_some, Option.some.injEq] at hc
      subst hc
      simp only at hz ⊢
      rw [hz]; rfl
  · intro path caps f hm
    have := matchExpr_caps_length E hm
    rw [hz] at this
    exact List.eq_nil_of_length_eq_zero this

end Jsr
end Restful
