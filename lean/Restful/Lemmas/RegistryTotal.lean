/-
What can make a registration panic (since the repair 093fa53 of /repo `addHandler` registers only
the patterns no earlier service mapped): nothing among the WebServices themselves.

* `Remove` never panics (`step_remove`, Lemmas/RegistryInv.lean): the new ServeMux holds no plain handler.
* `Add` of a service with a new root path panics only on a pattern the user registered through
  `Handle`/`HandleWithFilter` on the current ServeMux (`addPats_clash`, `step_add_error`); a root
  path the container already holds is the `os.Exit(1)` of container.go:98-101.
-/
import Restful.Lemmas.RegistryFresh
namespace Restful
namespace Registry
open List Str

theorem inv_mem_keys {st : State} (inv : Inv st) (x : Str) :
    x ∈ keys st.mux ↔ x ∈ Spec.regFrom (roots st.services) [] false ∨ x ∈ st.live.map (·.1) := by
  have h := (inv.perm.map (·.1)).mem_iff (a := x)
  rwa [← keys, ← keys, keys_append, keys_dispE, keys_plainE, List.mem_append] at h

theorem addPats_clash {st : State} (inv : Inv st) {s : Svc} {p : Str} (hp : p ∈ addPats st s)
    (hk : p ∈ keys st.mux) : p ∈ Spec.regPatterns s.root ∧ p ∈ st.live.map (·.1) :=
  ⟨addPats_sub p hp, ((inv_mem_keys inv p).mp hk).resolve_left 
    (not_mem_of_nodup_append (regFrom_added inv.flag s ▸ regFrom_nodup' _) p hp)⟩

theorem step_add_error {st : State} (inv : Inv st) {s : Svc} {e : Panic} (h : step st (.add s) = .error e) :
    (e = .exit ∧ s.root ∈ roots st.services) ∨
    (st.onRoot = false ∧ ∃ p, e = .mux (.multiple p) ∧ p ∈ Spec.regPatterns s.root ∧ p ∈ st.live.map (·.1)) := by
  by_cases hnew : s.root ∈ roots st.services
  · exact Or.inl ⟨Except.error.inj ((step_add_exit hnew).symm.trans h).symm, hnew⟩
  · rcases step_add_cases st hnew with ⟨h', _⟩ | ⟨p, hp, hk, h'⟩
    · rw [h'] at h; cases h
    · refine Or.inr ⟨?_, p, Except.error.inj (h.symm.trans h'), addPats_clash inv hp hk⟩
      cases ho : st.onRoot with
      | false => rfl
      | true => simp [addPats, ho] at hp

theorem runFrom_adds_error {svcs : List Svc} {st : State} (inv : Inv st) (hl : st.live = []) {e : Panic}
    (h : runFrom st (svcs.map .add) = .error e) : e = .exit := by
  induction svcs generalizing st with
  | nil => cases h
  | cons s rest ih =>
    simp only [List.map_cons, runFrom] at h
    cases hs : step st (.add s) with
    | error e1 =>
      obtain rfl := Except.error.inj (hs ▸ h)
      rcases step_add_error inv hs with ⟨he, _⟩ | ⟨_, p, _, _, hm⟩
      · exact he
      · rw [hl] at hm; cases hm
    | ok st1 =>
      rw [hs] at h
      have inv1 := step_inv inv hs
      obtain ⟨_, _, rfl⟩ := step_add_ok hs
      exact ih inv1 hl h

end Registry
end Restful
