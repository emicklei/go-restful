/-
C02 for RouterJSR311: the model's choice of the WebService IS the independent specification.

  (1) `Sort.head?_insertionSort` — the element that Go's insertion sort leaves at index 0, for any
      strict weak order `less`: the FIRST element of the input that no element of the input is
      `less` than.  (Sortedness + permutation do not say this: they do not tell equal keys apart;
      what is needed in addition is that the sort is stable, which is what the invariant of
      `getLast?_sortRev` carries.)
  (2) `Jsr.detectDispatcher_eq_spec` — `Jsr.detectDispatcher` (candidates, `sort.Sort(sort.Reverse(…))`,
      take `[0]`) equals `Spec.jsrBestService` (the first registered among the matching services with
      a maximal key) on ALL inputs.  No bound on the number of candidates: the model's sort is the
      insertion sort for every length (that Go switches to pdqsort above 12 elements is the
      assumption of DESIGN 4.3, not of this theorem).
-/
import Restful.Lemmas.OrderJsrPerm
import Restful.Spec.Classify
namespace Restful.Sort
variable {α : Type}

/-- one step of "keep the running best": a later element replaces it only when strictly `less` -/
def keepBest (less : α → α → Bool) (m x : α) : α := if less x m then x else m

theorem insRev_ne_nil (less : α → α → Bool) (x : α) (l : List α) : insRev less x l ≠ [] :=
  fun h => List.cons_ne_nil x l (List.Perm.eq_nil (h ▸ (insRev_perm less x l).symm))

theorem getLast?_insRev (less : α → α → Bool)
    (htrans : ∀ a b c, less b a = false → less c b = false → less c a = false)
    (x : α) : ∀ (acc : List α) (m : α), acc.Pairwise (fun a b => less a b = false) →
      acc.getLast? = some m → (insRev less x acc).getLast? = some (keepBest less m x)
  | [], _, _, hm => by simp at hm
  | [y], m, _, hm => by
    simp only [List.getLast?_singleton, Option.some.injEq] at hm
    subst hm
    unfold insRev keepBest
    cases h : less x y <;> simp [insRev]
  | y :: y' :: ys, m, hs, hm => by
    rw [List.getLast?_cons_cons] at hm
    rw [List.pairwise_cons] at hs
    have hmem : m ∈ y' :: ys := List.mem_of_getLast? hm
    have hym : less y m = false := hs.1 m hmem
    unfold insRev
    cases h : less x y with
    | true =>
      simp only [if_true]
      rw [List.getLast?_cons, getLast?_insRev less htrans x (y' :: ys) m hs.2 hm]
      rfl
    | false =>
      simp only [Bool.false_eq_true, if_false]
      rw [List.getLast?_cons_cons, List.getLast?_cons_cons, hm]
      have hxm : less x m = false := htrans m y x hym h
      simp [keepBest, hxm]

def isMin (less : α → α → Bool) (l : List α) (x : α) : Bool := l.all (fun y => !less y x)

section
variable (less : α → α → Bool)
  (htrans : ∀ a b c, less b a = false → less c b = false → less c a = false)
  (hasym : ∀ a b, less a b = true → less b a = false)
include htrans hasym

theorem find?_isMin_snoc {pre : List α} {m : α} (x : α) (h : pre.find? (isMin less pre) = some m) :
    (pre ++ [x]).find? (isMin less (pre ++ [x])) = some (keepBest less m x) := by
  have happ : ∀ y, isMin less (pre ++ [x]) y = (isMin less pre y && !less x y) := fun y => by
    simp [isMin, List.all_append]
  obtain ⟨hm, as, bs, hl, has⟩ := List.find?_eq_some_iff_append.1 h
  rw [List.find?_append]
  unfold keepBest
  cases hx : less x m with
  | false =>
    have : pre.find? (isMin less (pre ++ [x])) = some m :=
      List.find?_eq_some_iff_append.2 ⟨by rw [happ, hm, hx]; rfl, as, bs, hl, fun a ha => by
        simp [happ, (by simpa using has a ha : isMin less pre a = false)]⟩
    rw [this]
    rfl
  | true =>
    have hall : ∀ y ∈ pre, less x y = true := fun y hy => by
      cases hxy : less x y with
      | true => rfl
      | false =>
        have hym : less y m = false := by simpa using List.all_eq_true.1 hm y hy
        exact absurd (htrans m y x hym hxy) (by simp [hx])
    have : pre.find? (isMin less (pre ++ [x])) = none :=
      List.find?_eq_none.2 fun y hy => by simp [happ, hall y hy]
    have hxx : isMin less (pre ++ [x]) x = true := by
      rw [happ, irrefl_of_asymm hasym, isMin, List.all_eq_true.2 fun y hy => by simp [hasym _ _ (hall y hy)]]
      rfl
    simp [this, hxx]

/-- the invariant of the loop: the leftmost element of the sorted part is the first minimal element
    of what has been read (`pre`) -/
theorem getLast?_sortRev : ∀ (l acc pre : List α) (m : α), acc.Pairwise (fun a b => less a b = false) →
    acc.getLast? = some m → pre.find? (isMin less pre) = some m →
    (sortRev less acc l).getLast? = (pre ++ l).find? (isMin less (pre ++ l))
  | [], acc, pre, m, _, hm, hp => by simpa [sortRev, hp] using hm
  | x :: xs, acc, pre, m, hs, hm, hp => by
    have := getLast?_sortRev xs (insRev less x acc) (pre ++ [x]) _ (insRev_sorted less htrans hasym x acc hs)
      (getLast?_insRev less htrans x acc m hs hm) (find?_isMin_snoc less htrans hasym x hp)
    simpa [sortRev] using this

/-- **What Go's insertion sort leaves at index 0**, for a strict weak order `less` (asymmetric,
    negation transitive): the FIRST element of the input that no element of the input is `less`
    than.  In particular the sort is stable at the top: of several equally ranked best elements the
    earliest one wins. -/
theorem head?_insertionSort (l : List α) :
    (insertionSort less l).head? = l.find? (fun x => l.all (fun y => !less y x)) := by
  cases l with
  | nil => rfl
  | cons a xs =>
    unfold insertionSort
    rw [List.head?_reverse]
    exact getLast?_sortRev less htrans hasym xs [a] [a] a (by simp) rfl
      (by simp [isMin, irrefl_of_asymm hasym])
end

theorem lexStep_eq_or (f : α → Nat) (next : α → α → Bool) (x y : α) :
    lexStep f next x y = (decide (f y < f x) || (f y == f x && next x y)) := by
  unfold lexStep
  by_cases h1 : f y < f x
  · simp [h1]
  · by_cases h2 : f y = f x
    · simp [h2]
    · simp [h1, h2, Nat.lt_of_le_of_ne (Nat.le_of_not_lt h1) (Ne.symm h2)]

end Restful.Sort

namespace Restful
open Str
namespace Jsr
variable (E : ReEnv)

/-- the specification's view of a dispatcher candidate -/
def DispCand.claim (c : DispCand) : Service × Str × Spec.JsrKey :=
  (c.svc, c.finalMatch, ⟨c.matchesCount, c.literalCount, c.nonDefaultCount⟩)

/-- `Less` under `sort.Reverse`: `x` sorts before `y` iff the key of `y` is strictly below that of `x` -/
theorem dispCandLess_eq_keyLt (x y : DispCand) :
    dispCandLess x y = Spec.JsrKey.lt y.claim.2.2 x.claim.2.2 := by
  rw [dispCandLess_eq]
  simp only [Sort.lexStep_eq_or]
  rfl

theorem jsrClaim_eq (path : Str) (s : Service) :
    Spec.jsrClaim E path s = (dcandOf E path s).map DispCand.claim := by
  unfold Spec.jsrClaim dcandOf
  cases compile s.rootPath with
  | none => rfl
  | some ex =>
    simp only
    cases matchExpr E ex.toks path with
    | none => rfl
    | some cf => rfl

/-- **RouterJSR311's choice of the WebService is the specified one**: collecting the matching
    roots, sorting them with `sort.Sort(sort.Reverse(…))` and taking the first
    (`Jsr.detectDispatcher`, jsr311.go:214) yields — compile failure, "not found", or the service
    together with the final match — exactly `Spec.jsrBestService`: the first registered among the
    matching services whose key (matchesCount, literalCount, nonDefaultCount) is maximal.
    For all inputs. -/
theorem detectDispatcher_eq_spec (svcs : List Service) (path : Str) :
    detectDispatcher E svcs path = Spec.jsrBestService E svcs path := by
  unfold detectDispatcher Spec.jsrBestService
  rw [dispCandidates_eq]
  have hall : svcs.all (fun s => (compile s.rootPath).isSome) = !svcs.any dfails := by
    simp only [List.all_eq_not_any_not, Option.not_isSome]
    rfl
  rw [hall]
  cases hany : svcs.any dfails with
  | true => rfl
  | false =>
    simp only [Bool.false_eq_true, if_false, Bool.not_false, if_true, Option.map_some, Option.some.injEq]
    have hclaims : svcs.filterMap (Spec.jsrClaim E path) = (svcs.filterMap (dcandOf E path)).map DispCand.claim := by
      rw [List.map_filterMap, ← funext (jsrClaim_eq E path)]
    rw [hclaims]
    generalize svcs.filterMap (dcandOf E path) = cs
    have hhead := Sort.head?_insertionSort dispCandLess dispCandLess_trans dispCandLess_asymm cs
    rw [List.find?_map, Option.map_map]
    have hp : ((fun c : Service × Str × Spec.JsrKey =>
          (cs.map DispCand.claim).all (fun d => !Spec.JsrKey.lt c.2.2 d.2.2)) ∘ DispCand.claim) =
        (fun x => cs.all (fun y => !dispCandLess y x)) := by
      funext x
      simp only [Function.comp, List.all_map, dispCandLess_eq_keyLt]
      rfl
    rw [hp, ← hhead]
    cases Sort.insertionSort dispCandLess cs with
    | nil => rfl
    | cons c _ => rfl

end Jsr

/-! ### the specification on concrete tables (non-vacuity) -/
namespace JsrBestExample

def Eany : ReEnv := ⟨fun _ _ => true, fun _ _ => true⟩

def ws (id : Nat) (root : String) : Service := { id := id, root := root.toList, routes := [] }

/-- three roots that all match `/a/b/c`, with three different keys: `/a` (no variable:
    matchesCount 2, 1 literal character), `/a/b` (matchesCount 2, 2 literal characters), `/{x}/b`
    (one variable: matchesCount 3, 1 literal character, nonDefaultCount 1) -/
def wA : Service := ws 0 "/a"
def wAB : Service := ws 1 "/a/b"
def wXB : Service := ws 2 "/{x}/b"

def path : Str := "/a/b/c".toList

/-- their keys (and final matches): the root with a variable has the greatest primary key
    although it has fewer literal characters than `/a/b` — that is what RouterJSR311 documents -/
theorem three_keys :
    Spec.jsrClaim Eany path wA = some (wA, "/b/c".toList, ⟨2, 1, 0⟩) ∧
    Spec.jsrClaim Eany path wAB = some (wAB, "/c".toList, ⟨2, 2, 0⟩) ∧
    Spec.jsrClaim Eany path wXB = some (wXB, "/c".toList, ⟨3, 1, 1⟩) ∧
    Spec.JsrKey.lt ⟨2, 1, 0⟩ ⟨2, 2, 0⟩ = true ∧ Spec.JsrKey.lt ⟨2, 2, 0⟩ ⟨3, 1, 1⟩ = true := by
  decide +kernel

/-- three matching roots of different keys, all six registration orders: the specification picks
    the documented one (`/{x}/b`: most capture groups), with the final match `/c` -/
theorem three_roots :
    Spec.jsrBestService Eany [wA, wAB, wXB] path = some (some (wXB, "/c".toList)) ∧
    Spec.jsrBestService Eany [wA, wXB, wAB] path = some (some (wXB, "/c".toList)) ∧
    Spec.jsrBestService Eany [wAB, wA, wXB] path = some (some (wXB, "/c".toList)) ∧
    Spec.jsrBestService Eany [wAB, wXB, wA] path = some (some (wXB, "/c".toList)) ∧
    Spec.jsrBestService Eany [wXB, wA, wAB] path = some (some (wXB, "/c".toList)) ∧
    Spec.jsrBestService Eany [wXB, wAB, wA] path = some (some (wXB, "/c".toList)) := by
  decide +kernel

/-- without the root with a variable, the root with more literal characters (`/a/b`) is chosen; a
    non-matching root is ignored; no matching root: "not found"; a root that does not compile -/
theorem two_roots :
    Spec.jsrBestService Eany [wA, wAB] path = some (some (wAB, "/c".toList)) ∧
    Spec.jsrBestService Eany [wAB, wA] path = some (some (wAB, "/c".toList)) ∧
    Spec.jsrBestService Eany [wAB, ws 3 "/zz", wA] path = some (some (wAB, "/c".toList)) ∧
    Spec.jsrBestService Eany [ws 3 "/zz"] path = some none ∧
    Spec.jsrBestService Eany [wA, ws 4 "/{a:"] path = none := by
  decide +kernel

/-- two roots with EQUAL keys that both match `/a/b` (one variable, one literal character each) -/
def wXb : Service := ws 5 "/{x}/b"
def wAy : Service := ws 6 "/a/{y}"

/-- **the tie**: with equal keys the FIRST registered service is chosen, in both orders — by the
    specification and by the model's `sort.Sort(sort.Reverse(…))` alike -/
theorem tie_first :
    Spec.jsrClaim Eany "/a/b".toList wXb = some (wXb, [], ⟨3, 1, 1⟩) ∧
    Spec.jsrClaim Eany "/a/b".toList wAy = some (wAy, [], ⟨3, 1, 1⟩) ∧
    Spec.jsrBestService Eany [wXb, wAy] "/a/b".toList = some (some (wXb, [])) ∧
    Spec.jsrBestService Eany [wAy, wXb] "/a/b".toList = some (some (wAy, [])) ∧
    Jsr.detectDispatcher Eany [wXb, wAy] "/a/b".toList = some (some (wXb, [])) ∧
    Jsr.detectDispatcher Eany [wAy, wXb] "/a/b".toList = some (some (wAy, [])) := by
  decide +kernel

/-- the general theorem on these instances -/
example : Jsr.detectDispatcher Eany [wAB, wXB, wA] path = some (some (wXB, "/c".toList)) := by
  rw [Jsr.detectDispatcher_eq_spec]
  exact three_roots.2.2.2.1

end JsrBestExample
end Restful
