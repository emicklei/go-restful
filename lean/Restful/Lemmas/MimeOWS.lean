/- C05_ows: `sortedMimes` factors through the whitespace-free normal form `dropOWS`. -/
import Restful.Lemmas.Mime
import Restful.Lemmas.SplitOn
namespace Restful
namespace Mime
open Str

theorem trimOWS_sublist (s : Str) : (trimOWS s).Sublist s :=
  ((List.dropWhile_sublist isOWS).reverse.trans (List.reverse_reverse _ ▸ .refl _)).trans
    (List.dropWhile_sublist isOWS)

theorem head?_trimOWS (s : Str) : ∀ x, (trimOWS s).head? = some x → isOWS x = false := by
  intro x hx
  -- `trimOWS s` is a prefix of `s.dropWhile isOWS`
  obtain ⟨w, hw⟩ := List.dropWhile_suffix (l := (s.dropWhile isOWS).reverse) isOWS
  have hpre : trimOWS s ++ w.reverse = s.dropWhile isOWS := by
    rw [trimOWS, ← List.reverse_append, hw, List.reverse_reverse]
  have := List.head?_dropWhile_not isOWS s
  rw [← hpre, List.head?_append, hx] at this
  exact this

theorem getLast?_trimOWS (s : Str) : ∀ x, (trimOWS s).getLast? = some x → isOWS x = false := by
  intro x hx
  have := List.head?_dropWhile_not isOWS (s.dropWhile isOWS).reverse
  rw [trimOWS, List.getLast?_reverse] at hx
  rw [hx] at this
  exact this

theorem trimOWS_id {s : Str} (h1 : ∀ x, s.head? = some x → isOWS x = false)
    (h2 : ∀ x, s.getLast? = some x → isOWS x = false) : trimOWS s = s := by
  unfold trimOWS
  rw [dropWhile_eq_self_of_head h1, dropWhile_eq_self_of_head, List.reverse_reverse]
  intro x hx
  rw [List.head?_reverse] at hx
  exact h2 x hx

theorem trimOWS_idem (s : Str) : trimOWS (trimOWS s) = trimOWS s :=
  trimOWS_id (head?_trimOWS s) (getLast?_trimOWS s)

theorem join_cons_sublist {sep x' x : Str} {f : Str → Str} (hx : x'.Sublist x) (hf : ∀ y, (f y).Sublist y)
    (ys : List Str) : (join sep (x' :: ys.map f)).Sublist (join sep (x :: ys)) := by
  unfold join
  induction ys generalizing x' x with
  | nil => simpa using hx
  | cons y ys ih =>
    rw [List.map_cons, List.intercalate_cons_cons, List.intercalate_cons_cons]
    exact (hx.append (.refl _)).append (ih (hf y))

theorem join_map_sublist {f : Str → Str} (hf : ∀ y, (f y).Sublist y) (sep : Str) :
    ∀ xs : List Str, (join sep (xs.map f)).Sublist (join sep xs)
  | [] => .refl _
  | x :: xs => join_cons_sublist (hf x) hf xs

/-- a rewriting of the pieces that only deletes characters brings no separator in: the rewritten
    pieces are the pieces of their join -/
theorem split_join_map {c : Char} {f : Str → Str} (hf : ∀ y, (f y).Sublist y) (s : Str) :
    split c (join [c] ((split c s).map f)) = (split c s).map f := by
  refine List.splitOn_intercalate c (fun x hx hc => ?_) (by simpa using split_ne_nil c s)
  obtain ⟨y, hy, rfl⟩ := List.mem_map.mp hx
  exact not_mem_of_mem_split c s y hy ((hf y).subset hc)

theorem qParam_normParam (p : Str) : Spec.C05.qParam (normParam p) = Spec.C05.qParam p := by
  unfold Spec.C05.qParam
  rw [normParam, split_join_map trimOWS_sublist]
  generalize split '=' p = sp
  rcases sp with _ | ⟨k, _ | ⟨v, _ | ⟨x, xs⟩⟩⟩
  · rfl
  · rfl
  · simp only [List.map_cons, List.map_nil, trimOWS_idem]
  · rfl

theorem qualityOf_normParam (ps : List Str) : qualityOf (ps.map normParam) = qualityOf ps := by
  have : Spec.C05.qParam ∘ normParam = Spec.C05.qParam := funext qParam_normParam
  rw [qualityOf_eq_weight, qualityOf_eq_weight, Spec.C05.weight, List.findSome?_map, this, Spec.C05.weight]

theorem normParam_sublist (p : Str) : (normParam p).Sublist p := by
  have h := join_map_sublist trimOWS_sublist ['='] (split '=' p)
  rwa [join_split] at h

theorem split_normElem {e m : Str} {ps : List Str} (h : split ';' e = m :: ps) :
    split ';' (normElem e) = trimOWS m :: ps.map normParam := by
  have hsep := not_mem_of_mem_split ';' e
  rw [h, List.forall_mem_cons] at hsep
  rw [normElem, h]
  refine List.splitOn_intercalate ';' (fun x hx hc => ?_) (List.cons_ne_nil _ _)
  rcases List.mem_cons.mp hx with rfl | hx
  · exact hsep.1 ((trimOWS_sublist m).subset hc)
  · obtain ⟨y, hy, rfl⟩ := List.mem_map.mp hx
    exact hsep.2 y hy ((normParam_sublist y).subset hc)

theorem rangeOf_normElem (e : Str) : rangeOf (normElem e) = rangeOf e := by
  cases h : split ';' e with
  | nil => exact absurd h (split_ne_nil ';' e)
  | cons m ps =>
    unfold rangeOf
    rw [split_normElem h, h]
    simp only [qualityOf_normParam, trimOWS_idem]

theorem normElem_sublist (e : Str) : (normElem e).Sublist e := by
  cases hs : split ';' e with
  | nil => exact absurd hs (split_ne_nil ';' e)
  | cons m ps =>
    have h := join_cons_sublist (sep := [';']) (trimOWS_sublist m) normParam_sublist ps
    rw [← hs, join_split] at h
    rw [normElem, hs]
    exact h

theorem split_dropOWS (a : Str) : split ',' (dropOWS a) = (split ',' a).map normElem :=
  split_join_map normElem_sublist a

theorem sortedMimes_dropOWS (a : Str) : sortedMimes (dropOWS a) = sortedMimes a := by
  unfold sortedMimes
  rw [foldl_insertValid, foldl_insertValid, split_dropOWS, List.filterMap_map]
  have : rangeOf ∘ normElem = rangeOf := funext rangeOf_normElem
  rw [this]

end Mime
end Restful
