/-
C18, part 3: with literal, pairwise different root paths and a normal request path, both
routers pick the same WebService: the longest root that is a token-prefix of the path.
-/
import Restful.Lemmas.AgreePath
import Restful.Lemmas.OrderScore
import Restful.Lemmas.CurlyScore
import Restful.Lemmas.OrderJsr
namespace Restful
open Str

theorem tokLiteral_cases {t : TTok} (h : Spec.tokLiteral t = true) : ∃ l, t = ⟨.lit l, none⟩ := by
  obtain ⟨base, verb⟩ := t
  cases verb <;> cases base <;> simp_all [Spec.tokLiteral]

theorem wfCommon_root {cfg : Config} (hwf : Spec.wfCommon cfg = true) (hclean : Spec.rootsClean cfg = true)
    {svc : Service} (hsvc : svc ∈ cfg.services) :
    ∃ ls : List Str, tokenize svc.rootPath = ls ∧ Spec.nonEmptyToks svc.rootPath = ls ∧
      (∀ l ∈ ls, litOK l = true) ∧
      ∃ ex, Jsr.compile svc.rootPath = some ex ∧ ex.toks = ls.map Jsr.JTok.lit ∧
        ex.literalCount = (ls.map List.length).sum := by
  unfold Spec.wfCommon at hwf
  unfold Spec.rootsClean at hclean
  simp only [List.all_eq_true, Bool.and_eq_true] at hwf hclean
  have h := (hwf svc hsvc).1
  have hne : Spec.nonEmptyToks svc.rootPath = tokenize svc.rootPath :=
    List.filter_eq_self.2 (hclean svc hsvc)
  split at h
  · rename_i ts hts
    simp only [List.all_eq_true] at h
    obtain ⟨hrender, hwft⟩ := readToks_render hts
    have hform : ∀ t ∈ ts, ∃ l, t = ⟨.lit l, none⟩ ∧ litOK l = true := by
      intro t ht
      obtain ⟨l, rfl⟩ := tokLiteral_cases (h t ht)
      exact ⟨l, rfl, by simpa [TTok.wf, Tok.wf] using hwft _ ht⟩
    have hj : ∀ t ∈ ts, Spec.tokJsrOK t = true := by
      intro t ht
      obtain ⟨l, rfl, _⟩ := hform t ht
      rfl
    obtain ⟨ex, hex, htoks, hlc⟩ := Jsr.compile_of_readToks' hts hj
    have hmap : ts.map Jsr.ofTTok = (ts.map TTok.render).map Jsr.JTok.lit := by
      rw [List.map_map]
      apply List.map_congr_left
      intro t ht
      obtain ⟨l, rfl, _⟩ := hform t ht
      rfl
    refine ⟨ts.map TTok.render, ?_, hrender.symm, ?_, ex, hex, ?_, ?_⟩
    · rw [hrender, hne]
    · intro l hl
      obtain ⟨t, ht, rfl⟩ := List.mem_map.1 hl
      obtain ⟨l, rfl, hlit⟩ := hform t ht
      exact hlit
    · rw [htoks, hmap]
    · rw [hlc, Jsr.jlit, hmap]
      simp only [List.map_map]
      rfl
  · simp at h

namespace Curly

theorem rootTokIsVar_lit {l : Str} (hl : litOK l = true) : Spec.rootTokIsVar l = false := by
  rw [rootTokIsVar_eq]
  exact Tok.hasPrefix_render (b := .lit l) (by simpa [Tok.wf] using hl)

theorem stepD_lit {l : Str} (hl : litOK l = true) (q : Str) (n : Nat) :
    stepD l q n = if q = l then some ((n + 1) * 10) else none := by
  have hne : l.isEmpty = false := List.isEmpty_eq_false_iff.2 (Jsr.litOK_spec hl).1
  unfold stepD
  rw [hne, Bool.and_false, rootTokIsVar_lit hl]
  by_cases hq : q = l <;> simp [hq]

theorem scoreWalk_lit : ∀ (ls qs : List Str) (acc : Nat), (∀ l ∈ ls, litOK l = true) →
    (scoreWalk ls qs acc).isSome = ls.isPrefixOf qs
  | [], qs, acc, _ => by simp [scoreWalk]
  | _ :: _, [], _, _ => by simp [scoreWalk]
  | l :: ls, q :: qs, acc, h => by
    rw [scoreWalk_cons, stepD_lit (h l List.mem_cons_self), List.isPrefixOf_cons_cons]
    by_cases hq : q = l
    · subst hq
      rw [if_pos rfl, Option.bind_some, beq_self_eq_true, Bool.true_and]
      exact scoreWalk_lit ls qs _ fun x hx => h x (List.mem_cons_of_mem _ hx)
    · rw [if_neg hq, beq_eq_false_iff_ne.2 (Ne.symm hq)]
      rfl

/-- `computeWebserviceScore` on a literal root: no `{` token, so no expression is evaluated (fix
    19aa57d changes nothing on the common fragment) and nothing is sliced; the root scores iff its
    tokens are the request's first tokens -/
theorem wsScoreE_lit (E : ReEnv) (ls qs : List Str) (h : ∀ l ∈ ls, litOK l = true) :
    wsScoreE E qs ls ≠ .panic ∧ ((∃ sc, wsScoreE E qs ls = .yes sc) ↔ ls.isPrefixOf qs = true) := by
  have hs : (wsScore qs ls).isSome = ls.isPrefixOf qs := by
    unfold wsScore
    split
    · rename_i hlen
      exact (Bool.eq_false_iff.2 fun hp => by
        have := (List.isPrefixOf_iff_prefix.mp hp).length_le
        omega).symm
    · exact scoreWalk_lit ls qs 0 h
  rw [wsScoreE_of_noVar E qs ls fun l hl => rootTokIsVar_lit (h l hl), ← hs]
  cases wsScore qs ls <;> simp

end Curly

namespace Jsr
variable (E : ReEnv)

/-- an all-literal expression matches `/r` exactly when its literals are the leading raw segments -/
theorem matchExpr_lits_isSome : ∀ (ls : List Str) (r : Str), (∀ l ∈ ls, litOK l = true) → '\n' ∉ r →
    (matchExpr E (ls.map JTok.lit) ('/' :: r)).isSome = ls.isPrefixOf (split '/' r)
  | [], r, _, hn => by
    rw [List.map_nil, (matchExpr_nil_iff E).2 ⟨rfl, rfl, Or.inr ⟨r, rfl⟩, by simpa using hn⟩]
    rfl
  | l :: ls, r, h, hn => by
    -- the literal takes the first raw segment or nothing (`matchTok_ofTok`)
    have key : ∀ {ct rest}, Starts rest → (matchTok E (.lit l) r = some (ct, rest) ↔
        r.takeWhile (· != '/') = l ∧ rest = r.dropWhile (· != '/') ∧ ct = []) := fun hs => by
      simpa [Spec.tokOK, ofTok, Tok.name?] using matchTok_ofTok E (base := .lit l) (h l List.mem_cons_self) rfl rfl hs
    rw [split_eq, List.isPrefixOf_cons_cons, List.map_cons]
    by_cases hq : r.takeWhile (· != '/') = l
    · rw [matchExpr_cons, (key (dropWhile_ne_cases '/' r)).2 ⟨hq, rfl, rfl⟩, Option.bind_some, Option.isSome_map,
        beq_iff_eq.2 hq.symm, Bool.true_and]
      rcases dropWhile_ne_cases '/' r with hd | ⟨r', hd⟩ <;> rw [hd]
      · cases ls <;> rfl
      · refine matchExpr_lits_isSome ls r' (fun x hx => h x (List.mem_cons_of_mem _ hx)) fun hm => hn ?_
        exact (List.dropWhile_sublist _).subset (hd ▸ List.mem_cons_of_mem _ hm)
    · rw [beq_eq_false_iff_ne.2 (Ne.symm hq), Bool.false_and]
      cases hm : matchExpr E (.lit l :: ls.map JTok.lit) ('/' :: r) with
      | none => rfl
      | some x =>
        obtain ⟨_, ct, rest, cs, he, ht, hts, _⟩ := (matchExpr_cons_iff E).1 hm
        cases he
        exact absurd ((key (matchExpr_some_starts E hts)).1 ht).1 hq

end Jsr

theorem isPrefixOf_snoc_nil : ∀ (ls body : List Str), (∀ l ∈ ls, l ≠ []) →
    ls.isPrefixOf (body ++ [[]]) = ls.isPrefixOf body
  | [], _, _ => by simp
  | l :: ls, [], h => by
    have : (l == ([] : Str)) = false := by simpa using h l List.mem_cons_self
    simp [List.isPrefixOf, this]
  | l :: ls, b :: bs, h => by
    simp only [List.cons_append, List.isPrefixOf_cons_cons]
    rw [isPrefixOf_snoc_nil ls bs (fun x hx => h x (List.mem_cons_of_mem _ hx))]

variable (E : ReEnv)

/-- both routers' test "this root claims the request" is: the root's tokens are the first tokens of
    the path; neither router can fail on a literal root -/
theorem root_claims {cfg : Config} (hwf : Spec.wfCommon cfg = true) (hclean : Spec.rootsClean cfg = true)
    {svc : Service} (hsvc : svc ∈ cfg.services) {p : Str} (hp : Spec.normalPath p = true) :
    Spec.nonEmptyToks svc.rootPath = tokenize svc.rootPath ∧ (∀ l ∈ tokenize svc.rootPath, l ≠ []) ∧
    Curly.svcScoreE E (tokenize p) svc ≠ .panic ∧
    ((∃ sc, Curly.svcScoreE E (tokenize p) svc = .yes sc) ↔
      (tokenize svc.rootPath).isPrefixOf (tokenize p) = true) ∧
    (Jsr.dcandOf E p svc).isSome = (tokenize svc.rootPath).isPrefixOf (tokenize p) ∧
    ∃ ex, Jsr.compile svc.rootPath = some ex ∧ (∀ t ∈ ex.toks, ∃ l, t = .lit l) ∧
      ex.literalCount = ((tokenize svc.rootPath).map List.length).sum := by
  obtain ⟨ls, htok, hnet, hlit, ex, hex, htoks, hlc⟩ := wfCommon_root hwf hclean hsvc
  subst htok
  obtain ⟨r, body, rfl, hnl, hbody, hbne, hsplit⟩ := Spec.normalPath_spec hp
  have hlne : ∀ l ∈ tokenize svc.rootPath, l ≠ [] := fun l hl => (Jsr.litOK_spec (hlit l hl)).1
  obtain ⟨hs1, hs2⟩ := Curly.wsScoreE_lit E _ (tokenize ('/' :: r)) hlit
  refine ⟨hnet, hlne, hs1, hs2, ?_, ex, hex, ?_, hlc⟩
  · have hm := Jsr.matchExpr_lits_isSome E _ r hlit hnl
    have hpre : (tokenize svc.rootPath).isPrefixOf (split '/' r) = (tokenize svc.rootPath).isPrefixOf body := by
      rcases hsplit with hs | hs
      · rw [hs]
      · rw [hs, isPrefixOf_snoc_nil _ body hlne]
    rw [hbody, ← hpre, ← hm]
    unfold Jsr.dcandOf
    rw [hex]
    simp only [htoks]
    cases Jsr.matchExpr E ((tokenize svc.rootPath).map Jsr.JTok.lit) ('/' :: r) <;> rfl
  · intro t ht
    rw [htoks, List.mem_map] at ht
    obtain ⟨l, _, rfl⟩ := ht
    exact ⟨l, rfl⟩

/-- **C18, service selection coincides**: with literal, clean, pairwise different roots and a
    normal path, CurlyRouter's `detectWebService` and RouterJSR311's `detectDispatcher` pick the
    same WebService, or neither finds one (CurlyRouter's scoring does not panic, and RouterJSR311
    never fails to compile a root) -/
theorem C18_service_agrees (E : ReEnv) (cfg : Config) (hwf : Spec.wfCommon cfg = true)
    (hroots : Spec.rootsDistinct cfg = true) (hclean : Spec.rootsClean cfg = true)
    (p : Str) (hp : Spec.normalPath p = true) :
    match Curly.detectWebService E (tokenize p) cfg.services none, Jsr.detectDispatcher E cfg.services p with
    | some none, some none => True
    | some (some (s, _)), some (some (s', _)) => s = s'
    | _, _ => False := by
  have hfail : ¬ ∃ s ∈ cfg.services, Jsr.compile s.rootPath = none := by
    rintro ⟨s, hs, hc⟩
    obtain ⟨_, _, _, _, _, ex, hex, _⟩ := root_claims E hwf hclean hs hp
    rw [hex] at hc
    cases hc
  cases h1 : Curly.detectWebService E (tokenize p) cfg.services none with
  | none =>
    obtain ⟨s, hs, hpanic⟩ := (Curly.detectWebService_panic E _ _ _).mp h1
    exact absurd hpanic (root_claims E hwf hclean hs hp).2.2.1
  | some d1 =>
  cases d1 with
  | none =>
    have hnone := ((Curly.detectWebService_none E _ _ _).mp h1).2
    have hj : ∀ s ∈ cfg.services, Jsr.dcandOf E p s = none := by
      intro s hs
      obtain ⟨_, _, _, hsc, hd, _⟩ := root_claims E hwf hclean hs hp
      have hpf : (tokenize s.rootPath).isPrefixOf (tokenize p) = false := Bool.eq_false_iff.2 fun hpre => by
        obtain ⟨sc, h⟩ := hsc.2 hpre
        rw [hnone s hs] at h
        cases h
      rw [hpf] at hd
      simpa using hd
    rw [Jsr.detectDispatcher_some_none E hfail hj]
    trivial
  | some x =>
    obtain ⟨s, sc⟩ := x
    have hmem : s ∈ cfg.services := Curly.detectWebService_mem_none E h1
    obtain ⟨hscore, hmax⟩ := Curly.detectWebService_max E _ _ _ _ h1
    obtain ⟨hnet, hlne, _, hsc, hd, ex, hex, _, hlc⟩ := root_claims E hwf hclean hmem hp
    have hpre := hsc.1 ⟨sc, hscore⟩
    rw [hpre] at hd
    obtain ⟨c, hc⟩ := Option.isSome_iff_exists.mp hd
    obtain ⟨s', f', hdd⟩ := Jsr.detectDispatcher_isSome E hfail hmem hc
    rw [hdd]
    simp only
    -- `s'` claims the request as well
    obtain ⟨_, hmem', c', hc', _, _⟩ := Jsr.detectDispatcher_some_some E hdd
    obtain ⟨hnet', _, _, hsc', hd', ex', hex', _, hlc'⟩ := root_claims E hwf hclean hmem' hp
    have hpre' : (tokenize s'.rootPath).isPrefixOf (tokenize p) = true := by rw [← hd', hc']; rfl
    obtain ⟨sc', hscore'⟩ := hsc'.2 hpre'
    -- RouterJSR311: `s'` has at least as many literal characters
    have hlit : ∀ t ∈ cfg.services, ∀ ex, Jsr.compile t.rootPath = some ex → ∀ x ∈ ex.toks, ∃ l, x = .lit l := by
      intro t ht ext hext
      obtain ⟨_, _, _, _, _, ex0, hex0, hall0, _⟩ := root_claims E hwf hclean ht hp
      rw [hex0] at hext
      cases hext
      exact hall0
    obtain ⟨exc, capsc, hexc, hmc, _⟩ := Jsr.dcandOf_some E hc
    have hchars := C03_jsr_literal_root_longest E cfg.services p s' f' hlit hdd s hmem exc capsc _ hexc hmc ex' hex'
    rw [hex] at hexc
    cases hexc
    rw [hlc, hlc'] at hchars
    -- both token lists are prefixes of the request's; a proper prefix loses with CurlyRouter (fewer
    -- tokens) as well as with RouterJSR311 (fewer literal characters)
    have heq : tokenize s.rootPath = tokenize s'.rootPath := by
      apply Classical.byContradiction
      intro hne
      rcases List.prefix_or_prefix_of_prefix (List.isPrefixOf_iff_prefix.mp hpre)
        (List.isPrefixOf_iff_prefix.mp hpre') with hle | hle
      · have := C03_rootE_longer_beats_prefix E (tokenize p) _ _ hle hne sc' sc hscore' hscore
        have := hmax s' hmem' sc' hscore'
        omega
      · obtain ⟨ext, hext⟩ := hle
        cases ext with
        | nil => exact hne (by rw [← hext, List.append_nil])
        | cons l ls =>
          have : 0 < l.length := List.length_pos_iff.mpr (hlne l (by rw [← hext]; simp))
          rw [← hext, List.map_append, List.sum_append_nat, List.map_cons, List.sum_cons] at hchars
          omega
    -- different services have different root token lists
    have hdist := (Spec.pairwiseB_iff _ _).mp hroots
    apply pairwise_eq_of_not hdist hmem hmem'
    · rw [hnet, hnet', heq]; simp
    · rw [hnet, hnet', heq]; simp

end Restful
