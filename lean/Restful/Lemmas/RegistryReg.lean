/-
What `addHandler` and the rebuild loop of `Remove` register, in closed form: the patterns
`Spec.regFrom roots seen onRoot` (those of the wanted patterns `Spec.patsFrom` that no earlier service
mapped), in order.  They are pairwise different and differ from every pattern an earlier service
registered, so only a pattern the user registered through `Handle` can make a registration panic.
-/
import Restful.Model.Registry
import Restful.Spec.Registry
import Restful.Lemmas.Mux
namespace Restful
namespace Registry
open List Str

def roots (l : List Svc) : List Str := l.map (·.root)

def dispE (p : Str) : Mux.Entry := (p, .dispatch)
def plainE (h : Str × Nat) : Mux.Entry := (h.1, .plain h.2)

def keys (t : Mux.Table) : List Str := t.map (·.1)

theorem keys_append (t u : Mux.Table) : keys (t ++ u) = keys t ++ keys u := by simp [keys]
theorem keys_dispE (ps : List Str) : keys (ps.map dispE) = ps := by
  simp [keys, dispE, Function.comp_def]
theorem keys_plainE (hs : List (Str × Nat)) : keys (hs.map plainE) = hs.map (·.1) := by
  simp [keys, plainE, Function.comp_def]

/-- servemux121.go:53 `handle`, in terms of the patterns the mux holds -/
theorem reg_eq (t : Mux.Table) (p : Str) (h : Mux.Target) :
    reg t p h = if p = [] then .error (.mux .invalidPattern)
      else if p ∈ keys t then .error (.mux (.multiple p)) else .ok (t ++ [(p, h)]) := by
  unfold reg Mux.register
  by_cases hp : p = []
  · simp [hp]
  · by_cases hk : p ∈ keys t
    · simp [hp, hk, Mux.has_eq_true.mpr hk]
    · simp [hp, hk, mt Mux.has_eq_true.mp hk]

def regList (t : Mux.Table) : List Str → Except Panic Mux.Table
  | [] => .ok t
  | p :: ps =>
    match reg t p .dispatch with
    | .ok t' => regList t' ps
    | .error e => .error e

theorem regList_append (t : Mux.Table) (a b : List Str) :
    regList t (a ++ b) = match regList t a with
      | .ok t' => regList t' b
      | .error e => .error e := by
  induction a generalizing t with
  | nil => rfl
  | cons p ps ih =>
    simp only [List.cons_append, regList]
    cases reg t p .dispatch with
    | ok t' => exact ih t'
    | error e => rfl

theorem regList_cases (t : Mux.Table) {ps : List Str} (hne : ∀ p ∈ ps, p ≠ []) (hn : ps.Nodup) :
    (regList t ps = .ok (t ++ ps.map dispE) ∧ ∀ p ∈ ps, p ∉ keys t) ∨
    ∃ p ∈ ps, p ∈ keys t ∧ regList t ps = .error (.mux (.multiple p)) := by
  induction ps generalizing t with
  | nil => exact Or.inl ⟨by simp [regList], nofun⟩
  | cons p ps ih =>
    obtain ⟨hp, hn'⟩ := List.nodup_cons.mp hn
    rw [regList, reg_eq, if_neg (hne p mem_cons_self)]
    by_cases hk : p ∈ keys t
    · exact Or.inr ⟨p, mem_cons_self, hk, by rw [if_pos hk]⟩
    · rw [if_neg hk]
      have hkeys : keys (t ++ [(p, Mux.Target.dispatch)]) = keys t ++ [p] := keys_append t _
      rcases ih (t ++ [(p, .dispatch)]) (fun q hq => hne q (mem_cons_of_mem _ hq)) hn' with ⟨h, hk'⟩ | ⟨q, hq, hqk, h⟩
      · refine Or.inl ⟨by simp [h, dispE], fun q hq => ?_⟩
        rcases mem_cons.mp hq with rfl | hq
        · exact hk
        · exact fun hm => hk' q hq (hkeys ▸ mem_append_left _ hm)
      · refine Or.inr ⟨q, mem_cons_of_mem _ hq, ?_, h⟩
        rcases mem_append.mp (hkeys ▸ hqk) with h1 | h1
        · exact h1
        · exact absurd (mem_singleton.mp h1 ▸ hq) hp

theorem regList_of {t : Mux.Table} {ps : List Str} (hne : ∀ p ∈ ps, p ≠ []) (hn : ps.Nodup)
    (hk : ∀ p ∈ ps, p ∉ keys t) : regList t ps = .ok (t ++ ps.map dispE) := by
  rcases regList_cases t hne hn with ⟨h, _⟩ | ⟨p, hp, hpk, _⟩
  · exact h
  · exact absurd hpk (hk p hp)

theorem isRootPattern_false {root : Str} (h : Spec.isRootPattern root = false) :
    fixedPrefixPath root ≠ ['/'] ∧ fixedPrefixPath root ≠ [] := by
  simpa [Spec.isRootPattern] using h

theorem regPatterns_ne_nil {root : Str} : ∀ p ∈ Spec.regPatterns root, p ≠ [] := by
  intro p hp
  unfold Spec.regPatterns at hp
  cases h : Spec.isRootPattern root with
  | true => simp only [h, if_true, mem_singleton] at hp; simp [hp]
  | false =>
    have hne := (isRootPattern_false h).2
    simp only [h, Bool.false_eq_true, if_false] at hp
    split at hp <;> simp only [mem_cons, not_mem_nil, or_false] at hp
    · exact hp ▸ hne
    · rcases hp with rfl | rfl
      · exact hne
      · simp

theorem regPatterns_nodup (root : Str) : (Spec.regPatterns root).Nodup := by
  unfold Spec.regPatterns
  split
  · simp
  · split
    · simp
    · simp

/-- the keys of `mapped` for services with these root paths -/
def mappedAll (rs : List Str) : List Str := rs.flatMap mappedOf

theorem mapped_eq (l : List Svc) : mapped l = mappedAll (roots l) := by
  simp [mapped, mappedAll, roots, List.flatMap_map]

theorem mappedAll_append (a b : List Str) : mappedAll (a ++ b) = mappedAll a ++ mappedAll b := by
  simp [mappedAll]

theorem mappedAll_nil : mappedAll [] = [] := rfl

theorem regPatterns_sub_mappedOf {root : Str} : ∀ p ∈ Spec.regPatterns root, p ∈ mappedOf root := by
  intro p hp
  cases h : Spec.isRootPattern root with
  | false => simpa only [Spec.regPatterns, mappedOf, h, Bool.false_eq_true, if_false] using hp
  | true =>
    simp only [Spec.regPatterns, h, if_true, List.mem_singleton] at hp
    subst hp
    simp only [Spec.isRootPattern, Bool.or_eq_true, beq_iff_eq] at h
    rcases h with h | h <;> simp [mappedOf, h, hasSuffix]

theorem root_not_mem_mappedOf {root : Str} (h : Spec.isRootPattern root = false) : ['/'] ∉ mappedOf root := by
  obtain ⟨h1, h2⟩ := isRootPattern_false h
  have h3 : fixedPrefixPath root ++ ['/'] ≠ ['/'] := fun h0 => h2 (by simpa using h0)
  unfold mappedOf
  simp only
  split <;> simp [Ne.symm h1, Ne.symm h3]

theorem newPatterns_sub {seen : List Str} {root : Str} : ∀ p ∈ Spec.newPatterns seen root, p ∈ Spec.regPatterns root := by
  intro p hp
  unfold Spec.newPatterns at hp
  split at hp
  · rename_i h
    simpa [Spec.regPatterns, h] using hp
  · exact (List.mem_filter.mp hp).1

theorem newPatterns_nodup (seen : List Str) (root : Str) : (Spec.newPatterns seen root).Nodup := by
  unfold Spec.newPatterns
  split
  · simp
  · exact (regPatterns_nodup root).filter _

theorem newPatterns_not_seen {seen : List Str} {root : Str} (h : Spec.isRootPattern root = false) :
    ∀ p ∈ Spec.newPatterns seen root, p ∉ seen :=
  fun p hp => (by simpa [Spec.newPatterns, h] using hp : _ ∧ p ∉ seen).2

theorem regList_unless (t : Mux.Table) (seen : List Str) (p : Str) :
    regList t ([p].filter fun q => !seen.contains q) =
      if seen.contains p then .ok t else reg t p .dispatch := by
  cases h : seen.contains p
  · simp only [List.filter_cons, h, Bool.not_false, if_true, List.filter_nil, regList, Bool.false_eq_true, if_false]
    cases reg t p .dispatch <;> rfl
  · simp only [List.filter_cons, h, Bool.not_true, Bool.false_eq_true, if_false, List.filter_nil, regList, if_true]

/-- container.go:117 `addHandler` in closed form -/
theorem addHandler_eq (registered : List Svc) (s : Svc) (t : Mux.Table) :
    addHandler registered s t =
      (regList t (Spec.newPatterns (mapped registered) s.root)).map (·, Spec.isRootPattern s.root) := by
  unfold addHandler Spec.newPatterns
  cases hr : Spec.isRootPattern s.root with
  | true =>
    have h1 : fixedPrefixPath s.root = ['/'] ∨ fixedPrefixPath s.root = [] := by
      simpa [Spec.isRootPattern] using hr
    simp only [h1, if_true, regList]
    cases reg t ['/'] .dispatch <;> rfl
  | false =>
    have h1 : ¬(fixedPrefixPath s.root = ['/'] ∨ fixedPrefixPath s.root = []) := by
      simpa [Spec.isRootPattern] using hr
    have hpats : Spec.regPatterns s.root = [fixedPrefixPath s.root] ++
        (if hasSuffix ['/'] (fixedPrefixPath s.root) then [] else [fixedPrefixPath s.root ++ ['/']]) := by
      simp only [Spec.regPatterns, hr, Bool.false_eq_true, if_false]
      split <;> rfl
    -- each of the two patterns in turn: `regList_unless`
    simp only [h1, if_false, Bool.false_eq_true, hpats, List.filter_append, regList_append, regList_unless]
    cases (if (mapped registered).contains (fixedPrefixPath s.root) then Except.ok t
      else reg t (fixedPrefixPath s.root) .dispatch) with
    | error e => rfl
    | ok t' =>
      cases hasSuffix ['/'] (fixedPrefixPath s.root) with
      | true => rfl
      | false =>
        simp only [Bool.not_false, Bool.true_and, Bool.false_eq_true, if_false, regList_unless]
        cases (mapped registered).contains (fixedPrefixPath s.root ++ ['/']) with
        | true => rfl
        | false => cases reg t' (fixedPrefixPath s.root ++ ['/']) .dispatch <;> rfl

theorem patsFrom_true (rs : List Str) : Spec.patsFrom rs true = [] := by
  cases rs <;> simp [Spec.patsFrom]

theorem regFrom_true (rs seen : List Str) : Spec.regFrom rs seen true = [] := by
  cases rs <;> simp [Spec.regFrom]

theorem flagFrom_true (rs : List Str) : Spec.flagFrom rs true = true := by
  cases rs <;> simp [Spec.flagFrom]

theorem patsFrom_append (rs : List Str) (r : Str) (b : Bool) :
    Spec.patsFrom (rs ++ [r]) b = Spec.patsFrom rs b ++ (if Spec.flagFrom rs b then [] else Spec.regPatterns r) := by
  induction rs generalizing b with
  | nil => cases b <;> simp [Spec.patsFrom, Spec.flagFrom]
  | cons x xs ih => cases b <;> simp [Spec.patsFrom, Spec.flagFrom, ih]

theorem regFrom_append (rs : List Str) (r : Str) (seen : List Str) (b : Bool) :
    Spec.regFrom (rs ++ [r]) seen b = Spec.regFrom rs seen b ++
      (if Spec.flagFrom rs b then [] else Spec.newPatterns (seen ++ mappedAll rs) r) := by
  induction rs generalizing seen b with
  | nil => cases b <;> simp [Spec.regFrom, Spec.flagFrom, mappedAll_nil]
  | cons x xs ih => cases b <;> simp [Spec.regFrom, Spec.flagFrom, ih, mappedAll]

theorem flagFrom_append (rs : List Str) (r : Str) (b : Bool) :
    Spec.flagFrom (rs ++ [r]) b = (if Spec.flagFrom rs b then true else Spec.isRootPattern r) := by
  induction rs generalizing b with
  | nil => cases b <;> simp [Spec.flagFrom]
  | cons x xs ih => cases b <;> simp [Spec.flagFrom, ih]

theorem mem_regFrom {rs seen : List Str} {b : Bool} {p : Str} (h : p ∈ Spec.regFrom rs seen b) :
    ∃ r ∈ rs, p ∈ Spec.regPatterns r := by
  induction rs generalizing seen b with
  | nil => cases h
  | cons r rs ih =>
    cases b with
    | true => simp [Spec.regFrom] at h
    | false =>
      simp only [Spec.regFrom, Bool.false_eq_true, if_false, List.mem_append] at h
      rcases h with h | h
      · exact ⟨r, mem_cons_self, newPatterns_sub p h⟩
      · obtain ⟨r', hr', hp⟩ := ih h
        exact ⟨r', mem_cons_of_mem _ hr', hp⟩

theorem regFrom_ne_nil (rs seen : List Str) (b : Bool) : ∀ p ∈ Spec.regFrom rs seen b, p ≠ [] :=
  fun p hp => let ⟨_, _, h⟩ := mem_regFrom hp; regPatterns_ne_nil p h

/-- THE point of the repair 093fa53: the registered patterns are pairwise different and differ from
    everything mapped before, whatever the root paths are -/
theorem regFrom_nodup (rs seen : List Str) (hs : ['/'] ∉ seen) :
    (Spec.regFrom rs seen false).Nodup ∧ ∀ p ∈ Spec.regFrom rs seen false, p ∉ seen := by
  induction rs generalizing seen with
  | nil => simp [Spec.regFrom]
  | cons r rs ih =>
    simp only [Spec.regFrom, Bool.false_eq_true, if_false]
    cases hr : Spec.isRootPattern r with
    | true => simpa [regFrom_true, Spec.newPatterns, hr] using hs
    | false =>
      obtain ⟨n1, d1⟩ := ih (seen ++ mappedOf r) (by simp [hs, root_not_mem_mappedOf hr])
      refine ⟨nodup_append_of (newPatterns_nodup _ _) n1 fun a ha ha' => ?_, fun p hp => ?_⟩
      · exact d1 a ha (mem_append_right _ (regPatterns_sub_mappedOf a (newPatterns_sub a ha')))
      · rcases List.mem_append.mp hp with hp | hp
        · exact newPatterns_not_seen hr p hp
        · exact fun hm => d1 p hp (mem_append_left _ hm)

theorem regFrom_nodup' (rs : List Str) : (Spec.regFrom rs [] false).Nodup :=
  (regFrom_nodup rs [] (by simp)).1

theorem rebuild_eq (root : Str) (l news : List Svc) (t : Mux.Table) (r : Bool) :
    rebuild root l news t r =
      (regList t (Spec.regFrom (roots (l.filter (·.root != root))) (mapped news) r)).map
        (·, Spec.flagFrom (roots (l.filter (·.root != root))) r) := by
  induction l generalizing news t r with
  | nil => cases r <;> rfl
  | cons each rest ih =>
    simp only [rebuild, List.filter_cons]
    cases hne : each.root != root with
    | false => exact ih news t r
    | true =>
      cases r with
      | true => simp [ih, roots, regFrom_true, flagFrom_true]
      | false =>
        simp only [if_true, Bool.not_false, addHandler_eq, roots, List.map_cons, Spec.regFrom, Spec.flagFrom,
          Bool.false_eq_true, if_false, regList_append]
        cases regList t (Spec.newPatterns (mapped news) each.root) with
        | error e => rfl
        | ok t' => exact (ih _ t' _).trans (by simp [mapped, roots])

end Registry
end Restful
