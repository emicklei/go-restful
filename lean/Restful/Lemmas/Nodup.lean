/-
Lists without repetition, and the first element of a list under a total preorder: the facts the
proofs about the ServeMux table, the container's registrations and the entity-accessor registry share.
-/
namespace Restful
namespace Registry

theorem nodup_map_inj {α β : Type} {f : α → β} {l : List α} (hn : (l.map f).Nodup) {a b : α}
    (ha : a ∈ l) (hb : b ∈ l) (h : f a = f b) : a = b := by
  induction l with
  | nil => cases ha
  | cons x xs ih =>
    obtain ⟨hx, hxs⟩ := List.nodup_cons.mp hn
    rcases List.mem_cons.mp ha with rfl | ha' <;> rcases List.mem_cons.mp hb with rfl | hb'
    · rfl
    · exact absurd (h ▸ List.mem_map_of_mem hb') hx
    · exact absurd (h ▸ List.mem_map_of_mem ha') hx
    · exact ih hxs ha' hb'

theorem nodup_append_of {α : Type} {l₁ l₂ : List α} (h₁ : l₁.Nodup) (h₂ : l₂.Nodup) (h : ∀ a ∈ l₂, a ∉ l₁) :
    (l₁ ++ l₂).Nodup :=
  List.nodup_append.mpr ⟨h₁, h₂, fun _ ha b hb hab => h b hb (hab ▸ ha)⟩

theorem not_mem_of_nodup_append {α : Type} {l₁ l₂ : List α} (h : (l₁ ++ l₂).Nodup) : ∀ a ∈ l₂, a ∉ l₁ :=
  fun a ha ha' => (List.nodup_append.mp h).2.2 a ha' a ha rfl

theorem exists_first {α : Type} (r : α → α → Prop) (total : ∀ a b, r a b ∨ r b a)
    (trans : ∀ {a b c}, r a b → r b c → r a c) {l : List α} (hl : l ≠ []) : ∃ a ∈ l, ∀ b ∈ l, r a b := by
  have refl : ∀ a, r a a := fun a => (total a a).elim id id
  induction l with
  | nil => exact absurd rfl hl
  | cons x xs ih =>
    cases xs with
    | nil => exact ⟨x, List.mem_singleton_self x, fun b hb => List.mem_singleton.mp hb ▸ refl x⟩
    | cons y ys =>
      obtain ⟨a, ha, hmin⟩ := ih (List.cons_ne_nil _ _)
      rcases total x a with h | h
      · refine ⟨x, List.mem_cons_self, fun b hb => ?_⟩
        rcases List.mem_cons.mp hb with rfl | hb
        · exact refl b
        · exact trans h (hmin b hb)
      · refine ⟨a, List.mem_cons_of_mem _ ha, fun b hb => ?_⟩
        rcases List.mem_cons.mp hb with rfl | hb
        · exact h
        · exact hmin b hb

end Registry
end Restful
