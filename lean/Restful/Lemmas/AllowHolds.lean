/-
C17: `Spec.c17Holds` — the predicate the driver evaluates on every real observation — holds of the
observation the MODEL produces (`Spec.modelObs`, Spec/Options.lean) wherever the list the OPTIONS
filter computes is exactly the set of routable methods (`OptionsExact`); so it does of the observation
decoded from the header values when the declared methods are tokens, and together with the preflight
probes.  `computeAllowedMethods` answers on every table whose templates compile and lists only
declared methods; the common fragment is inside the hypotheses of `C02_total` for CurlyRouter.
-/
import Restful.Lemmas.Allow
import Restful.Lemmas.Classify
import Restful.Lemmas.OptionsFilter
import Restful.Lemmas.DecideLits
namespace Restful
open Str

namespace Allow
variable (E : ReEnv)

/-! ### what `route` can answer -/

/-- everything dispatch can come to, both routers, every table, every request -/
theorem route_shape (cfg : Config) (req : Req) :
    route E cfg req = .error 404 none ∨ (∃ al, route E cfg req = .error 405 (some al)) ∨
    (∃ s r ps, route E cfg req = .selected s r ps) ∨ (∃ w, route E cfg req = .panic w) ∨
    route E cfg req = .error 415 none ∨ route E cfg req = .error 406 none := by
  rcases route_staged E cfg req with ⟨w, hw⟩ | ⟨ex, cands, hf⟩
  · exact .inr (.inr (.inr (.inl ⟨w, hw req.method⟩)))
  · rw [show route E cfg req = _ from hf req.method]
    rcases finishWith_cases ex cands req with ⟨_, h | h⟩ | ⟨_, h⟩
    · exact .inl h
    · exact .inr (.inl ⟨_, h⟩)
    · exact .inr (.inr h)

theorem probes_status (cfg : Config) (req : Req) (methods : List Str) (hnp : ∀ r w, route E cfg r ≠ .panic w) :
    ∀ p ∈ (Spec.modelObs E cfg req methods).probes, p.2.1 ∈ [200, 404, 405, 415, 406] := by
  intro p hp
  obtain ⟨m, _, rfl⟩ := List.mem_map.mp hp
  have hs := route_shape E cfg { req with method := m }
  simp only [hnp, exists_false, false_or] at hs
  rcases hs with h | ⟨_, h⟩ | ⟨_, _, _, h⟩ | h | h <;> simp [Spec.probeOf, h, Spec.statusOf]

/-- `Spec.probeOf` is the item `Driver/Options.lean` (`handleAllow`) computes for a probed method -/
theorem probeOf_eq_driver (cfg : Config) (req : Req) (m : Str) :
    Spec.probeOf E cfg req m =
      (match route E cfg { req with method := m } with
       | .error 405 (some al) => (m, 405, some al)
       | out => (m, Spec.statusOf out, none)) := by
  rcases route_shape E cfg { req with method := m } with h | ⟨_, h⟩ | ⟨_, _, _, h⟩ | ⟨_, h⟩ | h | h <;>
    simp [Spec.probeOf, h, Spec.allowOf, Spec.statusOf]

/-! ### the model's observation field by field -/

theorem modelObs_eq (cfg : Config) (req : Req) (methods ms : List Str) (hO : Cors.sOPTIONS ∈ methods)
    (hc : Cors.computeAllowedMethods E cfg.services req.path = some ms) :
    Spec.modelObs E cfg req methods =
      { probes := methods.map (Spec.probeOf E cfg req), optAllow := ms, optACAM := ms,
        optHandlerRan := false, othersUntouched := true } := by
  have hcont : methods.contains Cors.sOPTIONS = true := List.contains_iff_mem.mpr hO
  unfold Spec.modelObs
  simp only [hcont, if_true, hc, Option.getD_some, Spec.filtered,
    Options.optionsOut_computed E cfg (Spec.optReqOf req Cors.sOPTIONS) rfl ms hc, Bool.false_and, Bool.and_false,
    Spec.AllowObs.mk.injEq, true_and]
  rw [List.all_eq_true]
  intro m hm
  rw [List.mem_filter] at hm
  rw [Options.optionsOut_other E cfg _ (show m ≠ Cors.sOPTIONS by simpa using hm.2)]
  simp

/-! ### the parts of the predicate -/

theorem sameSet_iff {a b : List Str} : Spec.sameSet a b = true ↔ ∀ x, x ∈ a ↔ x ∈ b := by
  unfold Spec.sameSet
  simp only [Bool.and_eq_true, List.all_eq_true, List.contains_iff_mem]
  constructor
  · exact fun ⟨h1, h2⟩ x => ⟨h1 x, h2 x⟩
  · exact fun h => ⟨fun x => (h x).mp, fun x => (h x).mpr⟩

theorem probes_methods (cfg : Config) (req : Req) (methods : List Str) :
    (methods.map (Spec.probeOf E cfg req)).map (·.1) = methods := by
  simp [Function.comp_def, Spec.probeOf]

theorem probes_routable (cfg : Config) (req : Req) (methods : List Str) :
    ((methods.map (Spec.probeOf E cfg req)).filter (fun p => p.2.1 != 404 && p.2.1 != 405)).map (·.1) =
      methods.filter (Spec.routable E cfg req ·) := by
  simp [List.filter_map, Function.comp_def, Spec.probeOf, Spec.routable]

theorem routable_setMethod (cfg : Config) (req : Req) (m x : Str) :
    Spec.routable E cfg { req with method := m } x = Spec.routable E cfg req x := rfl

/-! ### `computeAllowedMethods` answers where the templates compile, and lists declared methods only -/

theorem routeMethods_isSome (rts : List RouteDecl) (final : Str)
    (h : ∀ rd ∈ rts, ∃ ex, Jsr.compile rd.relPath = some ex) : ∃ a, Cors.routeMethods E rts final = some a := by
  induction rts with
  | nil => exact ⟨[], rfl⟩
  | cons rd rest ih =>
    obtain ⟨a, ha⟩ := ih fun x hx => h x (List.mem_cons_of_mem _ hx)
    rw [Cors.routeMethods_cons E rd rest final (Option.isSome_iff_exists.mpr (h rd List.mem_cons_self)), ha]
    split <;> exact ⟨_, rfl⟩

theorem computeAllowedMethods_isSome (svcs : List Service) (path : Str)
    (h1 : ∀ s ∈ svcs, ∃ ex, Jsr.compile s.rootPath = some ex)
    (h2 : ∀ s ∈ svcs, ∀ rd ∈ s.routes, ∃ ex, Jsr.compile rd.relPath = some ex) :
    ∃ ms, Cors.computeAllowedMethods E svcs path = some ms := by
  induction svcs with
  | nil => exact ⟨[], rfl⟩
  | cons s rest ih =>
    obtain ⟨ex, hex⟩ := h1 s List.mem_cons_self
    obtain ⟨b, hb⟩ := ih (fun x hx => h1 x (List.mem_cons_of_mem _ hx)) (fun x hx => h2 x (List.mem_cons_of_mem _ hx))
    unfold Cors.computeAllowedMethods
    simp only [hex, hb]
    split
    · rename_i caps final _
      obtain ⟨a, ha⟩ := routeMethods_isSome E s.routes final (h2 s List.mem_cons_self)
      exact ⟨a ++ b, by simp only [ha]⟩
    · exact ⟨b, rfl⟩

theorem decl_compiles {svc : Service} (h : ∀ rt ∈ svc.built, ∃ ex, Jsr.compile rt.relPath = some ex) :
    ∀ rd ∈ svc.routes, ∃ ex, Jsr.compile rd.relPath = some ex :=
  fun rd hrd => h (svc.build rd) (List.mem_map_of_mem hrd)

/-- every method `computeAllowedMethods` lists is the method of a declared route -/
theorem computed_declared {svcs : List Service} {path : Str} {ms : List Str}
    (hc : Cors.computeAllowedMethods E svcs path = some ms) {P : Str → Prop}
    (h : ∀ s ∈ svcs, ∀ rd ∈ s.routes, P rd.method) : ∀ m ∈ ms, P m := by
  intro m hm
  rw [(Cors.computeAllowedMethods_spec E svcs path ms hc).1] at hm
  simp only [List.mem_flatMap, List.mem_map, List.mem_filter] at hm
  obtain ⟨s, hs, rd, ⟨hrd, _⟩, rfl⟩ := hm
  exact h s hs rd hrd

/-! ### the common fragment is inside the hypotheses of `C02_total` (CurlyRouter) -/

theorem wfCommon_wfTemplates_curly (cfg : Config) (hwf : Spec.wfCommon cfg = true) :
    (Spec.withRouter cfg .curly).wfTemplates = true := by
  unfold Config.wfTemplates
  simp only [List.all_eq_true]
  intro s hs rt hrt
  obtain ⟨ts, hts, _, _⟩ := wfCommon_route (cfg := cfg) hwf hs hrt
  show (Spec.templateOf .curly rt).isSome = true
  simp [Spec.templateOf, hts]

theorem wfCommon_rootsRead_curly (cfg : Config) (hwf : Spec.wfCommon cfg = true) (hclean : Spec.rootsClean cfg = true) :
    Curly.rootsRead (Spec.withRouter cfg .curly) = true := by
  simp only [Curly.rootsRead, List.all_eq_true, Bool.or_eq_true]
  intro s (hs : s ∈ cfg.services)
  obtain ⟨ls, h1, h2, _⟩ := wfCommon_root hwf hclean hs
  simp only [Spec.wfCommon, List.all_eq_true, Bool.and_eq_true] at hwf
  have h := (hwf s hs).1
  rw [h2, ← h1] at h
  right
  split at h
  · rename_i ts hts
    simp only [hts, List.all_eq_true] at h ⊢
    exact fun t ht => (Bool.and_eq_true_iff.mp (h t ht)).1
  · cases h

/-! ### the wire: the comma-joined header decodes to the list on method tokens -/

theorem isWS_false {c : Char} (h : 33 ≤ c.toNat) : Spec.isWS c = false := by
  have hne : ∀ d : Char, d.toNat < 33 → c ≠ d := fun d hd hc => by subst hc; omega
  -- 11 and 12 are VT and FF, the blanks of Go's `strings.TrimSpace` that have no character literal here
  have h5 : c.toNat ≠ 11 := by omega
  have h6 : c.toNat ≠ 12 := by omega
  simp [Spec.isWS, hne ' ' (by decide), hne '\t' (by decide), hne '\n' (by decide), hne '\r' (by decide), h5, h6]

theorem trimWS_token {m : Str} (h : Spec.methodToken m = true) : Spec.trimWS m = m ∧ m.isEmpty = false ∧ ',' ∉ m := by
  simp only [Spec.methodToken, Bool.and_eq_true, Bool.not_eq_true', List.all_eq_true, decide_eq_true_eq, bne_iff_ne,
    ne_eq] at h
  obtain ⟨hne, hall⟩ := h
  refine ⟨?_, hne, fun hc => (hall ',' hc).2 rfl⟩
  have hd : ∀ s : Str, (∀ c ∈ s, c ∈ m) → s.dropWhile Spec.isWS = s := fun s hs =>
    dropWhile_eq_self_of_head fun x hx => isWS_false (hall x (hs x (List.mem_of_mem_head? hx))).1.1
  rw [Spec.trimWS, hd m fun _ => id, hd _ fun _ => List.mem_reverse.mp, List.reverse_reverse]

/-- allow.go `splitList` gives the joined list back -/
theorem decode_join (ms : List Str) (htok : ∀ m ∈ ms, Spec.methodToken m = true) :
    ((Str.split ',' (Str.join Cors.sComma ms)).map Spec.trimWS).filter (fun p => !p.isEmpty) = ms := by
  by_cases hne : ms = []
  · subst hne; decide
  have hsj : Str.split ',' (Str.join Cors.sComma ms) = ms :=
    List.splitOn_intercalate ',' (fun x hx => (trimWS_token (htok x hx)).2.2) hne
  rw [hsj, List.map_congr_left (g := id) fun m hm => (trimWS_token (htok m hm)).1, List.map_id, List.filter_eq_self]
  exact fun m hm => by simp [(trimWS_token (htok m hm)).2.1]

theorem modelObsWire_eq (cfg : Config) (req : Req) (methods ms : List Str) (hO : Cors.sOPTIONS ∈ methods)
    (hc : Cors.computeAllowedMethods E cfg.services req.path = some ms)
    (htok : ∀ s ∈ cfg.services, ∀ rd ∈ s.routes, Spec.methodToken rd.method = true) :
    Spec.modelObsWire E cfg req methods = Spec.modelObs E cfg req methods := by
  replace htok : ∀ m ∈ ms, Spec.methodToken m = true := computed_declared E hc htok
  have hcont : methods.contains Cors.sOPTIONS = true := List.contains_iff_mem.mpr hO
  have hne : ("Allow".toList == Cors.hAllowMethods) = false ∧ (Cors.hAllowOrigin == Cors.hAllowMethods) = false ∧
      (Cors.hAllowHeaders == Cors.hAllowMethods) = false ∧ (Cors.hAllowOrigin == "Allow".toList) = false ∧
      (Cors.hAllowHeaders == "Allow".toList) = false ∧ (Cors.hAllowMethods == "Allow".toList) = false := by
    decide_lits [Cors.hAllowMethods, Cors.hAllowOrigin, Cors.hAllowHeaders]
  have hj : ∀ v : Str, Str.join [','] [v] = v := fun v => by simp [Str.join]
  unfold Spec.modelObsWire
  rw [modelObs_eq E cfg req methods ms hO hc]
  simp only [hcont, if_true, Spec.filtered, Options.optionsOut_computed E cfg (Spec.optReqOf req Cors.sOPTIONS) rfl ms hc,
    Spec.headerList, List.filter_cons, List.filter_nil, beq_self_eq_true, hne, Bool.false_eq_true, if_false,
    List.map_cons, List.map_nil, hj, Spec.AllowObs.mk.injEq, true_and, and_true]
  exact ⟨decode_join ms htok, decode_join ms htok⟩

/-! ### OPTIONS probes that carry Access-Control-Request-Method -/

/-- the filter on a preflight: exactly its answer to a bare OPTIONS request, whatever method the
    preflight names -/
theorem filtered_preflight (cfg : Config) (req : Req) (ms : List Str) (a : Str)
    (hc : Cors.computeAllowedMethods E cfg.services req.path = some ms) :
    Options.optionsOut E cfg (Spec.optReqPf req a) = some
      ⟨[("Allow".toList, Str.join Cors.sComma ms), (Cors.hAllowOrigin, []), (Cors.hAllowHeaders, []),
        (Cors.hAllowMethods, Str.join Cors.sComma ms)], false⟩ :=
  Options.optionsOut_computed E cfg (Spec.optReqPf req a) rfl ms hc

theorem modelPreflight_eq (cfg : Config) (req : Req) (ms : List Str) (a : Str)
    (hc : Cors.computeAllowedMethods E cfg.services req.path = some ms) :
    Spec.modelPreflight E cfg req a = { acrm := a, allow := ms, acam := ms, handlerRan := false } := by
  unfold Spec.modelPreflight
  simp only [hc, Option.getD_some, filtered_preflight E cfg req ms a hc, Bool.false_and]

/-! ### exactness of the OPTIONS list, and from it the driver's predicate on the model's observations -/

/-- the list the OPTIONS filter computes at the URL of `req` is exactly the set of routable methods -/
def OptionsExact (cfg : Config) (req : Req) : Prop :=
  ∃ ms, Cors.computeAllowedMethods E cfg.services req.path = some ms ∧ ∀ m, m ∈ ms ↔ Spec.routable E cfg req m = true

theorem c17Holds_modelObs {cfg : Config} {req : Req} (hex : OptionsExact E cfg req) {methods : List Str}
    (hO : Cors.sOPTIONS ∈ methods) (hcover : ∀ s ∈ cfg.services, ∀ rd ∈ s.routes, rd.method ∈ methods) :
    Spec.c17Holds (Spec.modelObs E cfg req methods) = true := by
  obtain ⟨ms, hc, hiff⟩ := hex
  replace hcover : ∀ m ∈ ms, m ∈ methods := computed_declared E hc hcover
  rw [modelObs_eq E cfg req methods ms hO hc]
  unfold Spec.c17Holds
  simp only [probes_methods, probes_routable, Bool.and_eq_true, Bool.not_false, and_true, and_assoc]
  -- an exact list meets the two demands `c17Holds` makes of the filter's list and of every 405's list alike
  have key : ∀ l : List Str, (∀ x, x ∈ l ↔ Spec.routable E cfg req x = true) →
      Spec.sameSet (l.filter (methods.contains ·)) (methods.filter (Spec.routable E cfg req ·)) = true ∧
        l.all (methods.contains ·) = true := by
    intro l hl
    rw [sameSet_iff, List.all_eq_true]
    refine ⟨fun x => ?_, fun x hx => List.contains_iff_mem.mpr (hcover x ((hiff x).mpr ((hl x).mp hx)))⟩
    simp only [List.mem_filter, List.contains_iff_mem, hl x, and_comm]
  refine ⟨?_, (key ms hiff).1, (key ms hiff).2, sameSet_iff.mpr fun _ => Iff.rfl⟩
  rw [List.all_eq_true]
  intro p hp
  obtain ⟨m, _, rfl⟩ := List.mem_map.mp hp
  rcases route_shape E cfg { req with method := m } with h | ⟨al, h⟩ | h
  · simp [Spec.probeOf, h, Spec.allowOf, Spec.statusOf]
  · simpa [Spec.probeOf, h, Spec.allowOf, Spec.statusOf] using key al (allow_405_exact E cfg { req with method := m } al h)
  · rcases h with ⟨_, _, _, h⟩ | ⟨_, h⟩ | h | h <;> simp [Spec.probeOf, h, Spec.allowOf, Spec.statusOf]

theorem c17Holds_modelObsWire {cfg : Config} {req : Req} (hex : OptionsExact E cfg req) {methods : List Str}
    (hO : Cors.sOPTIONS ∈ methods) (hcover : ∀ s ∈ cfg.services, ∀ rd ∈ s.routes, rd.method ∈ methods)
    (htok : ∀ s ∈ cfg.services, ∀ rd ∈ s.routes, Spec.methodToken rd.method = true) :
    Spec.c17Holds (Spec.modelObsWire E cfg req methods) = true := by
  have ⟨ms, hc, _⟩ := hex
  rw [modelObsWire_eq E cfg req methods ms hO hc htok]
  exact c17Holds_modelObs E hex hO hcover

theorem c17HoldsAll_model {cfg : Config} {req : Req} (hex : OptionsExact E cfg req) {methods : List Str}
    (hO : Cors.sOPTIONS ∈ methods) (hcover : ∀ s ∈ cfg.services, ∀ rd ∈ s.routes, rd.method ∈ methods)
    (acrms : List Str) :
    Spec.c17HoldsAll (Spec.modelObs E cfg req methods) (acrms.map (Spec.modelPreflight E cfg req)) = true := by
  have h := c17Holds_modelObs E hex hO hcover
  obtain ⟨ms, hc, _⟩ := hex
  rw [Spec.c17HoldsAll, h, Bool.true_and, List.all_eq_true]
  intro p hp
  obtain ⟨a, _, rfl⟩ := List.mem_map.mp hp
  -- the clause for a preflight probe is made of clauses `c17Holds` has for the bare OPTIONS probe
  rw [modelPreflight_eq E cfg req ms a hc]
  rw [modelObs_eq E cfg req methods ms hO hc] at h ⊢
  simp only [Spec.c17Holds, Spec.pfHolds, Bool.and_eq_true, Bool.not_false, and_true] at h ⊢
  exact ⟨⟨h.1.1.2, h.1.2⟩, h.2⟩

end Allow
end Restful
