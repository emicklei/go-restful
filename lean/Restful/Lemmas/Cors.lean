/-
C08 / C09: the loops of cors_filter.go and container.go:435 in closed form, `Filter` as its three exits
(`corsOut_cases`), and what the harness's twin comparison observes of each of them (`obsOf_*`).
-/
import Restful.Model.Cors
import Restful.Spec.Cors
import Restful.Lemmas.DecideLits
namespace Restful
open Str Cors

namespace Cors
variable (lower : Str → Str)

theorem domainLoop_eq_any (lo : Str) (ds : List Str) :
    domainLoop lower lo ds = ds.any (fun d => d == sDotStar || lower d == lo) := by
  induction ds with
  | nil => rfl
  | cons d ds ih => simp [domainLoop, ih, Bool.beq_eq_decide_eq]

theorem isOriginAllowed_eq (cc : CorsCfg) (o : Str) :
    isOriginAllowed lower cc o = Spec.originAllowed lower cc o := by
  unfold isOriginAllowed Spec.originAllowed
  simp only [domainLoop_eq_any]
  cases o with
  | nil => simp
  | cons c cs =>
    cases cc.allowedDomains with
    | nil => cases cc.pred <;> simp
    | cons d ds =>
      generalize (d :: ds).any _ = b
      cases b <;> cases cc.pred <;> simp

theorem originAllowed_iff (cc : CorsCfg) (o : Str) :
    Spec.originAllowed lower cc o = true ↔ Spec.OriginAllowed lower cc o := by
  unfold Spec.originAllowed Spec.OriginAllowed
  cases o with
  | nil => simp
  | cons c cs =>
    simp only [List.isEmpty_cons, Bool.not_false, Bool.true_and, ne_eq, reduceCtorEq, not_false_eq_true, true_and]
    cases hd : cc.allowedDomains with
    | nil =>
      cases hp : cc.pred with
      | none => simp
      | some f => simp
    | cons d ds =>
      simp only [List.isEmpty_cons, Bool.false_and, Bool.false_or, Bool.not_false, Bool.true_and, Bool.or_eq_true,
        List.any_eq_true, beq_iff_eq, reduceCtorEq, false_and, false_or, not_false_eq_true, true_and]
      constructor
      · rintro (⟨x, hx, h | h⟩ | h)
        · exact Or.inr (Or.inl (h ▸ hx))
        · exact Or.inl ⟨x, hx, h⟩
        · cases hp : cc.pred with
          | none => simp [hp] at h
          | some f => rw [hp] at h; exact Or.inr (Or.inr ⟨f, rfl, h⟩)
      · rintro (⟨x, hx, h⟩ | h | ⟨f, hf, h⟩)
        · exact Or.inl ⟨x, hx, Or.inr h⟩
        · exact Or.inl ⟨sDotStar, h, Or.inl rfl⟩
        · exact Or.inr (by rw [hf]; exact h)

theorem isValidMethod_eq (m : Str) (ms : List Str) :
    isValidAccessControlRequestMethod m ms = ms.contains m := by
  induction ms with
  | nil => rfl
  | cons x xs ih => simp [isValidAccessControlRequestMethod, ih, eq_comm]

theorem isValidHeader_eq (h : Str) (allowed : List Str) :
    isValidAccessControlRequestHeader lower h allowed = Spec.headerAllowed lower allowed h := by
  induction allowed with
  | nil => rfl
  | cons a as ih => simp [isValidAccessControlRequestHeader, ih, Spec.headerAllowed, Bool.beq_eq_decide_eq, Bool.or_assoc]

theorem requestHeadersLoop_eq (allowed parts : List Str) :
    requestHeadersLoop lower allowed parts = (parts.map (trim ' ')).all (Spec.headerAllowed lower allowed) := by
  induction parts with
  | nil => rfl
  | cons p ps ih =>
    simp only [requestHeadersLoop, List.map_cons, List.all_cons, ih, isValidHeader_eq]
    cases Spec.headerAllowed lower allowed (trim ' ' p) <;> simp

theorem headerCheck_eq (allowed : List Str) (acrh : Str) :
    (acrh.length > 0 && !requestHeadersLoop lower allowed (split ',' acrh)) =
      !(Spec.requestedHeaders acrh).all (Spec.headerAllowed lower allowed) := by
  unfold Spec.requestedHeaders
  cases acrh with
  | nil => simp
  | cons c cs => simp [requestHeadersLoop_eq]

variable (E : ReEnv)

/-- one turn of the loop over `ws.Routes()` when the route's template compiles -/
theorem routeMethods_cons (r : RouteDecl) (rs : List RouteDecl) (final : Str)
    (hc : (Jsr.compile r.relPath).isSome = true) :
    routeMethods E (r :: rs) final =
      if Spec.routeOK E r final then (routeMethods E rs final).map (r.method :: ·) else routeMethods E rs final := by
  obtain ⟨ex, hex⟩ := Option.isSome_iff_exists.mp hc
  rw [routeMethods, Spec.routeOK]
  simp only [hex]
  cases Jsr.matchExpr E ex.toks final <;> simp

/-- what an answer of the loop over `ws.Routes()` says: the methods, and that every template compiled -/
theorem routeMethods_spec (final : Str) : ∀ (rts : List RouteDecl) (a : List Str),
    routeMethods E rts final = some a →
    a = (rts.filter (fun r => Spec.routeOK E r final)).map (·.method) ∧
    ∀ r ∈ rts, (Jsr.compile r.relPath).isSome = true
  | [], a, h => by cases h; simp
  | r :: rs, a, h => by
    simp only [List.forall_mem_cons]
    cases hc : Jsr.compile r.relPath with
    | none => simp [routeMethods, hc] at h
    | some ex =>
      rw [routeMethods_cons E r rs final (by simp [hc])] at h
      split at h <;> rename_i hr
      · obtain ⟨b, hb, rfl⟩ := Option.map_eq_some_iff.mp h
        obtain ⟨rfl, h2⟩ := routeMethods_spec final rs b hb
        exact ⟨by simp [hr], rfl, h2⟩
      · obtain ⟨rfl, h2⟩ := routeMethods_spec final rs a h
        exact ⟨by simp [hr], rfl, h2⟩

/-- what an answer of `computeAllowedMethods` says: the methods routable at the URL, and that every
    root and every route of a service whose root matches the URL compiled -/
theorem computeAllowedMethods_spec : ∀ (svcs : List Service) (path : Str) (ms : List Str),
    computeAllowedMethods E svcs path = some ms →
    ms = svcs.flatMap (fun s => (s.routes.filter (fun r => Spec.routableAt E s r path)).map (·.method)) ∧
    (∀ s ∈ svcs, (Jsr.compile s.rootPath).isSome = true) ∧
    (∀ s ∈ svcs, Spec.rootMatches E s path = true → ∀ r ∈ s.routes, (Jsr.compile r.relPath).isSome = true)
  | [], _, ms, h => by cases h; simp
  | s :: ss, path, ms, h => by
    simp only [List.forall_mem_cons, List.flatMap_cons]
    unfold computeAllowedMethods at h
    cases hc : Jsr.compile s.rootPath with
    | none => simp [hc] at h
    | some ex =>
      simp only [hc] at h
      cases hm : Jsr.matchExpr E ex.toks path with
      | none =>
        simp only [hm] at h
        obtain ⟨rfl, h1, h2⟩ := computeAllowedMethods_spec ss path ms h
        have hr : ∀ r, Spec.routableAt E s r path = false := fun r => by simp [Spec.routableAt, hc, hm]
        exact ⟨by simp [hr], ⟨rfl, h1⟩, by simp [Spec.rootMatches, hc, hm], h2⟩
      | some cf =>
        simp only [hm] at h
        have hr : ∀ r, Spec.routableAt E s r path = Spec.routeOK E r cf.2 := fun r => by
          simp [Spec.routableAt, hc, hm]
        cases ha : routeMethods E s.routes cf.2 with
        | none => simp [ha] at h
        | some a =>
          cases hb : computeAllowedMethods E ss path with
          | none => simp [ha, hb] at h
          | some b =>
            simp only [ha, hb, Option.some.injEq] at h
            obtain ⟨rfl, h1, h2⟩ := computeAllowedMethods_spec ss path b hb
            obtain ⟨rfl, h3⟩ := routeMethods_spec E cf.2 s.routes a ha
            exact ⟨by simp only [hr, ← h], ⟨rfl, h1⟩, fun _ => h3, h2⟩

theorem computeAllowedMethods_eq_methodsAt (tbl : Config) (path : Str) (ms : List Str)
    (h : computeAllowedMethods E tbl.services path = some ms) : ms = Spec.methodsAt E tbl path :=
  (computeAllowedMethods_spec E tbl.services path ms h).1

/-- `ms` is arbitrary: `setOptionsHeaders` reads no field that `doPreflightRequest` writes -/
theorem setOptionsHeaders_of_allowed (cc : CorsCfg) (ms : List Str) (rq : CorsReq)
    (h : isOriginAllowed lower cc rq.origin = true) :
    setOptionsHeaders lower { cc with allowedMethods := ms } rq = Spec.actualHeaders cc rq := by
  unfold setOptionsHeaders Spec.actualHeaders checkAndSetExposeHeaders setAllowOriginHeader checkAndSetAllowCredentials
  show _ ++ (if isOriginAllowed lower cc rq.origin = true then _ else _) ++ _ ++ _ = _
  rw [if_pos h]
  cases he : cc.exposeHeaders <;> simp

/-- the grant a successful preflight receives -/
def preflightGrant (cc : CorsCfg) (ms : List Str) (rq : CorsReq) : List (Str × Str) :=
  (hAllowMethods, join sComma ms) :: (hAllowHeaders, rq.acrh) :: Spec.actualHeaders cc rq

theorem corsOut_not_allowed (cc : CorsCfg) (tbl : Config) (rq : CorsReq)
    (h : Spec.originAllowed lower cc rq.origin = false) :
    corsOut lower E cc tbl rq = some ⟨[], true⟩ := by
  unfold corsOut
  by_cases h0 : rq.origin.length = 0
  · simp [h0]
  · simp [h0, isOriginAllowed_eq, h]

theorem doPreflightRequest_eq (cc : CorsCfg) (tbl : Config) (rq : CorsReq)
    (ha : isOriginAllowed lower cc rq.origin = true) :
    doPreflightRequest lower E cc tbl rq =
      (if cc.allowedMethods.isEmpty then computeAllowedMethods E tbl.services rq.path else some cc.allowedMethods).map
        fun ms => ({ cc with allowedMethods := ms }, if Spec.preflightOK lower cc ms rq then preflightGrant cc ms rq else []) := by
  have h1 : (if cc.allowedMethods.length = 0 then
        (computeAllowedMethods E tbl.services rq.path).map (fun ms => { cc with allowedMethods := ms }) else some cc) =
      (if cc.allowedMethods.isEmpty then computeAllowedMethods E tbl.services rq.path else some cc.allowedMethods).map
        (fun ms => { cc with allowedMethods := ms }) := by
    obtain ⟨_, _, _, _, am, _, _⟩ := cc
    cases am <;> rfl
  unfold doPreflightRequest
  simp only [h1]
  cases (if cc.allowedMethods.isEmpty then computeAllowedMethods E tbl.services rq.path else some cc.allowedMethods) with
  | none => rfl
  | some ms =>
    simp only [Option.map_some]
    rw [isValidMethod_eq, headerCheck_eq, setOptionsHeaders_of_allowed lower cc ms rq ha]
    unfold Spec.preflightOK preflightGrant
    cases ms.contains rq.acrm <;>
      cases (Spec.requestedHeaders rq.acrh).all (Spec.headerAllowed lower cc.allowedHeaders) <;> rfl
theorem corsOut_of_allowed (cc : CorsCfg) (tbl : Config) (rq : CorsReq)
    (h : Spec.originAllowed lower cc rq.origin = true) :
    corsOut lower E cc tbl rq =
      if Spec.isPreflight rq then (doPreflightRequest lower E cc tbl rq).map (fun r => ⟨r.2, false⟩)
      else some ⟨Spec.actualHeaders cc rq, true⟩ := by
  have h0 : rq.origin.length ≠ 0 := fun e => by simp [Spec.originAllowed, List.length_eq_zero_iff.mp e] at h
  have ha : isOriginAllowed lower cc rq.origin = true := (isOriginAllowed_eq lower cc rq.origin).trans h
  unfold corsOut doActualRequest Spec.isPreflight
  rw [setOptionsHeaders_of_allowed lower cc cc.allowedMethods rq ha]
  by_cases hm : rq.method = sOPTIONS <;> by_cases he : rq.acrm = [] <;> simp [h0, ha, hm, he]

theorem corsOut_actual (cc : CorsCfg) (tbl : Config) (rq : CorsReq)
    (h : Spec.originAllowed lower cc rq.origin = true) (hp : Spec.isPreflight rq = false) :
    corsOut lower E cc tbl rq = some ⟨Spec.actualHeaders cc rq, true⟩ := by
  rw [corsOut_of_allowed lower E cc tbl rq h, hp]
  rfl

/-- `none` only when the methods have to be computed and the table does not compile -/
theorem corsOut_preflight_eq (cc : CorsCfg) (tbl : Config) (rq : CorsReq)
    (h : Spec.originAllowed lower cc rq.origin = true) (hp : Spec.isPreflight rq = true) :
    corsOut lower E cc tbl rq =
      (if cc.allowedMethods.isEmpty then computeAllowedMethods E tbl.services rq.path else some cc.allowedMethods).map
        fun ms => ⟨if Spec.preflightOK lower cc ms rq then preflightGrant cc ms rq else [], false⟩ := by
  rw [corsOut_of_allowed lower E cc tbl rq h, hp, if_pos rfl,
    doPreflightRequest_eq lower E cc tbl rq ((isOriginAllowed_eq lower cc rq.origin).trans h), Option.map_map]
  rfl

theorem corsOut_preflight (cc : CorsCfg) (tbl : Config) (rq : CorsReq) (out : Out)
    (h : Spec.originAllowed lower cc rq.origin = true) (hp : Spec.isPreflight rq = true)
    (ho : corsOut lower E cc tbl rq = some out) :
    out.passOn = false ∧
    out.added = (if Spec.preflightOK lower cc (Spec.methodsFor E cc tbl rq.path) rq
                 then preflightGrant cc (Spec.methodsFor E cc tbl rq.path) rq else []) := by
  rw [corsOut_preflight_eq lower E cc tbl rq h hp] at ho
  obtain ⟨ms, hms, rfl⟩ := Option.map_eq_some_iff.mp ho
  have : Spec.methodsFor E cc tbl rq.path = ms := by
    unfold Spec.methodsFor
    split at hms <;> rename_i he
    · rw [if_pos he]
      exact (computeAllowedMethods_eq_methodsAt E tbl rq.path ms hms).symm
    · rw [if_neg he]
      exact Option.some.inj hms
  rw [this]
  exact ⟨rfl, rfl⟩

/-- the three exits of `Filter`: origin not allowed, actual request, preflight -/
theorem corsOut_cases (cc : CorsCfg) (tbl : Config) (rq : CorsReq) (out : Out)
    (h : corsOut lower E cc tbl rq = some out) :
    (Spec.originAllowed lower cc rq.origin = false ∧ out = ⟨[], true⟩) ∨
    (Spec.originAllowed lower cc rq.origin = true ∧ Spec.isPreflight rq = false ∧
      out = ⟨Spec.actualHeaders cc rq, true⟩) ∨
    (Spec.originAllowed lower cc rq.origin = true ∧ Spec.isPreflight rq = true ∧ out.passOn = false ∧
      out.added = if Spec.preflightOK lower cc (Spec.methodsFor E cc tbl rq.path) rq
                  then preflightGrant cc (Spec.methodsFor E cc tbl rq.path) rq else []) := by
  cases ha : Spec.originAllowed lower cc rq.origin with
  | false =>
    rw [corsOut_not_allowed lower E cc tbl rq ha] at h
    exact .inl ⟨rfl, (Option.some.inj h).symm⟩
  | true =>
    cases hp : Spec.isPreflight rq with
    | false =>
      rw [corsOut_actual lower E cc tbl rq ha hp] at h
      exact .inr (.inl ⟨rfl, rfl, (Option.some.inj h).symm⟩)
    | true => exact .inr (.inr ⟨rfl, rfl, corsOut_preflight lower E cc tbl rq out ha hp h⟩)

theorem hdr_names_distinct :
    [hAllowMethods, hAllowHeaders, hExposeHeaders, hAllowOrigin, hAllowCredentials, hMaxAge].Pairwise
      (fun a b => a ≠ b ∧ b ≠ a) := by
  decide_lits [hAllowMethods, hAllowHeaders, hExposeHeaders, hAllowOrigin, hAllowCredentials, hMaxAge]

theorem valuesOf_nil (n : Str) : Spec.valuesOf n [] = [] := rfl

theorem valuesOf_cons (n m v : Str) (l : List (Str × Str)) :
    Spec.valuesOf n ((m, v) :: l) = if m = n then v :: Spec.valuesOf n l else Spec.valuesOf n l := by
  by_cases h : m = n <;> simp [Spec.valuesOf, h]

theorem valuesOf_append (n : Str) (l l' : List (Str × Str)) :
    Spec.valuesOf n (l ++ l') = Spec.valuesOf n l ++ Spec.valuesOf n l' := by
  simp [Spec.valuesOf]

theorem valuesOf_eq_nil {n : Str} {l : List (Str × Str)} (h : Spec.valuesOf n l = []) (v : Str) : (n, v) ∉ l := by
  simp only [Spec.valuesOf, List.map_eq_nil_iff, List.filter_eq_nil_iff, beq_iff_eq] at h
  exact fun hv => h _ hv rfl

theorem ite_sublist {α : Type} {c : Prop} [Decidable c] {l₁ l₂ l : List α} (h₁ : l₁.Sublist l) (h₂ : l₂.Sublist l) :
    (if c then l₁ else l₂).Sublist l := by
  split
  · exact h₁
  · exact h₂

theorem actualHeaders_facts (cc : CorsCfg) (rq : CorsReq) :
    Spec.valuesOf hAllowOrigin (Spec.actualHeaders cc rq) = [rq.origin] ∧
    Spec.valuesOf hAllowCredentials (Spec.actualHeaders cc rq) = (if cc.cookies then [sTrue] else []) ∧
    Spec.valuesOf hExposeHeaders (Spec.actualHeaders cc rq) =
      (if cc.exposeHeaders.isEmpty then [] else [join sComma cc.exposeHeaders]) ∧
    Spec.valuesOf hMaxAge (Spec.actualHeaders cc rq) = (if cc.maxAge > 0 then [itoa cc.maxAge] else []) ∧
    Spec.valuesOf hAllowMethods (Spec.actualHeaders cc rq) = [] ∧
    Spec.valuesOf hAllowHeaders (Spec.actualHeaders cc rq) = [] ∧
    ((Spec.actualHeaders cc rq).map (·.1)).Nodup := by
  have hn := hdr_names_distinct
  simp only [List.pairwise_cons, List.mem_cons, forall_eq_or_imp, List.not_mem_nil, false_imp_iff, implies_true,
    List.Pairwise.nil, and_true] at hn
  refine ⟨?_, ?_, ?_, ?_, ?_, ?_, ?_⟩
  iterate 6 simp [Spec.actualHeaders, valuesOf_append, apply_ite (Spec.valuesOf _), valuesOf_cons, valuesOf_nil, hn]
  -- the names are a sublist of four of the six
  have hs : ((Spec.actualHeaders cc rq).map (·.1)).Sublist
      [hExposeHeaders, hAllowOrigin, hAllowCredentials, hMaxAge] := by
    simp only [Spec.actualHeaders, List.map_append, apply_ite (List.map _), List.map_cons, List.map_nil]
    exact (((ite_sublist (List.nil_sublist _) (.refl _)).append (.refl _)).append
      (ite_sublist (.refl _) (List.nil_sublist _))).append (ite_sublist (.refl _) (List.nil_sublist _))
  exact hs.nodup (by simp [hn])

theorem actualHeaders_cookies (cc : CorsCfg) (rq : CorsReq)
    (h : Spec.valuesOf hAllowCredentials (Spec.actualHeaders cc rq) ≠ []) : cc.cookies = true := by
  rw [(actualHeaders_facts cc rq).2.1] at h
  cases hc : cc.cookies
  · simp [hc] at h
  · rfl

theorem preflightGrant_facts (cc : CorsCfg) (ms : List Str) (rq : CorsReq) :
    Spec.valuesOf hAllowOrigin (preflightGrant cc ms rq) = [rq.origin] ∧
    (Spec.valuesOf hAllowCredentials (preflightGrant cc ms rq) ≠ [] → cc.cookies = true) ∧
    Spec.valuesOf hAllowMethods (preflightGrant cc ms rq) = [join sComma ms] ∧
    Spec.valuesOf hAllowHeaders (preflightGrant cc ms rq) = [rq.acrh] ∧
    ((preflightGrant cc ms rq).map (·.1)).Nodup := by
  have hn := hdr_names_distinct
  simp only [List.pairwise_cons, List.mem_cons, forall_eq_or_imp, List.not_mem_nil, false_imp_iff, implies_true,
    List.Pairwise.nil, and_true] at hn
  obtain ⟨ho, _, _, _, hm, hh, hnd⟩ := actualHeaders_facts cc rq
  unfold preflightGrant
  refine ⟨?_, ?_, ?_, ?_, ?_⟩
  · simp [valuesOf_cons, hn, ho]
  · simpa [valuesOf_cons, hn] using actualHeaders_cookies cc rq
  · simp [valuesOf_cons, hn, hm]
  · simp [valuesOf_cons, hn, hh]
  · simp [valuesOf_eq_nil hm, valuesOf_eq_nil hh, hnd, hn]

/-! ### from the filter's outcome to an observation: what is derived and what only the harness sees

The model of the filter (`corsOut`) says two things: which headers the filter adds with
`resp.AddHeader`, and whether it calls `chain.ProcessFilter`.  It has no status, no body, no event
log and no twin.  The predicates `Spec.c08Holds` / `Spec.c09Holds` speak about an OBSERVATION
(`Spec.CorsObs`): the real exchange compared with the exchange of a twin container without the
filter.  To state them of the model without pretending, the rest of the container is made explicit
as an ARBITRARY function `k : Rest` — everything behind the filter (later filters, the route function
or the router's error answer, net/http), as a function of the header lines already on the response
when control arrives.  Then

* the container with the filter is `withFilter k out` and the twin is `k []`;
* the observation is computed from the two exchanges the way the harness computes it (`observe`);
* what follows from the model ALONE, for every `k`: when the filter passes control on, it has done
  nothing but `AddHeader` (`withFilter_passOn`), and for a request without Origin or from a
  disallowed origin the exchange IS the twin's (`withFilter_absent`, from `corsOut_not_allowed`) —
  so "processed exactly as if the filter were absent" is a theorem there, with no assumption;
* what does NOT follow from the model, and is therefore a HYPOTHESIS of `C08_spec` / `C09_spec` for
  allowed origins only (`RestOK k`): that the code behind the filter leaves the lines the filter
  added alone and is otherwise blind to them (frame), that it logs when it runs, and that it sets
  no CORS header of its own.  These are facts about user code; the harness's generated containers
  have them by construction, and the twin comparison measures their consequences on the real code
  on every request (`missing`, `status`/`twinStatus`, `bodySame`, `logSame`).
-/

/-- one finished exchange as the harness records it -/
structure Exch where
  headers : List (Str × Str)   -- response header lines (canonical name, value)
  status : Nat
  body : Str
  log : List Str               -- the events logged BEHIND the CORS filter (later filters, route function)
  deriving DecidableEq, Repr

/-- everything behind the CORS filter, as a function of the header lines already on the response
    when control arrives (filter.go:17 `FilterChain.ProcessFilter`).  The request is the same in both
    containers, so it is not an argument.  ARBITRARY: user code. -/
abbrev Rest := List (Str × Str) → Exch

/-- the exchange when the filter does not pass control on: nothing behind it runs, the response is
    what the filter added (net/http: status 200, no body).  Neither predicate reads status or body
    of an exchange the filter answered alone. -/
def answered (added : List (Str × Str)) : Exch := ⟨added, 200, [], []⟩

/-- the container WITH the filter, given the filter's outcome -/
def withFilter (k : Rest) (out : Out) : Exch := if out.passOn then k out.added else answered out.added

/-- multiset difference of header lines: `l` minus `m` (real.go `Observe`: `lines(a.header)` against
    `lines(b.header)`) -/
def msub : List (Str × Str) → List (Str × Str) → List (Str × Str)
  | l, [] => l
  | l, b :: bs => msub (l.erase b) bs

/-- harness/internal/cors/real.go `Observe` for a request that reached the filter chain: the real
    exchange against the twin's -/
def observe (real twin : Exch) : Spec.CorsObs :=
  { reached := true
    extra := msub real.headers twin.headers
    missing := (msub twin.headers real.headers).length
    status := real.status, twinStatus := twin.status
    bodySame := real.body == twin.body
    logSame := real.log == twin.log
    later := !real.log.isEmpty }

/-- the observation the model's outcome amounts to, in front of the rest `k` of the container -/
def obsOf (k : Rest) (out : Out) : Spec.CorsObs := observe (withFilter k out) (k [])

/-- the six names the filter writes -/
def isCorsName (n : Str) : Bool :=
  n == hExposeHeaders || n == hAllowMethods || n == hAllowOrigin || n == hAllowCredentials || n == hAllowHeaders || n == hMaxAge

/-- What the twin comparison needs of the code BEHIND the filter.  None of it can come from a model
    of the filter; it is what the harness's generated containers are built to satisfy (a logging
    filter directly behind the CORS filter; route functions that only ADD `X-Handler` lines and never
    look at the response headers) and what every run checks the consequences of on the real code. -/
structure RestOK (k : Rest) : Prop where
  /-- whatever runs behind the filter logs -/
  logs : ∀ hs, (k hs).log ≠ []
  /-- frame: the lines present on arrival are still there at the end, the code behind the filter
      neither reads, overwrites nor deletes them — headers up to order (`http.Header` is a map) -/
  frame : ∀ hs, (k hs).headers.Perm (hs ++ (k []).headers) ∧ (k hs).status = (k []).status ∧
            (k hs).body = (k []).body ∧ (k hs).log = (k []).log
  /-- it sets no CORS header itself (else the multiset difference `extra` would hide a grant) -/
  noCors : ∀ h ∈ (k []).headers, isCorsName h.1 = false

/-- a rest of the container of the shape the harness builds (harness/internal/cors/real.go
    `buildOne`): the logging filter directly behind the CORS filter, then whatever logs `log`, and a
    route function that ADDS one `X-Handler` line and writes a status and a body — blind to what is
    already on the response.  Used to instantiate `RestOK` (non-vacuity). -/
def exRest (id : Str) (status : Nat) (body : Str) (log : List Str) : Rest := fun hs =>
  ⟨hs ++ [("X-Handler".toList, id)], status, body, "post".toList :: log⟩

theorem exRest_ok (id : Str) (status : Nat) (body : Str) (log : List Str) : RestOK (exRest id status body log) where
  logs := by intro hs; simp [exRest]
  frame := by intro hs; simp [exRest]
  noCors := by
    intro h hh
    have e : h = ("X-Handler".toList, id) := by simpa [exRest] using hh
    have n : isCorsName "X-Handler".toList = false := by
      decide_lits [isCorsName, hExposeHeaders, hAllowMethods, hAllowOrigin, hAllowCredentials, hAllowHeaders, hMaxAge]
    rw [e]; exact n

theorem count_msub (x : Str × Str) (l m : List (Str × Str)) :
    (msub l m).count x = l.count x - m.count x := by
  induction m generalizing l with
  | nil => simp [msub]
  | cons b bs ih =>
    rw [msub, ih, List.count_erase, List.count_cons]
    omega

theorem msub_of_perm_append {l a t : List (Str × Str)} (h : l.Perm (a ++ t)) :
    (msub l t).Perm a ∧ msub t l = [] := by
  constructor
  · rw [List.perm_iff_count]
    intro x
    rw [count_msub, h.count_eq x, List.count_append]
    omega
  · rw [List.eq_nil_iff_forall_not_mem]
    intro x hx
    have hc := count_msub x t l
    rw [h.count_eq x, List.count_append] at hc
    have hp := List.count_pos_iff.mpr hx
    omega

theorem msub_self (l : List (Str × Str)) : msub l l = [] :=
  (msub_of_perm_append (a := []) (.refl l)).2

theorem msub_disjoint (l m : List (Str × Str)) (h : ∀ x ∈ m, x ∉ l) : msub l m = l := by
  induction m generalizing l with
  | nil => rfl
  | cons b bs ih =>
    rw [msub, List.erase_of_not_mem (h b (by simp))]
    exact ih l (fun x hx => h x (by simp [hx]))

/-- DERIVED from the model, for every rest of the container: when the filter passes control on, all
    it has done is `AddHeader` — the exchange is the rest of the chain started on a response that
    carries the added lines, and nothing else differs from the twin's start `k []`. -/
theorem withFilter_passOn (k : Rest) (out : Out) (h : out.passOn = true) :
    withFilter k out = k out.added := by
  simp [withFilter, h]

theorem withFilter_answered (k : Rest) (out : Out) (h : out.passOn = false) :
    withFilter k out = answered out.added := by
  simp [withFilter, h]

theorem sameAsTwin_observe_self (e : Exch) : Spec.sameAsTwin (observe e e) = true := by
  simp [Spec.sameAsTwin, Spec.restSame, observe, msub_self]

/-- DERIVED from the model, for EVERY rest of the container (no `RestOK`): a request without Origin
    or from a disallowed origin goes through the container with the filter exactly as through the
    twin — the two exchanges are EQUAL, hence the observation is "same as twin" in every field. -/
theorem withFilter_absent (cc : CorsCfg) (tbl : Config) (rq : CorsReq)
    (h : Spec.originAllowed lower cc rq.origin = false) (k : Rest) :
    ∃ out, corsOut lower E cc tbl rq = some out ∧ withFilter k out = k [] ∧
      Spec.sameAsTwin (obsOf k out) = true :=
  ⟨⟨[], true⟩, corsOut_not_allowed lower E cc tbl rq h, rfl, sameAsTwin_observe_self (k [])⟩

theorem obsOf_passOn (k : Rest) (hk : RestOK k) (added : List (Str × Str)) :
    let o := obsOf k ⟨added, true⟩
    o.extra.Perm added ∧ Spec.restSame o = true ∧ o.later = true ∧ o.reached = true := by
  obtain ⟨hh, hs, hb, hl⟩ := hk.frame added
  obtain ⟨hp, hm⟩ := msub_of_perm_append hh
  refine ⟨hp, ?_, ?_, rfl⟩
  · simp [Spec.restSame, obsOf, withFilter, observe, hm, hs, hb, hl]
  · simpa [obsOf, withFilter, observe] using hk.logs added

theorem obsOf_answered (k : Rest) (hk : RestOK k) (out : Out) (hp : out.passOn = false)
    (hc : ∀ h ∈ out.added, isCorsName h.1 = true) :
    (obsOf k out).extra = out.added ∧ (obsOf k out).later = false ∧ (obsOf k out).reached = true := by
  rw [obsOf, withFilter_answered k out hp]
  refine ⟨msub_disjoint _ _ fun x hx hx' => ?_, rfl, rfl⟩
  have h := hc x hx'
  rw [hk.noCors x hx] at h
  cases h

theorem preflightOK_iff (cc : CorsCfg) (ms : List Str) (rq : CorsReq) :
    Spec.preflightOK lower cc ms rq = true ↔
      (rq.acrm ∈ ms ∧ ∀ h ∈ Spec.requestedHeaders rq.acrh, ∃ a ∈ cc.allowedHeaders, lower a = lower h ∨ a = sStar) := by
  simp [Spec.preflightOK, Spec.headerAllowed]

theorem valuesOf_perm (n : Str) {l l' : List (Str × Str)} (h : l.Perm l') :
    (Spec.valuesOf n l).Perm (Spec.valuesOf n l') :=
  (h.filter _).map _

theorem preflightGrant_corsNames (cc : CorsCfg) (ms : List Str) (rq : CorsReq) :
    ∀ h ∈ preflightGrant cc ms rq, isCorsName h.1 = true := by
  intro h hh
  simp only [preflightGrant, Spec.actualHeaders, List.mem_cons, List.mem_append, List.mem_ite_nil_left,
    List.mem_ite_nil_right, List.not_mem_nil, or_false] at hh
  rcases hh with rfl | rfl | ((⟨_, rfl⟩ | rfl) | ⟨_, rfl⟩) | ⟨_, rfl⟩ <;> simp [isCorsName]

theorem preflightGrant_only (cc : CorsCfg) (ms : List Str) (rq : CorsReq) :
    (preflightGrant cc ms rq).all
      (fun h => h.1 == hAllowMethods || h.1 == hAllowHeaders || (Spec.actualHeaders cc rq).contains h) = true := by
  rw [List.all_eq_true]
  intro h hh
  simp only [preflightGrant, List.mem_cons] at hh
  rcases hh with rfl | rfl | hh
  · simp
  · simp
  · simp [hh]

theorem obsOf_preflight (cc : CorsCfg) (tbl : Config) (rq : CorsReq) (out : Out)
    (h : Spec.originAllowed lower cc rq.origin = true) (hp : Spec.isPreflight rq = true)
    (ho : corsOut lower E cc tbl rq = some out) (k : Rest) (hk : RestOK k) :
    (obsOf k out).extra = out.added ∧ (obsOf k out).later = false ∧ (obsOf k out).reached = true := by
  obtain ⟨hpass, hadd⟩ := corsOut_preflight lower E cc tbl rq out h hp ho
  refine obsOf_answered k hk out hpass ?_
  rw [hadd]
  split
  · exact preflightGrant_corsNames cc _ rq
  · intro x hx; cases hx

end Cors
end Restful
