/-
C09 — CORS preflight is answered by the filter alone and grants only what is allowed.

Same model as C08 (`Cors.corsOut`, Model/Cors.lean); in addition `Cors.computeAllowedMethods`
(container.go:435) over the closed form of the compiled path expressions (Model/Jsr.lean), and
`Cors.corsSeq`: a sequence of requests through ONE installed filter value.

"The allowed methods" are `Spec.methodsFor`: the configured list, or else the methods routable at
the URL (`Spec.methodsAt`: every route of every service whose root expression matches the URL and
whose own expression matches the rest up to an optional final slash).

The requested headers are `Spec.requestedHeaders`: the header split on `,`, blanks trimmed; an
absent or empty header requests nothing (the `len(acrhs) > 0` guard), so such a preflight is
granted on the method alone and receives `Access-Control-Allow-Headers:` with an EMPTY value.  An
empty ELEMENT (`a,,b`, `a,`, `,`) is validated like any other element: it is allowed only if the
allowed list has `*` or an entry that lower-cases to what `""` lower-cases to.  The property speaks
of "every requested header"; reading the empty element as "not a header" the code is STRICTER than
the property on such lists (it refuses, which "only if" permits) — `C09_grant` states the exact
condition, `C09_grant_only_if` the property's reading.
-/
import Restful.Lemmas.Cors
import Restful.Lemmas.Allow
import Restful.Lemmas.DecideLits
import Restful.Lemmas.StateShape
import Restful.Lemmas.TieCors
import Restful.Lemmas.TieImpAllowed
import Restful.Lemmas.TieImpFilters
import Restful.Lemmas.TieImpFiltersDefault
namespace Restful
namespace Props
open Str Cors
variable (lower : Str → Str) (E : ReEnv)

/-- A preflight from an allowed origin is answered by the filter alone: it does not call
    `chain.ProcessFilter`, so no later filter and no route function runs. -/
theorem C09_alone (cc : CorsCfg) (tbl : Config) (rq : CorsReq) (out : Out)
    (hp : Spec.isPreflight rq = true) (ha : Spec.originAllowed lower cc rq.origin = true)
    (h : corsOut lower E cc tbl rq = some out) :
    out.passOn = false :=
  (corsOut_preflight lower E cc tbl rq out ha hp h).1

/-- A preflight from an allowed origin receives Allow-Methods / Allow-Headers / Allow-Origin iff the
    requested method is among the allowed methods and every requested header is allowed ignoring
    case (or `*` is configured).  If so it receives exactly the grant (the allowed methods joined
    with `,`, the requested header list verbatim, the actual-request headers); otherwise nothing. -/
theorem C09_grant (cc : CorsCfg) (tbl : Config) (rq : CorsReq) (out : Out)
    (hp : Spec.isPreflight rq = true) (ha : Spec.originAllowed lower cc rq.origin = true)
    (h : corsOut lower E cc tbl rq = some out) :
    let ms := Spec.methodsFor E cc tbl rq.path
    let ok := rq.acrm ∈ ms ∧ ∀ h ∈ Spec.requestedHeaders rq.acrh, ∃ a ∈ cc.allowedHeaders, lower a = lower h ∨ a = sStar
    ((Spec.valuesOf hAllowMethods out.added ≠ [] ∨ Spec.valuesOf hAllowHeaders out.added ≠ [] ∨
        Spec.valuesOf hAllowOrigin out.added ≠ []) ↔ ok) ∧
    (ok → out.added = preflightGrant cc ms rq) ∧
    (¬ ok → out.added = []) := by
  intro ms ok
  obtain ⟨_, hadd⟩ := corsOut_preflight lower E cc tbl rq out ha hp h
  have hiff := preflightOK_iff lower cc ms rq
  by_cases hok : Spec.preflightOK lower cc ms rq = true
  · have hok' : ok := hiff.mp hok
    rw [if_pos hok] at hadd
    have f := preflightGrant_facts cc ms rq
    refine ⟨⟨fun _ => hok', fun _ => Or.inl ?_⟩, fun _ => hadd, fun hn => absurd hok' hn⟩
    rw [hadd, f.2.2.1]
    simp
  · have hok' : ¬ ok := fun hc => hok (hiff.mpr hc)
    rw [if_neg hok] at hadd
    refine ⟨⟨fun hg => ?_, fun hc => absurd hc hok'⟩, fun hc => absurd hc hok', fun _ => hadd⟩
    rw [hadd] at hg
    simp [Spec.valuesOf] at hg

/-- The property's own reading ("only if", empty elements not counted as headers): a granted
    preflight requested an allowed method and only allowed headers. -/
theorem C09_grant_only_if (cc : CorsCfg) (tbl : Config) (rq : CorsReq) (out : Out)
    (hp : Spec.isPreflight rq = true) (ha : Spec.originAllowed lower cc rq.origin = true)
    (h : corsOut lower E cc tbl rq = some out) (hg : out.added ≠ []) :
    rq.acrm ∈ Spec.methodsFor E cc tbl rq.path ∧
    ∀ h ∈ Spec.requestedHeaders rq.acrh, h ≠ [] → ∃ a ∈ cc.allowedHeaders, lower a = lower h ∨ a = sStar := by
  obtain ⟨_, _, h3⟩ := C09_grant lower E cc tbl rq out hp ha h
  by_cases hok : rq.acrm ∈ Spec.methodsFor E cc tbl rq.path ∧
      ∀ h ∈ Spec.requestedHeaders rq.acrh, ∃ a ∈ cc.allowedHeaders, lower a = lower h ∨ a = sStar
  · exact ⟨hok.1, fun x hx _ => hok.2 x hx⟩
  · exact absurd (h3 hok) hg

/-- Any other request from an allowed origin proceeds down the chain with the actual-request
    headers added, each exactly once: the origin (verbatim), credentials iff configured, the exposed
    headers iff configured, max-age iff positive; no preflight header. -/
theorem C09_actual (cc : CorsCfg) (tbl : Config) (rq : CorsReq)
    (hp : Spec.isPreflight rq = false) (ha : Spec.originAllowed lower cc rq.origin = true) :
    corsOut lower E cc tbl rq = some ⟨Spec.actualHeaders cc rq, true⟩ ∧
    Spec.valuesOf hAllowOrigin (Spec.actualHeaders cc rq) = [rq.origin] ∧
    Spec.valuesOf hAllowCredentials (Spec.actualHeaders cc rq) = (if cc.cookies then [sTrue] else []) ∧
    Spec.valuesOf hExposeHeaders (Spec.actualHeaders cc rq) =
      (if cc.exposeHeaders.isEmpty then [] else [join sComma cc.exposeHeaders]) ∧
    Spec.valuesOf hMaxAge (Spec.actualHeaders cc rq) = (if cc.maxAge > 0 then [itoa cc.maxAge] else []) ∧
    Spec.valuesOf hAllowMethods (Spec.actualHeaders cc rq) = [] ∧
    Spec.valuesOf hAllowHeaders (Spec.actualHeaders cc rq) = [] ∧
    ((Spec.actualHeaders cc rq).map (·.1)).Nodup :=
  ⟨corsOut_actual lower E cc tbl rq ha hp, actualHeaders_facts cc rq⟩

/-- Every sequence of requests through one installed filter value is answered request by request:
    nothing a preflight computed sticks to the filter.  In a functional model this is immediate
    from `filterCall` returning the filter value unchanged; what makes it a statement about the
    code is that `Filter` has a VALUE receiver (cors_filter.go:47) while `doPreflightRequest`
    (pointer receiver, cors_filter.go:82) writes `c.AllowedMethods` on that per-call copy — a fact
    about the source that `C19_frame` (Props/C19.lean, last conjunct) reads off the regenerated facts,
    and that the history stream of the harness tests on every run. -/
theorem C09_no_memory (cc : CorsCfg) (tbl : Config) (reqs : List CorsReq) :
    corsSeq lower E tbl cc reqs = reqs.map (corsOut lower E cc tbl) := by
  induction reqs with
  | nil => rfl
  | cons r rs ih => simp [corsSeq, filterCall, ih]

/-- The same on a container whose route table changes between the requests (routes added to /
    removed from a WebService that is already registered): every request is answered from the table
    in force when it arrives — neither the filter value nor anything else remembers what an earlier
    preflight computed for the URL.  What makes it a statement about the code, besides the value
    receiver: `computeAllowedMethods` reads `c.webServices` and `ws.routes` on every call and the
    Container has no further field (`StateShape.container_shape`, a generated-facts obligation); the
    history stream of the harness changes route tables between preflights to one URL on every run. -/
theorem C09_no_memory_tables (cc : CorsCfg) (reqs : List (Config × CorsReq)) :
    corsSeqT lower E cc reqs = reqs.map (fun p => corsOut lower E cc p.1 p.2) := by
  induction reqs with
  | nil => rfl
  | cons r rs ih => obtain ⟨tbl, rq⟩ := r; simp [corsSeqT, filterCall, ih]

/-- with a table that never changes `corsSeqT` is `corsSeq` -/
theorem C09_tables_const (cc : CorsCfg) (tbl : Config) (reqs : List CorsReq) :
    corsSeqT lower E cc (reqs.map (fun rq => (tbl, rq))) = corsSeq lower E tbl cc reqs := by
  rw [C09_no_memory_tables, C09_no_memory, List.map_map]
  rfl

/-- The property's predicate holds of the model's outcome, for every input and in front of every
    rest `k` of the container (`Cors.Rest`: later filters, route function or the router's error
    answer — an arbitrary function of the header lines already on the response).

    The observation is `obsOf k out = observe (withFilter k out) (k [])`: the exchange with the filter
    compared, the way the harness compares, with the exchange of the twin.  What the predicate reads
    and where it comes from:
    * `later` (preflight: nothing behind the filter ran; otherwise: it ran) — from the model's
      `passOn`, given that whatever runs behind the filter logs (`RestOK.logs`: the harness installs
      a logging filter directly behind the CORS filter);
    * `extra` — the model's `added`, given that the code behind the filter keeps the lines it finds
      on the response (`RestOK.frame`) and sets no CORS header itself (`RestOK.noCors`);
    * `restSame` for a passed-on request ("proceeds down the chain" as on the twin) — NOT a
      consequence of the model of the filter: it is `RestOK.frame`, a hypothesis about the code
      behind the filter (it does not look at the response headers the filter added).  Only the
      harness can check it; it does, on every request, by the twin comparison.
    For an origin that is not allowed the hypothesis is void and the predicate leaves the verdict to
    C08 (`C08_as_if_absent`). -/
theorem C09_spec (cc : CorsCfg) (tbl : Config) (rq : CorsReq) (out : Out)
    (h : corsOut lower E cc tbl rq = some out) (k : Rest)
    (hk : Spec.originAllowed lower cc rq.origin = true → RestOK k) :
    Spec.c09Holds lower E cc tbl rq (obsOf k out) = true := by
  rw [Spec.c09Holds]
  rcases corsOut_cases lower E cc tbl rq out h with ⟨ha, _⟩ | ⟨ha, hp, rfl⟩ | ⟨ha, hp, _, hadd⟩
  · simp [ha]
  · obtain ⟨hperm, hrest, hlat, hre⟩ := obsOf_passOn k (hk ha) (Spec.actualHeaders cc rq)
    rw [hre, ha, hp, hlat, hrest]
    simpa using List.isPerm_iff.mpr hperm
  · obtain ⟨hex, hlat, hre⟩ := obsOf_preflight lower E cc tbl rq out ha hp h k (hk ha)
    rw [hre, ha, hp, hlat, hex]
    by_cases hok : Spec.preflightOK lower cc (Spec.methodsFor E cc tbl rq.path) rq = true
    · rw [if_pos hok] at hadd
      have f := preflightGrant_facts cc (Spec.methodsFor E cc tbl rq.path) rq
      have g := preflightGrant_only cc (Spec.methodsFor E cc tbl rq.path) rq
      simp only [hok, hadd, f.1, f.2.2.1, f.2.2.2.1, f.2.2.2.2, g]
      simp
    · rw [if_neg hok] at hadd
      simp [hok, hadd]

/-! ### the strict reading of "the methods routable at that URL" (finding F14, seen from C09)

`C09_grant` takes "the methods routable at that URL in the container" to be what
`computeAllowedMethods` means declaratively (`Spec.methodsAt`: some route of SOME service whose
root matches).  Read strictly — the methods for which the ROUTER would route a request at that URL —
the full statement would be

    theorem C09_routable (preflight from an allowed origin, computed methods, granted) :
        a request with method `rq.acrm` to `rq.path` is not answered 404 / 405 by the router

and that is NOT true of the code when several services' roots match the URL (nested roots such as
`/a` and `/a/b`): the router dispatches to one service, `computeAllowedMethods` unions the methods
of all of them.  This is finding F14 of DESIGN §6 (listed there under C17, which is about the same
function).  `C09_routable_partial` proves the statement for RouterJSR311 outside that class — the
extra hypothesis `Spec.severalRootsMatch … = false` is the class —, `C09_F14_witness` exhibits the
violation inside it.  (For CurlyRouter no such theorem is stated: it selects the service and the
route by tokens, not by the compiled expressions — findings F03/F15–F17 of DESIGN §6 — so further
single-root differences exist there; the harness counts them as `granted-method-not-routed:one-root`.) -/

/-- RouterJSR311, at most one service root matching the URL: a preflight granted on COMPUTED
    methods requested a method for which the router does route that URL (no 404, no 405), for any
    request on which the If-conditions (user code) of the service's routes hold. -/
theorem C09_routable_partial (cc : CorsCfg) (tbl : Config) (rq : CorsReq) (out : Out)
    (hp : Spec.isPreflight rq = true) (ha : Spec.originAllowed lower cc rq.origin = true)
    (hcomp : cc.allowedMethods = [])
    (h : corsOut lower E cc tbl rq = some out) (hg : out.added ≠ [])
    (hF14 : Spec.severalRootsMatch E tbl rq.path = false)
    (req : Req) (hmeth : req.method = rq.acrm) (hpath : req.path = rq.path)
    (hconds : ∀ s ∈ tbl.services, ∀ r ∈ s.built, passesConds r req = true) (a : Option (List Str)) :
    (routeJsr E tbl req).1 ≠ .error 404 a ∧ (routeJsr E tbl req).1 ≠ .error 405 a := by
  have ho := h
  rw [corsOut_preflight_eq lower E cc tbl rq ha hp, hcomp] at ho
  obtain ⟨ms, hms, _⟩ := Option.map_eq_some_iff.mp ho
  have hmem := (C09_grant_only_if lower E cc tbl rq out hp ha h hg).1
  have hfor : Spec.methodsFor E cc tbl rq.path = ms := by
    rw [Spec.methodsFor, hcomp]
    exact (computeAllowedMethods_eq_methodsAt E tbl rq.path ms hms).symm
  rw [hfor] at hmem
  have h := Allow.listed_routable_jsr E tbl rq.path ms rq.acrm hms hmem hF14 req hmeth hpath hconds
  exact ⟨fun e => h.1 (by rw [e]; rfl), fun e => h.2 (by rw [e]; rfl)⟩

/-- nested roots: `/a` (PUT `/{p}/{q}`) and `/a/b` (GET `/{x}`) -/
def f14Tbl : Config := { router := .jsr, services :=
  [{ id := 0, root := "/a".toList, routes := [{ id := 0, method := "PUT".toList, relPath := "/{p}/{q}".toList, consumes := [], produces := [], conds := [], noct := [] }] },
   { id := 1, root := "/a/b".toList, routes := [{ id := 1, method := "GET".toList, relPath := "/{x}".toList, consumes := [], produces := [], conds := [], noct := [] }] }] }

/-- F14 seen from C09: the preflight `OPTIONS /a/b/x` asking for PUT is granted
    (`Access-Control-Allow-Methods: PUT,GET`), while `PUT /a/b/x` is answered 405 (Allow: GET). -/
theorem C09_F14_witness :
    Spec.severalRootsMatch ⟨fun _ _ => true, fun _ _ => true⟩ f14Tbl "/a/b/x".toList = true ∧
    (corsOut toLowerAscii ⟨fun _ _ => true, fun _ _ => true⟩ {} f14Tbl
        { method := "OPTIONS".toList, path := "/a/b/x".toList, origin := "http://o".toList, acrm := "PUT".toList }).map (·.added.take 1) =
      some [(hAllowMethods, "PUT,GET".toList)] ∧
    (routeJsr ⟨fun _ _ => true, fun _ _ => true⟩ f14Tbl { method := "PUT".toList, path := "/a/b/x".toList }).1 =
      .error 405 (some ["GET".toList]) := by
  refine ⟨by decide_lits [f14Tbl], ?_, by decide_lits [f14Tbl]⟩
  rw [corsOut_preflight_eq _ _ _ _ _ (by decide_lits) (by decide_lits)]
  decide_lits [preflightGrant, f14Tbl, hAllowMethods]

/-! ### non-vacuity and the two corner cases of the requested-header list -/

/-- a two-service table: `/a` answers GET, `/b` answers PUT -/
def exTbl : Config := { router := .curly, services :=
  [{ id := 0, root := "/a".toList, routes := [{ id := 0, method := "GET".toList, relPath := "".toList, consumes := [], produces := [], conds := [], noct := [] }] },
   { id := 1, root := "/b".toList, routes := [{ id := 1, method := "PUT".toList, relPath := "/{id}".toList, consumes := [], produces := [], conds := [], noct := [] }] }] }
def exEnv : ReEnv := ⟨fun _ _ => true, fun _ _ => true⟩
def exCc : CorsCfg := { allowedHeaders := ["X-Token".toList, "Content-Type".toList], allowedDomains := ["http://good.example".toList] }
def exPre (path acrm acrh : String) : CorsReq :=
  { method := "OPTIONS".toList, path := path.toList, origin := "http://GOOD.example".toList, acrm := acrm.toList, acrh := acrh.toList }

theorem exPre_allowed (path acrm acrh : String) :
    Spec.originAllowed toLowerAscii exCc (exPre path acrm acrh).origin = true :=
  show Spec.originAllowed toLowerAscii exCc "http://GOOD.example".toList = true by decide_lits [exCc]

/-- computed methods, headers in any case and spacing: granted, not passed on -/
example :
    corsOut toLowerAscii exEnv exCc exTbl (exPre "/b/7" "PUT" "x-token , CONTENT-TYPE") =
      some ⟨[(hAllowMethods, "PUT".toList), (hAllowHeaders, "x-token , CONTENT-TYPE".toList),
             (hAllowOrigin, "http://GOOD.example".toList)], false⟩ := by
  rw [corsOut_preflight_eq _ _ _ _ _ (exPre_allowed ..) (by decide_lits [exPre])]
  -- the list: the fixtures and whatever stands between the goal and a header constant, so that every literal is in sight
  decide_lits [preflightGrant, Spec.actualHeaders, exCc, exTbl, exPre, hAllowMethods, hAllowHeaders, hAllowOrigin]

/-- a method not routable at the URL, or one header too many: no grant at all, not passed on -/
example :
    corsOut toLowerAscii exEnv exCc exTbl (exPre "/b/7" "GET" "x-token") = some ⟨[], false⟩ ∧
    corsOut toLowerAscii exEnv exCc exTbl (exPre "/b/7" "PUT" "x-token,x-evil") = some ⟨[], false⟩ := by
  decide_lits [exCc, exTbl, exPre]

/-- an absent/empty requested-header list requests nothing: granted, with an empty Allow-Headers -/
example :
    corsOut toLowerAscii exEnv exCc exTbl (exPre "/b/7" "PUT" "") =
      some ⟨[(hAllowMethods, "PUT".toList), (hAllowHeaders, []), (hAllowOrigin, "http://GOOD.example".toList)], false⟩ := by
  rw [corsOut_preflight_eq _ _ _ _ _ (exPre_allowed ..) (by decide_lits [exPre])]
  decide_lits [preflightGrant, Spec.actualHeaders, exCc, exTbl, exPre, hAllowMethods, hAllowHeaders, hAllowOrigin]

/-- an empty ELEMENT is validated like a header name: `x-token,,content-type` is refused although
    both named headers are allowed; with `*` configured it is granted -/
example :
    corsOut toLowerAscii exEnv exCc exTbl (exPre "/b/7" "PUT" "x-token,,content-type") = some ⟨[], false⟩ ∧
    corsOut toLowerAscii exEnv exCc exTbl (exPre "/b/7" "PUT" "x-token, ") = some ⟨[], false⟩ ∧
    (corsOut toLowerAscii exEnv { exCc with allowedHeaders := ["*".toList] } exTbl (exPre "/b/7" "PUT" "x-token,,content-type")).map (·.added.length) = some 3 := by
  decide_lits [exCc, exTbl, exPre]

/-- a non-preflight OPTIONS and a GET from the allowed origin: passed on with the actual headers -/
example :
    corsOut toLowerAscii exEnv { exCc with cookies := true, exposeHeaders := ["X-A".toList, "X-B".toList], maxAge := 60 } exTbl
        { method := "OPTIONS".toList, path := "/a".toList, origin := "http://good.example".toList } =
      some ⟨[(hExposeHeaders, "X-A,X-B".toList), (hAllowOrigin, "http://good.example".toList),
             (hAllowCredentials, "true".toList), (hMaxAge, "60".toList)], true⟩ := by
  rw [corsOut_actual _ _ _ _ _ (by decide_lits [exCc]) (by decide_lits)]
  decide_lits [Spec.actualHeaders, exCc, hExposeHeaders, hAllowOrigin, hAllowCredentials, hMaxAge]

/-- what `C09_no_memory` excludes: were `Filter` a pointer-receiver method, the methods computed by
    the first preflight (`GET` at `/a`) would stick and the second preflight (`PUT` at `/b/7`) would
    be refused; the code's (value receiver) sequence grants both. -/
example :
    (corsSeq toLowerAscii exEnv exTbl exCc [exPre "/a" "GET" "", exPre "/b/7" "PUT" ""]).map (fun o => o.map (·.added.length)) =
      [some 3, some 3] ∧
    (corsSeqPtr toLowerAscii exEnv exTbl exCc [exPre "/a" "GET" "", exPre "/b/7" "PUT" ""]).map (fun o => o.map (·.added.length)) =
      [some 3, some 0] := by
  decide_lits [exCc, exTbl, exPre]

/-! ### non-vacuity (audit): the theorems themselves on `exCc` / `exTbl` (all hypotheses at once);
    `Spec.c09Holds` falsified by wrong observations -/
namespace C09Example

/-- a preflight from the allowed origin (other case) for PUT at `/b/7` with two requested headers -/
def pre : CorsReq := exPre "/b/7" "PUT" "x-token , CONTENT-TYPE"
def outPre : Out :=
  ⟨[(hAllowMethods, "PUT".toList), (hAllowHeaders, "x-token , CONTENT-TYPE".toList),
    (hAllowOrigin, "http://GOOD.example".toList)], false⟩
/-- the same with one header too many -/
def preBad : CorsReq := exPre "/b/7" "PUT" "x-token,x-evil"

theorem pre_preflight : Spec.isPreflight pre = true := by decide_lits [pre, exPre]
theorem pre_out : corsOut toLowerAscii exEnv exCc exTbl pre = some outPre := by
  rw [corsOut_preflight_eq _ _ _ _ pre (exPre_allowed ..) pre_preflight]
  decide_lits [preflightGrant, Spec.actualHeaders, exCc, exTbl, pre, exPre, outPre, hAllowMethods, hAllowHeaders, hAllowOrigin]
theorem preBad_preflight : Spec.isPreflight preBad = true := by decide_lits [preBad, exPre]
theorem preBad_out : corsOut toLowerAscii exEnv exCc exTbl preBad = some ⟨[], false⟩ := by
  rw [corsOut_preflight_eq _ _ _ _ preBad (exPre_allowed ..) preBad_preflight]
  decide_lits [exCc, exTbl, preBad, exPre]

example : Spec.isPreflight pre = true ∧ Spec.originAllowed toLowerAscii exCc pre.origin = true ∧
    (Spec.requestedHeaders pre.acrh).length = 2 ∧
    corsOut toLowerAscii exEnv exCc exTbl pre = some outPre ∧
    Spec.isPreflight preBad = true ∧ corsOut toLowerAscii exEnv exCc exTbl preBad = some ⟨[], false⟩ :=
  ⟨pre_preflight, exPre_allowed .., by decide_lits [pre, exPre], pre_out, preBad_preflight, preBad_out⟩
/-- `C09_alone`, `C09_grant` (granted and refused), `C09_grant_only_if`, `C09_spec` -/
example : outPre.passOn = false := C09_alone toLowerAscii exEnv exCc exTbl pre outPre pre_preflight (exPre_allowed ..) pre_out
example := C09_grant toLowerAscii exEnv exCc exTbl pre outPre pre_preflight (exPre_allowed ..) pre_out
example := C09_grant toLowerAscii exEnv exCc exTbl preBad ⟨[], false⟩ preBad_preflight (exPre_allowed ..) preBad_out
example := C09_grant_only_if toLowerAscii exEnv exCc exTbl pre outPre pre_preflight (exPre_allowed ..) pre_out
  (List.cons_ne_nil _ _)
/-- a rest of the container as the harness builds it: the logging filter behind the CORS filter, the
    service's filter, the route function (adds an `X-Handler` line, status 201, a body) -/
def k : Rest := exRest "1".toList 201 "route 1".toList ["svc:1".toList, "h:1:1".toList]
/-- a rest of the container that violates `RestOK`: a route function that answers differently when it
    finds an Allow-Origin line on the response -/
def kPeek : Rest := fun hs =>
  if (Spec.valuesOf hAllowOrigin hs).isEmpty then k hs else ⟨hs, 403, [], ["post".toList]⟩

example : Spec.c09Holds toLowerAscii exEnv exCc exTbl pre (obsOf k outPre) = true :=
  C09_spec toLowerAscii exEnv exCc exTbl pre outPre pre_out k (fun _ => exRest_ok _ _ _ _)
example : Spec.c09Holds toLowerAscii exEnv exCc exTbl preBad (obsOf k ⟨[], false⟩) = true :=
  C09_spec toLowerAscii exEnv exCc exTbl preBad ⟨[], false⟩ preBad_out k (fun _ => exRest_ok _ _ _ _)

/-- an actual request (PUT) from the allowed origin; every optional header configured -/
def actual : CorsReq := { method := "PUT".toList, path := "/b/7".toList, origin := "http://good.example".toList }
def ccFull : CorsCfg := { exCc with cookies := true, exposeHeaders := ["X-A".toList, "X-B".toList], maxAge := 60 }
theorem actual_notPreflight : Spec.isPreflight actual = false := by decide_lits [actual]
theorem actual_allowed : Spec.originAllowed toLowerAscii ccFull actual.origin = true := by
  decide_lits [ccFull, exCc, actual]
/-- `C09_actual` -/
example := C09_actual toLowerAscii exEnv ccFull exTbl actual actual_notPreflight actual_allowed
example : (Spec.actualHeaders ccFull actual).length = 4 := by decide +kernel

/-- `C09_no_memory` on a history of three requests -/
example := C09_no_memory toLowerAscii exEnv exCc exTbl [exPre "/a" "GET" "", pre, actual]

/-- `C09_no_memory_tables`: a preflight for PUT at `/b/7` is granted, the PUT route is removed from the
    registered WebService, the same preflight is refused (no grant at all); the route comes back, it is
    granted again -/
def exTblNoPut : Config := { exTbl with services := exTbl.services.map fun s => { s with routes := s.routes.filter (·.method != "PUT".toList) } }
example :
    (corsSeqT toLowerAscii exEnv exCc [(exTbl, exPre "/b/7" "PUT" ""), (exTblNoPut, exPre "/b/7" "PUT" ""), (exTbl, exPre "/b/7" "PUT" "")]).map
      (fun o => o.map (·.added.length)) = [some 3, some 0, some 3] := by
  decide_lits [exCc, exTbl, exTblNoPut, exPre]
example := C09_no_memory_tables toLowerAscii exEnv exCc [(exTbl, pre), (exTblNoPut, pre), (exTbl, actual)]
example := C09_tables_const toLowerAscii exEnv exCc exTbl [pre, actual]

/-- RouterJSR311, three services (`/a`, `/b`, `/b/{id}/sub` with an If-condition); exactly one root
    matches `/b/7` -/
def jTbl : Config := { router := .jsr, services := exTbl.services ++
  [{ id := 2, root := "/b/{id}/sub".toList, routes :=
      [{ id := 2, method := "GET".toList, relPath := "".toList, consumes := [], produces := [], conds := [0], noct := [] },
       { id := 3, method := "DELETE".toList, relPath := "".toList, consumes := [], produces := [], conds := [], noct := [] }] }] }
def putReq : Req := { method := "PUT".toList, path := "/b/7".toList, conds := [true] }

theorem jTbl_oneRoot : Spec.severalRootsMatch exEnv jTbl pre.path = false := by decide_lits [jTbl, exTbl, pre, exPre]
theorem jTbl_out : corsOut toLowerAscii exEnv exCc jTbl pre = some outPre := by
  rw [corsOut_preflight_eq _ _ _ _ pre (exPre_allowed ..) pre_preflight]
  decide_lits [preflightGrant, Spec.actualHeaders, exCc, jTbl, exTbl, pre, exPre, outPre, hAllowMethods, hAllowHeaders,
    hAllowOrigin]
theorem jTbl_conds : ∀ s ∈ jTbl.services, ∀ r ∈ s.built, passesConds r putReq = true := by decide +kernel

/-- every hypothesis of `C09_routable_partial` at once; the PUT is indeed routed -/
example : Spec.severalRootsMatch exEnv jTbl pre.path = false ∧ exCc.allowedMethods = [] ∧
    corsOut toLowerAscii exEnv exCc jTbl pre = some outPre ∧
    (∀ s ∈ jTbl.services, ∀ r ∈ s.built, passesConds r putReq = true) ∧
    (routeJsr exEnv jTbl putReq).1 = .selected 1 1 [("id".toList, "7".toList)] :=
  ⟨jTbl_oneRoot, rfl, jTbl_out, jTbl_conds, by decide_lits [jTbl, exTbl, putReq]⟩
example := C09_routable_partial toLowerAscii exEnv exCc jTbl pre outPre pre_preflight (exPre_allowed ..) rfl jTbl_out
  (List.cons_ne_nil _ _) jTbl_oneRoot putReq rfl rfl jTbl_conds none

/-- `C09_spec` on the actual request; and why its hypothesis on the rest of the container is needed:
    behind `kPeek` the request does NOT proceed as on the twin, and the predicate says so -/
example : Spec.c09Holds toLowerAscii exEnv ccFull exTbl actual (obsOf k ⟨Spec.actualHeaders ccFull actual, true⟩) = true :=
  C09_spec toLowerAscii exEnv ccFull exTbl actual ⟨Spec.actualHeaders ccFull actual, true⟩
    (corsOut_actual _ _ _ _ _ actual_allowed actual_notPreflight) k (fun _ => exRest_ok _ _ _ _)
example : Spec.c09Holds toLowerAscii exEnv ccFull exTbl actual (obsOf kPeek ⟨Spec.actualHeaders ccFull actual, true⟩) = false := by
  decide +kernel

/-- the observations spelled out: what `obsOf` computes from the two exchanges -/
def oPre : Spec.CorsObs :=
  { reached := true, extra := outPre.added, missing := 1, status := 200, twinStatus := 201,
    bodySame := false, logSame := false, later := false }
def oRefused : Spec.CorsObs := { oPre with extra := [] }
def oAct : Spec.CorsObs :=
  { reached := true, extra := Spec.actualHeaders ccFull actual, missing := 0, status := 201, twinStatus := 201,
    bodySame := true, logSame := true, later := true }
example : obsOf k outPre = oPre ∧ obsOf k ⟨[], false⟩ = oRefused ∧
    obsOf k ⟨Spec.actualHeaders ccFull actual, true⟩ = oAct := by
  decide_lits [obsOf, k, exRest, oRefused, oPre, oAct, outPre, Spec.actualHeaders, ccFull, exCc, actual, hExposeHeaders,
    hAllowMethods, hAllowHeaders, hAllowOrigin, hAllowCredentials, hMaxAge]
/-- the same preflight in front of a filter with every optional header configured -/
def ccFullPre : CorsCfg := { ccFull with allowedMethods := ["PUT".toList, "DELETE".toList] }
def oPreFull : Spec.CorsObs := { oPre with extra :=
  [(hAllowMethods, "PUT,DELETE".toList), (hAllowHeaders, pre.acrh)] ++ Spec.actualHeaders ccFull pre }
example : (corsOut toLowerAscii exEnv ccFullPre exTbl pre).map (obsOf k) = some oPreFull := by
  rw [corsOut_preflight_eq _ _ _ _ pre (by decide_lits [ccFullPre, ccFull, exCc, pre, exPre]) pre_preflight]
  decide_lits [preflightGrant, obsOf, k, exRest, oPreFull, oPre, outPre, Spec.actualHeaders, ccFullPre, ccFull, exCc, pre,
    exPre, hExposeHeaders, hAllowMethods, hAllowHeaders, hAllowOrigin, hAllowCredentials, hMaxAge]

/-- the actual-request headers without Allow-Origin / with the origin in another spelling -/
def actNoOrigin : List (Str × Str) := oAct.extra.filter (·.1 != hAllowOrigin)
def actOtherSpelling : List (Str × Str) :=
  oAct.extra.map (fun h => if h.1 == hAllowOrigin then (h.1, "HTTP://good.example".toList) else h)
example : actNoOrigin.length = 3 ∧ Spec.valuesOf hAllowOrigin actOtherSpelling = ["HTTP://good.example".toList] := by decide +kernel

/-- `Spec.c09Holds` is not trivially true.

    A preflight that MUST be granted (allowed origin, method and headers allowed): accepts the grant
    (with the further actual-request headers as configured, in any order); falsified by no grant header
    at all — and by any one of the three missing; Allow-Origin twice (also Allow-Methods twice);
    Allow-Origin lower-cased; an Allow-Methods value that is not the allowed methods (one more, another one); an Allow-Headers
    value that is not the requested list; `*` for the origin; a further header that is not configured
    (credentials, Max-Age with another value); a later filter or route function that ran.

    A preflight that must be REFUSED accepts no CORS header at all: falsified by the full grant and by
    a lone Allow-Origin; likewise a preflight for a method that is not routable at the URL.

    The ACTUAL request accepts the configured headers in any order and is falsified by: no
    header; every header except Allow-Origin; the origin in another spelling; a header twice; a header
    missing; the chain not run; another status than the twin's. -/
example :
    Spec.c09Holds toLowerAscii exEnv exCc exTbl pre oPre = true ∧
    Spec.c09Holds toLowerAscii exEnv exCc exTbl pre { oPre with extra := oPre.extra.reverse } = true ∧
    Spec.c09Holds toLowerAscii exEnv exCc exTbl pre { oPre with extra := [] } = false ∧
    Spec.c09Holds toLowerAscii exEnv exCc exTbl pre { oPre with extra := oPre.extra.drop 1 } = false ∧
    Spec.c09Holds toLowerAscii exEnv exCc exTbl pre { oPre with extra := oPre.extra.take 2 } = false ∧
    Spec.c09Holds toLowerAscii exEnv exCc exTbl pre { oPre with extra :=
      [(hAllowMethods, "PUT".toList), (hAllowOrigin, pre.origin)] } = false ∧
    Spec.c09Holds toLowerAscii exEnv exCc exTbl pre { oPre with extra := oPre.extra ++ [(hAllowOrigin, pre.origin)] } = false ∧
    Spec.c09Holds toLowerAscii exEnv exCc exTbl pre { oPre with extra := (hAllowMethods, "PUT".toList) :: oPre.extra } = false ∧
    Spec.c09Holds toLowerAscii exEnv exCc exTbl pre { oPre with extra :=
      [(hAllowMethods, "PUT".toList), (hAllowHeaders, pre.acrh), (hAllowOrigin, "http://good.example".toList)] } = false ∧
    Spec.c09Holds toLowerAscii exEnv exCc exTbl pre { oPre with extra :=
      [(hAllowMethods, "PUT,GET".toList), (hAllowHeaders, pre.acrh), (hAllowOrigin, pre.origin)] } = false ∧
    Spec.c09Holds toLowerAscii exEnv exCc exTbl pre { oPre with extra :=
      [(hAllowMethods, "GET".toList), (hAllowHeaders, pre.acrh), (hAllowOrigin, pre.origin)] } = false ∧
    Spec.c09Holds toLowerAscii exEnv exCc exTbl pre { oPre with extra :=
      [(hAllowMethods, "PUT".toList), (hAllowHeaders, "*".toList), (hAllowOrigin, pre.origin)] } = false ∧
    Spec.c09Holds toLowerAscii exEnv exCc exTbl pre { oPre with extra :=
      [(hAllowMethods, "PUT".toList), (hAllowHeaders, pre.acrh), (hAllowOrigin, "*".toList)] } = false ∧
    Spec.c09Holds toLowerAscii exEnv exCc exTbl pre { oPre with extra := oPre.extra ++ [(hAllowCredentials, "true".toList)] } = false ∧
    Spec.c09Holds toLowerAscii exEnv exCc exTbl pre { oPre with later := true } = false ∧
    Spec.c09Holds toLowerAscii exEnv ccFullPre exTbl pre oPreFull = true ∧
    Spec.c09Holds toLowerAscii exEnv ccFullPre exTbl pre { oPreFull with extra := oPreFull.extra.reverse } = true ∧
    Spec.c09Holds toLowerAscii exEnv ccFullPre exTbl pre { oPreFull with extra := oPreFull.extra.take 5 ++ [(hMaxAge, "61".toList)] } = false ∧
    Spec.c09Holds toLowerAscii exEnv exCc exTbl preBad oRefused = true ∧
    Spec.c09Holds toLowerAscii exEnv exCc exTbl preBad oPre = false ∧
    Spec.c09Holds toLowerAscii exEnv exCc exTbl preBad { oPre with extra := [(hAllowOrigin, preBad.origin)] } = false ∧
    Spec.c09Holds toLowerAscii exEnv exCc exTbl (exPre "/b/7" "GET" "") oPre = false ∧
    Spec.c09Holds toLowerAscii exEnv ccFull exTbl actual oAct = true ∧
    Spec.c09Holds toLowerAscii exEnv ccFull exTbl actual { oAct with extra := oAct.extra.reverse } = true ∧
    Spec.c09Holds toLowerAscii exEnv ccFull exTbl actual { oAct with extra := [] } = false ∧
    Spec.c09Holds toLowerAscii exEnv ccFull exTbl actual { oAct with extra := actNoOrigin } = false ∧
    Spec.c09Holds toLowerAscii exEnv ccFull exTbl actual { oAct with extra := actOtherSpelling } = false ∧
    Spec.c09Holds toLowerAscii exEnv ccFull exTbl actual { oAct with extra := oAct.extra ++ [(hMaxAge, "60".toList)] } = false ∧
    Spec.c09Holds toLowerAscii exEnv ccFull exTbl actual { oAct with extra := oAct.extra.drop 1 } = false ∧
    Spec.c09Holds toLowerAscii exEnv ccFull exTbl actual { oAct with later := false } = false ∧
    Spec.c09Holds toLowerAscii exEnv ccFull exTbl actual { oAct with status := 500 } = false := by
  decide +kernel

/-- The four ways an answer can be wrong that matter most, each rejected by `Spec.c09Holds`: a preflight
    that must be granted (`pre`: allowed origin, PUT routable at `/b/7`, both requested headers allowed)
    that received none of the three grant headers; a grant with Allow-Origin twice; an actual request
    from an allowed origin without Allow-Origin (no header at all; every other configured header);
    Allow-Origin lower-cased, where the request said `http://GOOD.example`. -/
example :
    Spec.c09Holds toLowerAscii exEnv exCc exTbl pre { oPre with extra := [] } = false ∧
    Spec.c09Holds toLowerAscii exEnv exCc exTbl pre { oPre with extra := oPre.extra ++ [(hAllowOrigin, pre.origin)] } = false ∧
    Spec.c09Holds toLowerAscii exEnv ccFull exTbl actual { oAct with extra := [] } = false ∧
    Spec.c09Holds toLowerAscii exEnv ccFull exTbl actual { oAct with extra := actNoOrigin } = false ∧
    Spec.c09Holds toLowerAscii exEnv exCc exTbl pre { oPre with extra :=
      [(hAllowMethods, "PUT".toList), (hAllowHeaders, pre.acrh), (hAllowOrigin, toLowerAscii pre.origin)] } = false ∧
    toLowerAscii pre.origin ≠ pre.origin := by
  decide +kernel

end C09Example

/-! The frame condition (Lemmas/StateShape.lean): the code has exactly the state this property's model
    accounts for — no further package-level variable, struct type or field; constants as modelled. -/
-- also: Restful.StateShape.globals_shape
-- also: Restful.StateShape.consts_shape
-- also: Restful.StateShape.cors_shape
-- also: Restful.StateShape.container_shape

/-! The regenerated tie (tools/gotrans → Gen/Translated.lean, Lemmas/Tie*.lean): the origin test and
    the requested-method / requested-header tests this property's model contains ARE the ones
    translated from cors_filter.go on this run. -/
-- also: Restful.Tie.cors_is_origin_allowed
-- also: Restful.Tie.cors_is_valid_request_method
-- also: Restful.Tie.cors_is_valid_request_header

end Props
end Restful

-- the imperative `Filter` and `computeAllowedMethods`, tied to their translation by tools/goimp:
-- also: Restful.TieImp.compute_allowed_methods
-- also: Restful.TieImp.cors_filter
-- also: Restful.TieImp.cors_filter_default_container
