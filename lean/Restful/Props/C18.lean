/-
C18 — CurlyRouter and RouterJSR311 agree wherever both are specified.

Tables of the common fragment (`Spec.wfCommon`: literal root paths; route segments literal or plain
variable; both routers read every full template alike), clean and pairwise different roots, route
ids distinct per service; normal request paths (`Spec.normalPath`: one leading slash, no empty
segment except one trailing slash, no newline).

Full statement (false on the current code, see the witnesses):
  theorem C18_agree (hwf : wfCommon cfg) … : sameOutcome (route E (cfg with curly) req) (route E (cfg with jsr) req)
What the proof leaves open are three classes, each an open finding with a `decide`d witness:
  F15  empty segments / missing leading slash  (CurlyRouter tolerant, RouterJSR311 strict)
  F16  newline in the path                     (`.` in the compiled expression)
  F17  different ranking keys among same-method candidates (literal segments vs literal characters)
-/
import Restful.Lemmas.Agree
import Restful.Lemmas.DecideLits
import Restful.Lemmas.StateShape
import Restful.Lemmas.TieOrder
import Restful.Lemmas.TieImpMatch
import Restful.Lemmas.TieImpScore
import Restful.Lemmas.TieImpTemplate
import Restful.Lemmas.TieImpCurlySel
import Restful.Lemmas.TieImpJsrSel
import Restful.Lemmas.TieImpDetect
import Restful.Lemmas.TieImpSelect
namespace Restful
namespace Props
variable (E : ReEnv)

/-- candidate sets coincide: on a normal path a common-fragment template is admitted by one router
    iff by the other, with the same segmentation and the same expected parameters -/
theorem C18_admission_agrees (ts : List TTok) (hts : ∀ t ∈ ts, t.wf = true ∧ Spec.tokCommon t = true)
    (p : Str) (hp : Spec.normalPath p = true) :
    Spec.admits E .curly ts (tokenize p) = (Spec.admittedSegments E .jsr ts p).isSome ∧
    ∀ segs, Spec.admittedSegments E .jsr ts p = some segs →
      segs = tokenize p ∧ Spec.expectedParams ts segs = Spec.expectedParams ts (tokenize p) :=
  Restful.C18_admission_agrees E ts hts p hp

/-- both routers pick the same WebService (the longest literal root that is a prefix of the path),
    or neither finds one; neither panics (literal roots: CurlyRouter's scoring, which since fix
    19aa57d evaluates the expressions of `{name:regex}` root tokens, meets no such token) -/
theorem C18_service_agrees (cfg : Config) (hwf : Spec.wfCommon cfg = true)
    (hroots : Spec.rootsDistinct cfg = true) (hclean : Spec.rootsClean cfg = true)
    (p : Str) (hp : Spec.normalPath p = true) :
    match Curly.detectWebService E (tokenize p) cfg.services none, Jsr.detectDispatcher E cfg.services p with
    | some none, some none => True
    | some (some (s, _)), some (some (s', _)) => s = s'
    | _, _ => False :=
  Restful.C18_service_agrees E cfg hwf hroots hclean p hp

/-- the two routers give the same outcome — the same route function with the same parameter
    values, or the same error status with the same Allow set — never "one selects, the other
    errors"; `ranksAgree` is only used when both select -/
theorem C18_agree_partial (cfg : Config) (hwf : Spec.wfCommon cfg = true)
    (hroots : Spec.rootsDistinct cfg = true) (hclean : Spec.rootsClean cfg = true)
    (hids : Spec.routeIdsDistinct cfg = true)
    (req : Req) (hp : Spec.normalPath req.path = true) (hr : Spec.ranksAgree E cfg req = true) :
    Spec.sameOutcome (route E (Spec.withRouter cfg .curly) req) (route E (Spec.withRouter cfg .jsr) req) :=
  Restful.C18_agree_partial E cfg hwf hroots hclean hids req hp hr

/-- a structural condition for `ranksAgree`: at most one route of the detected service both admits
    the path and is eligible for the request -/
theorem C18_ranksAgree_of_unique_eligible (cfg : Config) (hwf : Spec.wfCommon cfg = true)
    (hroots : Spec.rootsDistinct cfg = true) (hclean : Spec.rootsClean cfg = true)
    (req : Req) (hp : Spec.normalPath req.path = true)
    (huniq : ∀ svc sc, Curly.detectWebService E (tokenize req.path) cfg.services none = some (some (svc, sc)) →
      ∀ r1 ∈ svc.built, ∀ r2 ∈ svc.built,
        Spec.pathAdmits E .curly r1 req.path = true → Spec.pathAdmits E .curly r2 req.path = true →
        Spec.eligible r1 req = true → Spec.eligible r2 req = true → r1 = r2) :
    Spec.ranksAgree E cfg req = true :=
  Restful.C18_ranksAgree_of_unique_eligible E cfg hwf hroots hclean req hp huniq

/-! ### non-vacuity (audit)

`C18_agree_partial` has its `decide`d instance in Lemmas/Agree.lean (`C18Witness.cfg`: `/users` with
GET `/{id}`, GET `/me`, POST `/{id}`; `/users/admin` with GET `/{thing}/log` — nested literal roots).
Here: the other three theorems on the same table with all their hypotheses, requests on which
several routes are candidates, and the fact that `Spec.sameOutcome` / the admission equation are not
trivially true. -/
namespace C18Audit
open C18Witness

/-- the full template of route 10 (`/users/{id}`), as both routers read it -/
def tsId : List TTok := [⟨.lit "users".toList, none⟩, ⟨.var "id".toList, none⟩]

theorem tsId_common : ∀ t ∈ tsId, t.wf = true ∧ Spec.tokCommon t = true := by decide_lits [tsId]
theorem normal7 : Spec.normalPath "/users/7/".toList = true := by decide_lits

example : readTemplate "/users/{id}".toList = some tsId ∧ Spec.readTemplateJ "/users".toList "/{id}".toList = some tsId ∧
    (∀ t ∈ tsId, t.wf = true ∧ Spec.tokCommon t = true) ∧ Spec.normalPath "/users/7/".toList = true :=
  ⟨by decide_lits [tsId], by decide_lits [tsId], tsId_common, normal7⟩
/-- `C18_admission_agrees`: admitted by both (with and without the trailing slash) … -/
example := C18_admission_agrees E0 tsId tsId_common "/users/7/".toList normal7
example : Spec.admits E0 .curly tsId (tokenize "/users/7/".toList) = true ∧
    Spec.admittedSegments E0 .jsr tsId "/users/7/".toList = some ["users".toList, "7".toList] := by decide_lits [tsId]
/-- … refused by both one segment further down; and the hypothesis `normalPath` matters: without the
    leading slash (`users/7`) or with a doubled one (`//users/7`) the two readings differ (F15), so the
    equation is not trivially true -/
example : Spec.admits E0 .curly tsId (tokenize "/users/7/x".toList) = false ∧
    (Spec.admittedSegments E0 .jsr tsId "/users/7/x".toList).isSome = false ∧
    Spec.normalPath "users/7".toList = false ∧ Spec.normalPath "//users/7".toList = false ∧
    Spec.admits E0 .curly tsId (tokenize "users/7".toList) ≠ (Spec.admittedSegments E0 .jsr tsId "users/7".toList).isSome ∧
    Spec.admits E0 .curly tsId (tokenize "//users/7".toList) ≠ (Spec.admittedSegments E0 .jsr tsId "//users/7".toList).isSome := by
  decide_lits [tsId]

/-- `C18_service_agrees` on a URL below BOTH roots: both routers pick the longer root `/users/admin` -/
example := C18_service_agrees E0 cfg cfg_wfCommon cfg_rootsDistinct cfg_rootsClean "/users/admin/x/log".toList (by decide_lits)
example :
    (Curly.detectWebService E0 (tokenize "/users/admin/x/log".toList) cfg.services none).map (·.map (·.1.id)) = some (some 2) ∧
    (Jsr.detectDispatcher E0 cfg.services "/users/admin/x/log".toList).map (·.map (·.1.id)) = some (some 2) ∧
    (Curly.detectWebService E0 (tokenize "/orgs".toList) cfg.services none).map (·.map (·.1.id)) = some none := by
  decide_lits [cfg, rGet]

/-- POST /users/7: routes 10 (GET) and 12 (POST) both admit the path, only 12 is eligible -/
def post7 : Req := { get "/users/7" with method := "POST".toList }

theorem post7_normal : Spec.normalPath post7.path = true := by decide_lits [post7, C18Witness.get]

/-- the first service of `C18Witness.cfg` -/
def usersSvc : Service :=
  { id := 1, root := "/users".toList,
    routes := [rGet 10 "/{id}", rGet 11 "/me", { rGet 12 "/{id}" with method := "POST".toList }] }

/-- the hypothesis `huniq` of `C18_ranksAgree_of_unique_eligible` on that request -/
theorem uniq7 : ∀ svc sc, Curly.detectWebService E0 (tokenize post7.path) cfg.services none = some (some (svc, sc)) →
    ∀ r1 ∈ svc.built, ∀ r2 ∈ svc.built,
      Spec.pathAdmits E0 .curly r1 post7.path = true → Spec.pathAdmits E0 .curly r2 post7.path = true →
      Spec.eligible r1 post7 = true → Spec.eligible r2 post7 = true → r1 = r2 := by
  intro svc sc h
  have hd : Curly.detectWebService E0 (tokenize post7.path) cfg.services none = some (some (usersSvc, 10)) := by decide_lits [post7, C18Witness.get, cfg, usersSvc, rGet]
  rw [hd] at h
  cases h
  decide_lits [post7, C18Witness.get, usersSvc, rGet]

example : Spec.ranksAgree E0 cfg post7 = true :=
  C18_ranksAgree_of_unique_eligible E0 cfg cfg_wfCommon cfg_rootsDistinct cfg_rootsClean post7 post7_normal uniq7
/-- two routes admit the path (so `huniq` is not vacuous), and both routers run route 12 -/
example :
    ((cfg.services.flatMap Service.built).filter (fun r => Spec.pathAdmits E0 .curly r post7.path)).map (·.id) = [10, 12] ∧
    route E0 (Spec.withRouter cfg .curly) post7 = .selected 1 12 [("id".toList, "7".toList)] ∧
    route E0 (Spec.withRouter cfg .jsr) post7 = .selected 1 12 [("id".toList, "7".toList)] := by
  decide_lits [post7, C18Witness.get, cfg, rGet]
example := (by
  -- at default transparency the elaborator normalises the result type, i.e. runs both routers
  with_reducible
    exact C18_agree_partial E0 cfg cfg_wfCommon cfg_rootsDistinct cfg_rootsClean cfg_routeIdsDistinct post7 post7_normal
      (C18_ranksAgree_of_unique_eligible E0 cfg cfg_wfCommon cfg_rootsDistinct cfg_rootsClean post7 post7_normal uniq7) :
  Spec.sameOutcome (route E0 (Spec.withRouter cfg .curly) post7) (route E0 (Spec.withRouter cfg .jsr) post7))

/-- `Spec.sameOutcome` (the conclusion of `C18_agree_partial`) is not trivially true: it separates
    another route, other parameter values, a route from an error, two statuses, two Allow sets -/
example :
    ¬ Spec.sameOutcome (.selected 1 12 [("id".toList, "7".toList)]) (.selected 1 10 [("id".toList, "7".toList)]) ∧
    ¬ Spec.sameOutcome (.selected 1 12 [("id".toList, "7".toList)]) (.selected 1 12 [("id".toList, "8".toList)]) ∧
    ¬ Spec.sameOutcome (.selected 1 12 []) (.error 404 none) ∧
    ¬ Spec.sameOutcome (.error 404 none) (.error 405 none) ∧
    ¬ Spec.sameOutcome (.error 405 (some ["GET".toList])) (.error 405 (some ["GET".toList, "POST".toList])) := by
  refine ⟨by simp [Spec.sameOutcome], by simp [Spec.sameOutcome], by simp [Spec.sameOutcome], by simp [Spec.sameOutcome], ?_⟩
  simp only [Spec.sameOutcome, true_and]
  intro h
  exact absurd ((h "POST".toList).mpr (by decide)) (by decide)

end C18Audit

/-! Audited with this property: the `decide`d witnesses (Lemmas/Agree.lean), the frame condition
    (Lemmas/StateShape.lean), and the ties of the sort comparisons (Lemmas/TieOrder.lean) and of the
    imperative selection functions (Lemmas/TieImp*.lean) to their translations from the Go sources. -/
-- also: Restful.C18Witness.C18_F15_witness
-- also: Restful.C18Witness.C18_F16_witness
-- also: Restful.C18Witness.C18_F17_witness
-- also: Restful.C18Witness.C18_emptyRootToken_witness
-- also: Restful.C18Witness.C18_duplicateIds_witness
-- also: Restful.StateShape.globals_shape
-- also: Restful.StateShape.consts_shape
-- also: Restful.StateShape.routing_shape
-- also: Restful.Tie.curly_less
-- also: Restful.Tie.jsr_route_less
-- also: Restful.Tie.jsr_dispatcher_less
-- also: Restful.Tie.sort_call_sites

end Props
end Restful

-- also: Restful.TieImp.match_tokens
-- also: Restful.TieImp.T2.webservice_score
-- also: Restful.TieImp.template_to_regex
-- also: Restful.TieImp.detect_web_service
-- also: Restful.TieImp.select_routes
-- also: Restful.TieImp.jsr_select_routes
-- also: Restful.TieImp.jsr_detect_dispatcher
-- also: Restful.TieImp.detect_route
-- also: Restful.TieImp.routeCurly_eq_sel
-- also: Restful.TieImp.curly_select_route
-- also: Restful.TieImp.jsr_select_route
