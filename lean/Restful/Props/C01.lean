/-
C01 — a route function runs only for requests its declaration admits.

`route E cfg req` is the model of `RouteSelector.SelectRoute` + `ExtractParameters` (tied to
/repo by the correspondence stream `routing`).  `Spec.c01Holds` is the property as a predicate on
an outcome: if a route function ran, a declaration with its identity has the request's method,
admits the path position-wise (literals equal, regex variables satisfied, literal suffix present,
custom verb equal, same number of segments unless tail wildcard), consumes the Content-Type,
can satisfy Accept, and all its If-conditions hold.  The same predicate is evaluated by the
driver on every outcome observed from the real code.
-/
import Restful.Lemmas.RouteAdmitted
import Restful.Lemmas.StateShape
import Restful.Lemmas.SelPath
import Restful.Lemmas.DecideLits
import Restful.Lemmas.TieRequest
import Restful.Lemmas.TieImpMatch
import Restful.Lemmas.TieImpCurlyTok
import Restful.Lemmas.TieImpPath
import Restful.Lemmas.TieImpMedia
import Restful.Lemmas.TieImpTemplate
import Restful.Lemmas.TieImpDetect
import Restful.Lemmas.TieImpCurlySel
import Restful.Lemmas.TieImpJsrSel
import Restful.Lemmas.TieImpSelect
import Restful.Lemmas.TieImpBuild
namespace Restful
namespace Props
variable (E : ReEnv)

/-! ### the witness of the predicate is the route that ran

`Spec.c01Holds` names the route of a `.selected s r ps` outcome by its two ids and is satisfied as
soon as SOME declaration with these ids admits the request.  On a table whose ids identify
(`Spec.idsDistinct`: WebService ids pairwise distinct, route ids pairwise distinct within each
WebService — the driver reports it inside `WF`, the generator numbers services and routes
consecutively) there is exactly one such declaration, it is the route OBJECT the model's router
returned (`RouteRan`: the element of the sorted candidate list of the detected service that
`detectRoute` picked), and the clauses hold of it.  Without the hypothesis the predicate can be
satisfied by a namesake (`C01_ids_witness`, `C01_service_ids_witness`). -/

/-- **C01 of the route that ran** (both routers, no hypothesis on the ids): on a table whose templates
    are in the grammar, the route object the router returned has the request's method, admits the
    path, consumes the Content-Type, can satisfy Accept, and its conditions hold -/
theorem C01_ran (cfg : Config) (hwf : cfg.wfTemplates = true) (req : Req) {svc : Service} {rt : Route}
    (hran : RouteRan E cfg req svc rt) : Spec.admitsRequest E cfg.router rt req = true := by
  obtain ⟨_, _, hc, hm, hct, hacc⟩ := hran.stages E
  obtain ⟨ts, segs, hts, hseg, _⟩ := hran.admitted E hwf
  simp only [Spec.admitsRequest, hts, hseg, Option.isSome_some, Bool.and_true, Bool.and_eq_true, beq_iff_eq]
  exact ⟨⟨⟨hm, matchesContentType_sound rt _ hct⟩, acceptLoop_sound _ _ hacc⟩, hc⟩

/-- both routers in one statement -/
theorem C01_holds (cfg : Config) (hwf : cfg.wfTemplates = true) (req : Req) :
    Spec.c01Holds E cfg req (route E cfg req) = true := by
  cases h : route E cfg req with
  | selected s r ps =>
    obtain ⟨svc, hsvc, rt, hrt, hran, hs, hr, _⟩ := route_selected_ran E h
    exact Spec.anyIds_intro (P := Spec.c01At E cfg req) hsvc hs hrt hr (C01_ran E cfg hwf req hran)
  | error c a => rfl
  | panic w => rfl

/-- CurlyRouter: for every table whose templates are in the grammar and every request, whatever is
    selected is admitted by its declaration. -/
theorem C01_curly (cfg : Config) (hk : cfg.router = .curly) (hwf : cfg.wfTemplates = true) (req : Req) :
    Spec.c01Holds E cfg req (route E cfg req) = true :=
  C01_holds E cfg hwf req

/-- RouterJSR311, on the template forms it documents (literals, `{v}`, `{v:regex}`, tail wildcard):
    whatever is selected is admitted by its declaration. -/
theorem C01_jsr (cfg : Config) (hk : cfg.router = .jsr) (hwf : cfg.wfTemplates = true) (req : Req) :
    Spec.c01Holds E cfg req (route E cfg req) = true :=
  C01_holds E cfg hwf req

/-- on a table whose ids identify, no OTHER declaration can satisfy the predicate in the place of
    the one whose function was observed to run (`Spec.anyIds_eq`: the predicate is the admission
    clause evaluated at THE declaration the ids stand for) -/
theorem C01_predicate_unique (cfg : Config) (hids : Spec.idsDistinct cfg = true) (req : Req)
    (svc : Service) (hsvc : svc ∈ cfg.services) (rt : Route) (hrt : rt ∈ svc.built) (ps : Params) :
    Spec.c01Holds E cfg req (.selected svc.id rt.id ps) = Spec.admitsRequest E cfg.router rt req :=
  Spec.anyIds_of_mem hids _ hsvc hrt

/-- **C01 with a unique witness** (both routers): when the model selects `(s, r)`, exactly one
    WebService has id `s`, exactly one of its built routes has id `r`, that route is the object the
    router returned, and IT has the request's method, admits the path, consumes the Content-Type,
    can satisfy Accept and its conditions hold -/
theorem C01_holds_unique (cfg : Config) (hwf : cfg.wfTemplates = true) (hids : Spec.idsDistinct cfg = true)
    (req : Req) (s r : Nat) (ps : Params) (h : route E cfg req = .selected s r ps) :
    ∃ svc ∈ cfg.services, ∃ rt ∈ svc.built, RouteRan E cfg req svc rt ∧ svc.id = s ∧ rt.id = r ∧
      (∀ svc' ∈ cfg.services, svc'.id = s → svc' = svc) ∧
      (∀ svc' ∈ cfg.services, ∀ rt' ∈ svc'.built, svc'.id = s → rt'.id = r → rt' = rt) ∧
      Spec.admitsRequest E cfg.router rt req = true := by
  obtain ⟨svc, hsvc, rt, hrt, hran, hs, hr, _, _, hu1, hu2⟩ := route_selected_unique E hids h
  exact ⟨svc, hsvc, rt, hrt, hran, hs, hr, hu1, hu2, C01_ran E cfg hwf req hran⟩

/-- The ids in the outcome are read off the route object the router returned, for both routers and
    every table: that object is a built route of a declared WebService, its `Path` is the declared
    one (root path joined with the route's own path) and its method is the request's -/
theorem C01_selected_is_declared (cfg : Config) (req : Req) (s r : Nat) (ps : Params)
    (h : route E cfg req = .selected s r ps) :
    ∃ svc ∈ cfg.services, ∃ rt ∈ svc.built, RouteRan E cfg req svc rt ∧ svc.id = s ∧ rt.id = r ∧
      rt.path = concatPath svc.rootPath rt.relPath ∧ req.method = rt.method := by
  obtain ⟨svc, hsvc, rt, hrt, hran, hs, hr, _⟩ := route_selected_ran E h
  exact ⟨svc, hsvc, rt, hrt, hran, hs, hr, svc.built_path hrt, (hran.stages E).2.2.2.1⟩

/-- **the selected path is the path of the route that runs** (both routers): on a table whose ids
    identify, the route `rt` the router returned is the only declaration with the ids of the
    outcome, its `Path` is the declared one, its method is the request's, and the path the serve
    model stores in the Request for filters and handler (`Request.SelectedRoutePath()`: looked up by
    these ids, `Serve.Chain.selPathOf`) is `rt.path` -/
theorem C01_selected_path (cfg : Config) (hids : Spec.idsDistinct cfg = true) (req : Req) (s r : Nat) (ps : Params)
    (h : route E cfg req = .selected s r ps) :
    ∃ svc ∈ cfg.services, ∃ rt ∈ svc.built, RouteRan E cfg req svc rt ∧ svc.id = s ∧ rt.id = r ∧
      Spec.routeOfIds cfg s r = some (svc, rt) ∧
      rt.path = concatPath svc.rootPath rt.relPath ∧ req.method = rt.method ∧
      Serve.Chain.selPathOf cfg s r = rt.path := by
  obtain ⟨svc, hsvc, rt, hrt, hran, hs, hr, _, hof, _⟩ := route_selected_unique E hids h
  refine ⟨svc, hsvc, rt, hrt, hran, hs, hr, hof, svc.built_path hrt, (hran.stages E).2.2.2.1, ?_⟩
  rw [← hs, ← hr]
  exact Serve.Chain.selPathOf_of_mem hids hsvc hrt

/-- **what every stage sees** (serve model, `Container.Dispatch` and `Container.ServeHTTP`): for a
    routed request the selected path recorded in every event of the log — container, service and
    route filters before and after, and the handler; the recover handler has no Request — is the
    path of the route the router returned, or none; none only inside a Request that a `replace`
    filter created (`restful.NewRequest`, which carries no selected route): with no such filter in the
    chain, every event carries the route's path; the outermost stage always does -/
theorem C01_selected_path_seen (cfg : Serve.Cfg) (hids : Spec.idsDistinct cfg.routing = true)
    (e : Serve.Entry) (he : e = .dispatch ∨ e = .serveDispatch) (w : Serve.World) (sr : Serve.SReq)
    (hcp : sr.condPanic = none) (s r : Nat) (ps : Params) (h : route E cfg.routing sr.req = .selected s r ps) :
    ∃ svc ∈ cfg.routing.services, ∃ rt ∈ svc.built, RouteRan E cfg.routing sr.req svc rt ∧ svc.id = s ∧ rt.id = r ∧
      (∀ ev ∈ (Serve.serve E cfg e w sr).log, ev.stage ≠ .recover → ev.selPath = rt.path ∨ ev.selPath = []) ∧
      ((∀ sf ∈ Serve.allFilters cfg s r, sf.2.kind ≠ .replace) →
        ∀ ev ∈ (Serve.serve E cfg e w sr).log, ev.stage ≠ .recover → ev.selPath = rt.path) ∧
      (∃ ev rest, (Serve.serve E cfg e w sr).log = ev :: rest ∧ ev.selPath = rt.path) := by
  obtain ⟨svc, hsvc, rt, hrt, hran, hs, hr, _, _, _, hsel⟩ := C01_selected_path E cfg.routing hids sr.req s r ps h
  have := Serve.Chain.serve_selPath E cfg e he w sr hcp h
  rw [hsel] at this
  exact ⟨svc, hsvc, rt, hrt, hran, hs, hr, this⟩

/-- non-vacuity: a table in the grammar on which a request is routed -/
example :
    let cfg : Config := { router := .curly, services := [{ id := 0, root := "/users".toList, routes :=
      [{ id := 7, method := "GET".toList, relPath := "/{id}/{file}.json:export".toList, consumes := [], produces := [],
         conds := [], noct := [] }] }] }
    cfg.wfTemplates = true ∧
      route ⟨fun _ _ => true, fun _ _ => true⟩ cfg { method := "GET".toList, path := "/users/42/report.json:export".toList } =
        .selected 0 7 [("id".toList, "42".toList), ("file".toList, "report".toList)] := by
  decide_lits

/-! ### non-vacuity (audit): every hypothesis at once on a table with several candidates, both routers;
    the predicate is not trivially true -/
namespace C01Example

/-- an oracle that evaluates `[0-9]+` faithfully (search / whole segment), anything else as "matches" -/
def E1 : ReEnv :=
  ⟨fun e s => if e = "[0-9]+".toList then s.any Char.isDigit else true,
   fun e s => if e = "[0-9]+".toList then !s.isEmpty && s.all Char.isDigit else true⟩

def rd (id : Nat) (m p : String) (cons prod : List String) (conds : List Nat) : RouteDecl :=
  { id := id, method := m.toList, relPath := p.toList, consumes := cons.map String.toList,
    produces := prod.map String.toList, conds := conds, noct := [] }

/-- `/users`: GET `/{id:[0-9]+}`, GET `/me`, GET `/{name}` (If-condition 0), POST `/{id:[0-9]+}` consuming
    JSON; `/orgs/{org}`: GET `/things` -/
def services : List Service :=
  [ { id := 0, root := "/users".toList, routes :=
        [ rd 7 "GET" "/{id:[0-9]+}" [] ["application/json", "text/plain"] [],
          rd 8 "GET" "/me" [] ["application/json"] [],
          rd 9 "GET" "/{name}" [] ["text/plain"] [0],
          rd 10 "POST" "/{id:[0-9]+}" ["application/json"] ["application/json"] [] ] },
    { id := 1, root := "/orgs/{org}".toList, routes := [ rd 11 "GET" "/things" [] [] [] ] } ]

def cfgC : Config := { router := .curly, services := services }
def cfgJ : Config := { router := .jsr, services := services }

/-- GET /users/42, Accept with two ranges, If-condition 0 true: routes 7 and 9 both admit the path -/
def get42 : Req :=
  { method := "GET".toList, path := "/users/42".toList, accept := "text/html, text/plain;q=0.5".toList,
    conds := [true] }
/-- POST /users/42 with a JSON body -/
def post42 : Req :=
  { method := "POST".toList, path := "/users/42".toList, contentType := "application/json".toList,
    accept := "application/json".toList, clenHeader := "2".toList, contentLength := 2 }

theorem cfgC_facts :
    cfgC.wfTemplates = true ∧ Spec.idsDistinct cfgC = true ∧
    route E1 cfgC get42 = .selected 0 9 [("name".toList, "42".toList)] ∧
    route E1 cfgC { get42 with conds := [false] } = .selected 0 7 [("id".toList, "42".toList)] ∧
    route E1 cfgC post42 = .selected 0 10 [("id".toList, "42".toList)] := by
  unfold cfgC services rd get42 post42 E1
  simp only [List.map]
  decide_lits

theorem cfgJ_facts :
    cfgJ.wfTemplates = true ∧ Spec.idsDistinct cfgJ = true ∧
    route E1 cfgJ get42 = .selected 0 9 [("name".toList, "42".toList)] ∧
    route E1 cfgJ post42 = .selected 0 10 [("id".toList, "42".toList)] := by
  unfold cfgJ services rd get42 post42 E1
  simp only [List.map]
  decide_lits

/-- the hypotheses of `C01_curly` hold, two routes of the dispatched service admit the URL (7, 9),
    and a route function runs (the plain-variable route — same counts, greater path text; with its
    condition false, the regex route) -/
example :
    cfgC.router = .curly ∧ cfgC.wfTemplates = true ∧
    ((cfgC.services.flatMap Service.built).filter (fun rt => Spec.admitsRequest E1 .curly rt get42)).map (·.id) = [7, 9] ∧
    route E1 cfgC get42 = .selected 0 9 [("name".toList, "42".toList)] ∧
    route E1 cfgC { get42 with conds := [false] } = .selected 0 7 [("id".toList, "42".toList)] ∧
    route E1 cfgC post42 = .selected 0 10 [("id".toList, "42".toList)] := by
  refine ⟨rfl, cfgC_facts.1, ?_, cfgC_facts.2.2⟩
  unfold cfgC services rd get42 E1
  simp only [List.map]
  decide_lits

/-- `C01_curly` on that instance -/
example : Spec.c01Holds E1 cfgC get42 (route E1 cfgC get42) = true :=
  C01_curly E1 cfgC rfl cfgC_facts.1 get42

/-- `C01_selected_is_declared`, `C01_holds_unique`, `C01_selected_path` on that instance, both routers
    (the hypotheses — ids identify, templates read, `route … = .selected …` — are met) -/
example : Spec.idsDistinct cfgC = true ∧ Spec.idsDistinct cfgJ = true := ⟨cfgC_facts.2.1, cfgJ_facts.2.1⟩
example := C01_selected_is_declared E1 cfgC get42 0 9 [("name".toList, "42".toList)] cfgC_facts.2.2.1
example := C01_selected_is_declared E1 cfgJ get42 0 9 [("name".toList, "42".toList)] cfgJ_facts.2.2.1
example := C01_holds_unique E1 cfgC cfgC_facts.1 cfgC_facts.2.1 get42 0 9 [("name".toList, "42".toList)] cfgC_facts.2.2.1
example := C01_holds_unique E1 cfgJ cfgJ_facts.1 cfgJ_facts.2.1 post42 0 10 [("id".toList, "42".toList)] cfgJ_facts.2.2.2
example := C01_selected_path E1 cfgC cfgC_facts.2.1 get42 0 9 [("name".toList, "42".toList)] cfgC_facts.2.2.1
example := C01_selected_path E1 cfgJ cfgJ_facts.2.1 get42 0 9 [("name".toList, "42".toList)] cfgJ_facts.2.2.1

/-- the declaration the ids (0, 9) stand for, and the path stored for filters and handler -/
example :
    (Spec.routeOfIds cfgC 0 9).map (fun p => (p.1.id, p.2.id, p.2.path)) = some (0, 9, "/users/{name}".toList) ∧
    Serve.Chain.selPathOf cfgC 0 9 = "/users/{name}".toList ∧ Spec.routeOfIds cfgC 0 99 = none ∧
    Spec.routeOfIds cfgC 1 9 = none := by
  decide_lits [cfgC, services, rd]

/-- the predicate on the observation "route 8 ran" is the admission clause of route 8 (`/me`), which
    is false for `/users/42` -/
example : Spec.c01Holds E1 cfgC get42 (.selected 0 8 []) = false := by
  decide_lits [cfgC, services, rd, get42, E1]

/-- the serve model on that table: a container filter that passes on, a service filter that is an
    adapted middleware, a route filter (route 9: passes on; route 7: replaces the Request), the handler -/
def scfg : Serve.Cfg :=
  { routing := cfgC
    cfilters := [{ id := 1, pre := [], kind := .pass, post := [] }]
    svcs := [{ id := 0, filters := [{ id := 2, pre := [], kind := .middle, post := [] }] }]
    routes := [{ id := 9, filters := [{ id := 3, pre := [], kind := .pass, post := [] }], script := [.write "x".toList] },
               { id := 7, filters := [{ id := 4, pre := [], kind := .replace, post := [] }], script := [.write "y".toList] }] }

def sget42 : Serve.SReq := { req := get42 }
def sget42' : Serve.SReq := { req := { get42 with conds := [false] } }

/-- `C01_selected_path_seen` on that instance: through route 9 (no `replace` filter) every stage sees
    `/users/{name}`; through route 7 the stages outside the `replace` filter see `/users/{id:[0-9]+}`
    and the handler, inside the new Request, sees none -/
example := C01_selected_path_seen E1 scfg cfgC_facts.2.1 .dispatch (.inl rfl) {} sget42 rfl 0 9
  [("name".toList, "42".toList)] cfgC_facts.2.2.1
example := C01_selected_path_seen E1 scfg cfgC_facts.2.1 .serveDispatch (.inr rfl) {} sget42' rfl 0 7
  [("id".toList, "42".toList)] cfgC_facts.2.2.2.1
example :
    (Serve.serve E1 scfg .dispatch {} sget42).log.map (fun ev => (ev.stage, ev.post, ev.selPath)) =
      [ (.cfilter 1, false, "/users/{name}".toList), (.sfilter 2, false, "/users/{name}".toList),
        (.rfilter 3, false, "/users/{name}".toList), (.handler 9, false, "/users/{name}".toList),
        (.rfilter 3, true, "/users/{name}".toList), (.sfilter 2, true, "/users/{name}".toList),
        (.cfilter 1, true, "/users/{name}".toList) ] ∧
    (Serve.serve E1 scfg .dispatch {} sget42').log.map (fun ev => (ev.stage, ev.post, ev.selPath)) =
      [ (.cfilter 1, false, "/users/{id:[0-9]+}".toList), (.sfilter 2, false, "/users/{id:[0-9]+}".toList),
        (.rfilter 4, false, "/users/{id:[0-9]+}".toList), (.handler 7, false, []),
        (.rfilter 4, true, "/users/{id:[0-9]+}".toList), (.sfilter 2, true, "/users/{id:[0-9]+}".toList),
        (.cfilter 1, true, "/users/{id:[0-9]+}".toList) ] := by
  unfold scfg sget42 sget42' cfgC services rd get42 E1
  simp only [List.map]
  decide_lits

/-- the hypotheses of `C01_jsr` hold on the same services, and a route function runs -/
example :
    cfgJ.router = .jsr ∧ cfgJ.wfTemplates = true ∧
    ((cfgJ.services.flatMap Service.built).filter (fun rt => Spec.admitsRequest E1 .jsr rt get42)).map (·.id) = [7, 9] ∧
    route E1 cfgJ get42 = .selected 0 9 [("name".toList, "42".toList)] ∧
    route E1 cfgJ post42 = .selected 0 10 [("id".toList, "42".toList)] := by
  refine ⟨rfl, cfgJ_facts.1, ?_, cfgJ_facts.2.2⟩
  unfold cfgJ services rd get42 E1
  simp only [List.map]
  decide_lits

/-- `C01_jsr` on that instance -/
example : Spec.c01Holds E1 cfgJ get42 (route E1 cfgJ get42) = true :=
  C01_jsr E1 cfgJ rfl cfgJ_facts.1 get42

/-- the predicate is not trivially true.  It is falsified by an observation that runs: the POST route
    for a GET (method); the literal route `/me` for `/users/42` (literal segment); the regex route
    for `/users/bob` (regex variable); the conditional route when its If-condition is false; the POST route
    for an XML body (Content-Type not consumed); route 8 for an Accept it cannot satisfy; a route of
    the other service (path); a route that does not exist.  Under either router. -/
example :
    Spec.c01Holds E1 cfgC get42 (.selected 0 10 [("id".toList, "42".toList)]) = false ∧
    Spec.c01Holds E1 cfgC get42 (.selected 0 8 []) = false ∧
    Spec.c01Holds E1 cfgC { get42 with path := "/users/bob".toList } (.selected 0 7 [("id".toList, "bob".toList)]) = false ∧
    Spec.c01Holds E1 cfgC { get42 with conds := [false] } (.selected 0 9 [("name".toList, "42".toList)]) = false ∧
    Spec.c01Holds E1 cfgC { post42 with contentType := "application/xml".toList }
      (.selected 0 10 [("id".toList, "42".toList)]) = false ∧
    Spec.c01Holds E1 cfgC { get42 with path := "/users/me".toList, accept := "text/html".toList } (.selected 0 8 []) = false ∧
    Spec.c01Holds E1 cfgC get42 (.selected 1 11 [("org".toList, "42".toList)]) = false ∧
    Spec.c01Holds E1 cfgC get42 (.selected 0 99 []) = false ∧
    Spec.c01Holds E1 cfgJ get42 (.selected 0 10 [("id".toList, "42".toList)]) = false ∧
    Spec.c01Holds E1 cfgJ get42 (.selected 0 8 []) = false ∧
    Spec.c01Holds E1 cfgJ { get42 with path := "/users/bob".toList } (.selected 0 7 [("id".toList, "bob".toList)]) = false := by
  decide +kernel

/-! #### why `idsDistinct` is needed -/

/-- two routes of one WebService share id 7: `/me` and `/{id}` -/
def cfgDup : Config := { router := .curly, services :=
  [ { id := 0, root := "/users".toList, routes := [ rd 7 "GET" "/me" [] [] [], rd 7 "GET" "/{id}" [] [] [] ] } ] }

/-- two WebServices share id 0 (route ids are distinct within each: `routeIdsDistinct` holds) -/
def cfgDupSvc : Config := { router := .curly, services :=
  [ { id := 0, root := "/a".toList, routes := [ rd 1 "GET" "/x" [] [] [] ] },
    { id := 0, root := "/b".toList, routes := [ rd 1 "GET" "/y" [] [] [] ] } ] }

end C01Example

/-
"Every event of the log carries the selected route's path" is false of the model — and of the code,
whose stages' view of the selected path the C06/C01 streams compare with the model's: a filter that
hands on a NEW Request (`restful.NewRequest`: kind `replace`) hands on one without a selected route,
and the recover handler has no Request at all.  `C01_selected_path_seen` is the statement with
exactly these two exceptions; the witness for the first: -/

/-- GET /users/42 (If-condition false) runs route 7 behind a route filter that replaces the Request:
    the router selected `/users/{id:[0-9]+}`, the filters outside see that path, the handler sees none -/
theorem C01_selected_path_replace_witness :
    Spec.idsDistinct C01Example.scfg.routing = true ∧
    route C01Example.E1 C01Example.scfg.routing C01Example.sget42'.req = .selected 0 7 [("id".toList, "42".toList)] ∧
    Serve.Chain.selPathOf C01Example.scfg.routing 0 7 = "/users/{id:[0-9]+}".toList ∧
    ((Serve.serve C01Example.E1 C01Example.scfg .dispatch {} C01Example.sget42').log.filter
      (fun ev => ev.stage == .handler 7)).map (·.selPath) = [[]] ∧
    ((Serve.serve C01Example.E1 C01Example.scfg .dispatch {} C01Example.sget42').log.filter
      (fun ev => ev.stage == .rfilter 4)).map (·.selPath) = ["/users/{id:[0-9]+}".toList, "/users/{id:[0-9]+}".toList] :=
  ⟨C01Example.cfgC_facts.2.1, C01Example.cfgC_facts.2.2.2.1, by decide +kernel⟩

/-- without `idsDistinct` the predicate can be satisfied by a namesake: the table is well formed,
    the observation says "function 7 of service 0 ran" for `GET /users/42`, the first declaration
    with these ids (`/users/me`) does not admit the request, and the predicate holds all the same
    because the second declaration with id 7 does -/
theorem C01_ids_witness :
    C01Example.cfgDup.wfTemplates = true ∧ Spec.idsDistinct C01Example.cfgDup = false ∧
    Spec.c01Holds C01Example.E1 C01Example.cfgDup { method := "GET".toList, path := "/users/42".toList } (.selected 0 7 []) = true ∧
    (Spec.routeOfIds C01Example.cfgDup 0 7).map (fun p => (p.2.path,
      Spec.admitsRequest C01Example.E1 .curly p.2 { method := "GET".toList, path := "/users/42".toList })) =
        some ("/users/me".toList, false) := by
  decide_lits [C01Example.cfgDup, C01Example.rd, C01Example.E1]

/-- `Spec.routeIdsDistinct` (route ids distinct within each WebService, the hypothesis of C18) is too
    weak for this purpose: two WebServices may share an id -/
theorem C01_service_ids_witness :
    C01Example.cfgDupSvc.wfTemplates = true ∧ Spec.routeIdsDistinct C01Example.cfgDupSvc = true ∧
    Spec.idsDistinct C01Example.cfgDupSvc = false ∧
    Spec.c01Holds C01Example.E1 C01Example.cfgDupSvc { method := "GET".toList, path := "/b/y".toList } (.selected 0 1 []) = true ∧
    (Spec.routeOfIds C01Example.cfgDupSvc 0 1).map (fun p => (p.2.path,
      Spec.admitsRequest C01Example.E1 .curly p.2 { method := "GET".toList, path := "/b/y".toList })) =
        some ("/a/x".toList, false) := by
  decide_lits [C01Example.cfgDupSvc, C01Example.rd, C01Example.E1]

-- the route that ran, its ids, and the path the stages see (Lemmas/RouteUnique.lean, Lemmas/SelPath.lean):
-- also: Restful.route_selected_ran
-- also: Restful.route_of_ran
-- also: Restful.RouteRan_unique
-- also: Restful.route_selected_unique
-- also: Restful.Spec.anyIds_eq
-- also: Restful.Spec.routeOfIds_of_mem
-- also: Restful.Serve.Chain.selPathOf_of_mem
-- also: Restful.Serve.Chain.chainLog_selPath
-- also: Restful.Serve.Chain.chainLog_selPath_eq
-- also: Restful.Serve.Chain.serve_selPath

/-! The frame condition (Lemmas/StateShape.lean): the code has exactly the state this property's model
    accounts for — no further package-level variable, struct type or field; constants as modelled. -/
-- also: Restful.StateShape.globals_shape
-- also: Restful.StateShape.consts_shape
-- also: Restful.StateShape.routing_shape

/-! The regenerated tie (tools/gotrans → Gen/Translated.lean, Lemmas/Tie*.lean). -/
-- also: Restful.Tie.trim_space_cutset
-- also: Restful.Tie.selected_route_path

end Props
end Restful

-- the ties of the imperative functions this model rests on (Lemmas/TieImp*.lean):
-- also: Restful.TieImp.match_tokens
-- also: Restful.TieImp.T2.is_tail_wildcard
-- also: Restful.TieImp.T2.regular_matches
-- also: Restful.TieImp.T2.tokenize_path
-- also: Restful.TieImp.T2.concat_path
-- also: Restful.TieImp.T5.matches_accept
-- also: Restful.TieImp.T5.matches_content_type
-- also: Restful.TieImp.template_to_regex
-- also: Restful.TieImp.detect_route
-- also: Restful.TieImp.select_routes
-- also: Restful.TieImp.jsr_select_routes
-- also: Restful.TieImp.jsr_detect_dispatcher
-- also: Restful.TieImp.routeCurly_eq_sel
-- also: Restful.TieImp.curly_select_route
-- also: Restful.TieImp.jsr_select_route
-- also: Restful.TieImp.build_route
-- also: Restful.TieImp.copy_defaults
-- also: Restful.TieImp.build_route_no_function
