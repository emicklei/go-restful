/-
C12 — services and routes can change while requests are being served.

This is a schedule property.  What Lean carries is the synchronisation LOGIC, stated about the
facts `tools/gofacts` regenerates from /repo on every run (`Restful.Gen.items`): every access to the
registration state (`Container.webServices`, `.ServeMux`, `.isRegisteredOnRoot`, `WebService.routes`)
that is reachable from a serving entry point or from Add/Remove/Route/RemoveRoute happens with its
guarding lock held in the needed mode — lexically or by every caller —, no lock is acquired while
it may already be held, and the acquired-while-holding relation is acyclic.  The general theorem
`lockset_sound` (Lemmas/Lockset.lean) says what such a discipline buys on the interleaving
semantics: two conflicting accesses are never simultaneously enabled, and some thread can always
move.  What Lean cannot exhibit — a data race in the sense of the Go memory model in compiled code —
is searched for by the `-race` stress of the thorough tier.
-/
import Restful.Model.Conc
import Restful.Gen.Facts
import Restful.Lemmas.Lockset
import Restful.Lemmas.ConcSound
import Restful.Lemmas.StateShape
namespace Restful
namespace Props
open Gen Conc

def c12 : Analysis := analysis fnNames items (servingEntries ++ mutatorEntries)

/-- tracked-field accesses / writes / lock acquisitions in code reachable from the entry points -/
def c12Reachable (a : Analysis) (p : Op → Bool) : List Item :=
  (a.ann.filter (fun x => (ctxGet a.must x.1.fn).isSome && p x.1.op)).map (·.1)

/-- the extractor still finds every entry point of the quantifier -/
theorem C12_entries_present : entriesPresent fnNames (servingEntries ++ mutatorEntries) = true := by decide +kernel

/-- Everything that is read off `c12`, in one kernel evaluation (the kernel shares the annotated
    items and the two data-flows inside one declaration only); the obligations below are its
    conjuncts.  The last four are the lower bounds of the non-vacuity audit further down. -/
theorem c12_evaluated :
    c12.fixpoint = true ∧ c12.report = { orderEdges := [(0, 1)] } ∧
    c12.bracketed fnNames items = true ∧ c12.lexicallyGuarded = true ∧
    (c12Reachable c12 (fun o => match o with | .read _ => true | .write _ => true | _ => false)).length ≥ 20 ∧
    (c12Reachable c12 (fun o => match o with | .write _ => true | _ => false)).length ≥ 5 ∧
    (c12Reachable c12 (fun o => match o with | .acq _ .W => true | _ => false)).length ≥ 3 ∧
    (c12Reachable c12 (fun o => match o with | .acq _ .R => true | _ => false)).length ≥ 3 := by
  decide +kernel

/-- the data-flow over the call graph reached its fixpoint -/
theorem C12_fixpoint : c12.fixpoint = true := c12_evaluated.1

/-- lock discipline, lock order, and nothing unrecognised: no reachable access to the registration
    state without its guard; no lock acquired while it may be held; `webServicesLock` before
    `routesLock` is the only nesting -/
theorem C12_discipline : c12.report = { orderEdges := [(0, 1)] } := c12_evaluated.2.1

/-- every acquisition is released by an immediately following `defer`, or nothing is called while
    the lock is held: a panic (a user If-condition inside route selection, say) cannot leave a lock
    held and block the next Add/Remove for ever -/
theorem C12_panic_safe : panicSafe fnNames.length items = true := by decide +kernel

theorem C12_lock_order_acyclic : acyclic c12.report.orderEdges = true := by rw [C12_discipline]; rfl

/-! The general theorems about the interleaving semantics (Lemmas/Lockset.lean) are audited with this property: -/
-- also: Restful.Lockset.lockset_sound
-- also: Restful.Lockset.no_deadlock

/-! ### from the verdicts of the analysis to the interleaving semantics

Lemmas/ConcSem.lean compiles the facts into the programs of the interleaving semantics:
`Conc.Traces names items f tr` — `tr` is a complete sequence of acquire / release / access events of
function `f`, calls unfolded by name resolution to any finite depth (the assumptions of that
semantics are listed at the head of that file).  Lemmas/ConcSound.lean proves the analysis sound
w.r.t. it, for ARBITRARY facts: a report without unguarded access and re-entrant acquisition + both
data-flows at their fixpoint + bracketing ⇒ every trace of every entry point is
`Lockset.Disciplined` (`Conc.analysis_sound`), and `Lockset.Ordered` for every rank that the
reported acquired-while-holding edges respect (`Conc.analysis_sound_order`).  The proof covers the
must-hold data-flow over the call graph (contexts guaranteed by every caller), not only lexically
guarded accesses.  It needs one fact `check` does not look at — how locks are given back:
`Conc.bracketed` (a syntactic check; `Conc.check_alone_not_sound` shows that it cannot be dropped:
`Lock()` paired with `defer RUnlock()` passes `check` and `panicSafe`). -/
-- also: Restful.Conc.analysis_sound
-- also: Restful.Conc.analysis_sound_order
-- also: Restful.Conc.analysis_no_unguarded_access
-- also: Restful.Conc.analysis_no_deadlock
-- also: Restful.Conc.check_alone_not_sound
-- also: Restful.Conc.genTrace_traces
-- also: Restful.Conc.entryProg_exists

theorem C12_shape : (c12.bracketed fnNames items && c12.lexicallyGuarded) = true :=
  (Bool.and_eq_true _ _).mpr ⟨c12_evaluated.2.2.1, c12_evaluated.2.2.2.1⟩

/-- in every function reachable from the entry points: what the lexical walk drops at the end of a
    func literal / of the function is what the registered `defer`s release there, explicit
    releases give back a lexically held lock in the mode it was taken in, and nothing sits in a func
    literal that runs later -/
theorem C12_bracketed : c12.bracketed fnNames items = true := c12_evaluated.2.2.1

/-- (information) in the current sources every reachable access has its guard among the LEXICALLY
    held locks; the contexts guaranteed by callers matter for the lock order only
    (`routesLock` is taken inside `webServicesLock` three calls below `dispatch`) -/
theorem C12_lexically_guarded : c12.lexicallyGuarded = true := c12_evaluated.2.2.2.1

theorem c12_unguarded : c12.report.unguarded = [] := by rw [C12_discipline]
theorem c12_reentrant : c12.report.reentrant = [] := by rw [C12_discipline]
theorem c12_rank : ∀ e ∈ c12.report.orderEdges, id e.1 < id e.2 := by
  rw [C12_discipline]; decide

/-- every complete trace of every serving / mutating entry point of the real facts keeps the lock
    discipline (guards as in `guardOf`: `routes` by `routesLock`, the container's fields by
    `webServicesLock`) and takes `webServicesLock` before `routesLock` -/
theorem C12_system_disciplined (p : Lockset.Prog)
    (hp : EntryProg fnNames items (servingEntries ++ mutatorEntries) p) :
    Lockset.Disciplined guardOf [] p = true ∧ Lockset.Ordered id [] p = true :=
  ⟨analysis_sound fnNames items _ c12_unguarded c12_reentrant C12_fixpoint C12_bracketed p hp,
   analysis_sound_order fnNames items _ id c12_unguarded c12_reentrant c12_rank C12_fixpoint C12_bracketed p hp⟩

/-- end to end: any number of threads, each serving a request or running Add / Remove / Route /
    RemoveRoute (any complete trace of the facts), interleaved in any way: in no reachable state do
    two threads have conflicting accesses to the registration state (same field, at least one
    write) as their next events -/
theorem C12_no_unguarded_access (progs : List Lockset.Prog)
    (hsys : EntrySystem fnNames items (servingEntries ++ mutatorEntries) progs)
    (σ : Lockset.State) (hreach : Lockset.Reachable (Lockset.init progs) σ) (k k' : Lockset.Kind) :
    ¬ ∃ t t' x, t ≠ t' ∧ Lockset.nextIs σ t (Lockset.access x k) ∧ Lockset.nextIs σ t' (Lockset.access x k') ∧
        (k = Lockset.Kind.write ∨ k' = Lockset.Kind.write) :=
  analysis_no_unguarded_access fnNames items _ c12_unguarded c12_reentrant C12_fixpoint C12_bracketed
    progs hsys σ hreach k k'

/-- end to end: in every reachable state of that system in which some thread has not finished, some
    thread can move -/
theorem C12_no_deadlock (progs : List Lockset.Prog)
    (hsys : EntrySystem fnNames items (servingEntries ++ mutatorEntries) progs)
    (σ : Lockset.State) (hreach : Lockset.Reachable (Lockset.init progs) σ)
    (hunfinished : ∃ (t : Nat) (a : Lockset.Action) (rest : Lockset.Prog), σ.threads[t]? = some (a :: rest)) :
    ∃ t σ', Lockset.step σ t = some σ' :=
  analysis_no_deadlock fnNames items _ id c12_unguarded c12_reentrant c12_rank C12_fixpoint C12_bracketed
    progs hsys σ hreach hunfinished

/-! ### non-vacuity (audit)

The obligations above are closed facts about the regenerated sources; they would also be true
of an empty fact list.  They are not: the analysis reaches tracked accesses, writes and lock
acquisitions from the entry points (stated as lower bounds, so that regenerating the facts from a
changed /repo does not break them for a wrong reason), and it REJECTS seeded defects of the same
facts — every write acquisition of `webServicesLock` removed, or weakened to a read acquisition;
a lock acquired in the wrong order; a call made while a lock is held without `defer`. -/

example :
    (c12Reachable c12 (fun o => match o with | .read _ => true | .write _ => true | _ => false)).length ≥ 20 ∧
    (c12Reachable c12 (fun o => match o with | .write _ => true | _ => false)).length ≥ 5 ∧
    (c12Reachable c12 (fun o => match o with | .acq _ .W => true | _ => false)).length ≥ 3 ∧
    (c12Reachable c12 (fun o => match o with | .acq _ .R => true | _ => false)).length ≥ 3 :=
  c12_evaluated.2.2.2.2

/-- seeded defect 1: without the write acquisitions of `webServicesLock` the report is not clean -/
def itemsNoWLock : List Item :=
  items.filter (fun it => match it.op with | .acq 0 .W => false | .deferRel 0 .W => false | .rel 0 .W => false | _ => true)
/-- seeded defect 2: the write acquisitions weakened to read acquisitions -/
def itemsWeakLock : List Item :=
  items.map (fun it => match it.op with
    | .acq 0 .W => { it with op := .acq 0 .R }
    | .deferRel 0 .W => { it with op := .deferRel 0 .R }
    | .rel 0 .W => { it with op := .rel 0 .R }
    | _ => it)

example : (analysis fnNames itemsNoWLock (servingEntries ++ mutatorEntries)).report.unguarded ≠ [] :=
  check_reports _ (by decide +kernel)
example : (analysis fnNames itemsWeakLock (servingEntries ++ mutatorEntries)).report.unguarded ≠ [] :=
  check_reports _ (by decide +kernel)

/-- the other checks discriminate too (toy fact lists): a cyclic lock order; re-acquiring a held
    lock and a wrong nesting; a write under a read lock; a write guarded by its only caller (clean:
    the must-hold data-flow — in the current sources every reachable access is guarded lexically, so
    this is the only place that exercises it) and the same function as an entry point (unguarded); a
    call under a lock that is not released by `defer`; a missing entry point -/
example :
    acyclic [(0, 1), (1, 0)] = false ∧ acyclic [(0, 0)] = false ∧
    (analysis ["f"] [⟨0, .acq 1 .R, 0, false, false⟩, ⟨0, .acq 0 .R, 0, false, false⟩, ⟨0, .acq 0 .R, 0, false, false⟩] ["f"]).report =
      { reentrant := [⟨0, .acq 0 .R, 0, false, false⟩], orderEdges := [(0, 0), (1, 0)] } ∧
    (analysis ["f"] [⟨0, .acq 0 .R, 0, false, false⟩, ⟨0, .write 0, 0, false, false⟩] ["f"]).report.unguarded =
      [⟨0, .write 0, 0, false, false⟩] ∧
    (analysis ["f", "g"] [⟨0, .acq 0 .W, 0, false, false⟩, ⟨0, .call [1], 0, false, false⟩, ⟨1, .write 0, 0, false, false⟩] ["f"]).report =
      {} ∧
    (analysis ["f", "g"] [⟨0, .acq 0 .W, 0, false, false⟩, ⟨0, .call [1], 0, false, false⟩, ⟨1, .write 0, 0, false, false⟩] ["f", "g"]).report.unguarded =
      [⟨1, .write 0, 0, false, false⟩] ∧
    panicSafe 1 [⟨0, .acq 0 .W, 0, false, false⟩, ⟨0, .call [0], 0, false, false⟩, ⟨0, .rel 0 .W, 0, false, false⟩] = false ∧
    panicSafe 1 [⟨0, .acq 0 .W, 0, false, false⟩, ⟨0, .deferRel 0 .W, 0, false, false⟩, ⟨0, .call [0], 0, false, false⟩] = true ∧
    entriesPresent fnNames ["Container.NoSuchFunction"] = false := by
  decide +kernel

/-! `Lockset.lockset_sound` / `Lockset.no_deadlock` carry `decide`d instances of their program
hypotheses in Lemmas/Lockset.lean (a reader nesting two locks, a writer).  Added here: ALL their
hypotheses at once at a concrete reachable state in which a thread is blocked, and the fact that
their conclusions fail for an undisciplined / unordered system. -/
namespace C12Example
open Lockset

/-- the reader has taken lock 0 and read; the writer wants lock 0 and is blocked -/
def mid : State := (runSched (init [exReader, exWriter]) [0, 0]).get (by decide)

theorem mid_reachable : Reachable (init [exReader, exWriter]) mid :=
  runSched_reachable (Option.some_get _).symm

example : mid.threads[1]? = some exWriter ∧ (step mid 1).isNone = true ∧ (step mid 0).isSome = true := by decide +kernel

/-- `no_deadlock` with every hypothesis discharged: someone can move (the reader) -/
example : ∃ t σ', step mid t = some σ' :=
  no_deadlock exGuard id _ ex_disciplined ex_ordered mid mid_reachable
    ⟨1, .acq 0 .W, [.read 0, .write 0, .rel 0 .W], by decide +kernel⟩

/-- `lockset_sound` at that state -/
example := lockset_sound exGuard _ ex_disciplined mid mid_reachable .read .write

/-- two readers do reach a state in which both are about to access variable 0 (so the premise
    pattern of `lockset_sound` is inhabited for read/read) … -/
def both : State := (runSched (init [exReader, exReader]) [0, 1]).get (by decide)
example : nextIs both 0 (access 0 .read) ∧ nextIs both 1 (access 0 .read) :=
  ⟨⟨[.acq 1 .R, .read 3, .rel 1 .R, .rel 0 .R], by decide +kernel⟩, ⟨[.acq 1 .R, .read 3, .rel 1 .R, .rel 0 .R], by decide +kernel⟩⟩

/-- … and the conclusion of `lockset_sound` is false for an undisciplined system: two threads that
    write variable 0 without a lock are both enabled in the initial state -/
example : Disciplined exGuard [] [.write 0] = false ∧
    ∃ t t' x, t ≠ t' ∧ nextIs (init [[.write 0], [.write 0]]) t (access x .write) ∧
      nextIs (init [[.write 0], [.write 0]]) t' (access x .write) ∧ (Kind.write = Kind.write ∨ Kind.write = Kind.write) :=
  ⟨by decide +kernel, 0, 1, 0, by decide, ⟨_, rfl⟩, ⟨_, rfl⟩, .inl rfl⟩

/-- the conclusion of `no_deadlock` is false for a system that takes two locks in opposite orders
    (it is not `Ordered`): after one step each, nobody can move although both are unfinished -/
def abba : List Prog := [[.acq 0 .W, .acq 1 .W, .rel 1 .W, .rel 0 .W], [.acq 1 .W, .acq 0 .W, .rel 0 .W, .rel 1 .W]]
def stuck : State := (runSched (init abba) [0, 1]).get (by decide)
example : (∀ p ∈ abba, Disciplined exGuard [] p = true) ∧ ¬ (∀ p ∈ abba, Ordered id [] p = true) ∧
    (step stuck 0).isNone = true ∧ (step stuck 1).isNone = true ∧ stuck.threads.all (fun p => !p.isEmpty) = true := by
  decide +kernel

end C12Example

/-! The derived system of the REAL facts is not empty, and its threads do sit in critical sections
of different locks at the same time: three threads running generated complete traces of
`Container.Add`, `WebService.Route` and `Container.dispatch` (the latter unfolds its calls five deep
and nests `routesLock` inside `webServicesLock`). -/
namespace C12System
open Lockset

def trAdd : Prog := genTrace fnNames.length items 1 (fnId fnNames "Container.Add")
def trRoute : Prog := genTrace fnNames.length items 1 (fnId fnNames "WebService.Route")
def trDispatch : Prog := genTrace fnNames.length items 6 (fnId fnNames "Container.dispatch")
def sys : List Prog := [trAdd, trRoute, trDispatch]

theorem sys_entry : EntrySystem fnNames items (servingEntries ++ mutatorEntries) sys :=
  List.forall_mem_cons.mpr ⟨genTrace_entryProg C12_entries_present items (e := "Container.Add") (by decide +kernel) 0,
    List.forall_mem_cons.mpr ⟨genTrace_entryProg C12_entries_present items (e := "WebService.Route") (by decide +kernel) 0,
      List.forall_mem_cons.mpr ⟨genTrace_entryProg C12_entries_present items (e := "Container.dispatch") (by decide +kernel) 5,
        fun _ h => nomatch h⟩⟩⟩

/-- the traces are what one expects (stated as sub-sequences, so that a harmless change of the
    sources does not break them) -/
example :
    [.acq 0 .W, .read 0, .write 2, .write 0, .rel 0 .W].isSublist trAdd = true ∧
    [.acq 1 .W, .read 3, .write 3, .rel 1 .W].isSublist trRoute = true ∧
    [.acq 0 .R, .acq 1 .R, .read 3, .rel 1 .R, .read 0, .rel 0 .R].isSublist trDispatch = true := by
  decide +kernel

/-- the generated traces of the nine entry points (calls unfolded two deep) contain tracked
    accesses, writes, and acquisitions of both locks -/
example :
    let trs := (servingEntries ++ mutatorEntries).map (fun e => genTrace fnNames.length items 3 (fnId fnNames e))
    let count (p : Action → Bool) : Nat := (trs.map (fun tr => (tr.filter p).length)).sum
    count (fun a => match a with | .read _ => true | .write _ => true | _ => false) ≥ 20 ∧
    count (fun a => match a with | .write _ => true | _ => false) ≥ 5 ∧
    count (fun a => match a with | .acq 0 _ => true | _ => false) ≥ 3 ∧
    count (fun a => match a with | .acq 1 _ => true | _ => false) ≥ 3 := by
  decide +kernel

/-- the semantics sees the seeded defects of the facts that the analysis rejects above: with the
    write acquisitions of `webServicesLock` removed, or weakened to read acquisitions, `Add` has a
    trace that is not disciplined -/
example :
    (∃ p, EntryProg fnNames itemsNoWLock (servingEntries ++ mutatorEntries) p ∧ Disciplined guardOf [] p = false) ∧
    (∃ p, EntryProg fnNames itemsWeakLock (servingEntries ++ mutatorEntries) p ∧ Disciplined guardOf [] p = false) :=
  have hAdd : "Container.Add" ∈ servingEntries ++ mutatorEntries := by decide +kernel
  ⟨⟨_, genTrace_entryProg C12_entries_present itemsNoWLock hAdd 0, by decide +kernel⟩,
   ⟨_, genTrace_entryProg C12_entries_present itemsWeakLock hAdd 0, by decide +kernel⟩⟩

/-- `C12_system_disciplined` applies to them -/
example : ∀ p ∈ sys, Disciplined guardOf [] p = true ∧ Ordered id [] p = true :=
  fun p hp => C12_system_disciplined p (sys_entry p hp)

/-- `Add` has taken `webServicesLock`, `Route` has taken `routesLock`, `dispatch` has run as far as
    it gets -/
def inside : State := runThread ((runSched (init sys) [0, 1]).get (by decide +kernel)) 2 trDispatch.length

theorem inside_reachable : Reachable (init sys) inside :=
  (runSched_reachable (Option.some_get _).symm).trans (runThread_reachable _ _ _)

/-- two threads inside critical sections of different locks, both about to access a tracked field
    (different fields); the third — `dispatch` — waits for `webServicesLock` -/
example :
    (inside.locks 0).writer = some 0 ∧ (inside.locks 1).writer = some 1 ∧
    (match inside.threads[0]? with | some (.read 0 :: _) => true | _ => false) = true ∧
    (match inside.threads[1]? with | some (.read 3 :: _) => true | _ => false) = true ∧
    (match inside.threads[2]? with | some (.acq 0 .R :: _) => true | _ => false) = true ∧
    (step inside 2).isNone = true ∧ (step inside 0).isSome = true ∧ (step inside 1).isSome = true := by
  decide +kernel

/-- the end-to-end corollaries at that state, every hypothesis discharged -/
example := C12_no_unguarded_access sys sys_entry inside inside_reachable .read .write
example : ∃ t σ', step inside t = some σ' :=
  C12_no_deadlock sys sys_entry inside inside_reachable (unfinished_of (t := 2) (by decide +kernel))

/-- the three threads run to completion one after the other, and interleaved (Route inside Add's
    critical section, then dispatch through both locks) -/
example :
    ((runSched (init sys) (List.replicate trAdd.length 0 ++ List.replicate trRoute.length 1 ++
      List.replicate trDispatch.length 2)).map (·.threads)) = some [[], [], []] ∧
    ((runSched (init sys) ([0, 0] ++ List.replicate trRoute.length 1 ++ List.replicate (trAdd.length - 2) 0 ++
      List.replicate trDispatch.length 2)).map (·.threads)) = some [[], [], []] := by
  decide +kernel

end C12System

/-! The frame condition (Lemmas/StateShape.lean): the code has exactly the state this property's model
    accounts for — no further package-level variable, struct type or field; constants as modelled. -/
-- also: Restful.StateShape.globals_shape
-- also: Restful.StateShape.consts_shape
-- also: Restful.StateShape.container_shape

end Props
end Restful
