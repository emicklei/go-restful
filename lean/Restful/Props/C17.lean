/-
C17 — Allow headers tell the truth about which methods are routable.

"For every URL, the set of methods listed in the Allow header of a 405 response, and the set listed
by the OPTIONS filter (Allow and Access-Control-Allow-Methods), equals the set of methods for which
a request to that same URL is not answered 404 or 405.  The OPTIONS filter answers OPTIONS requests
itself without invoking a route function and leaves every other method untouched."

Without hypothesis: the Allow list of a 405 is exact under both routers (neither reads the method
before `detectRoute`), and the OPTIONS filter answers OPTIONS itself, with Allow =
Access-Control-Allow-Methods = `computeAllowedMethods`, and does nothing to any other method.
In part: that the list `computeAllowedMethods` gives is the set of routable methods, and with it the
predicate the driver evaluates on every real observation (`Spec.c17Holds`, `Spec.c17HoldsAll`) of the
observation the model produces.

Full statement for the OPTIONS filter (FALSE on the current code, finding F14):
  theorem C17_options (hc : computeAllowedMethods E tbl.services req.path = some ms) … :
      m ∈ ms ↔ Spec.routable E tbl req m = true
`computeAllowedMethods` unions the methods of ALL services whose root matches the URL, dispatch
uses the best one: `C17_F14_witness` (`/a` with `PUT /{p}/{q}`, `/a/b` with `GET /{x}`: OPTIONS
`/a/b/x` lists PUT, GET; `PUT /a/b/x` is a 405 under both routers).  `Spec.severalRootsMatch` is
that class; outside it (and when no If-condition — user code `computeAllowedMethods` never
consults — fails: `C17_conds_witness`) the listed methods are exactly the routable ones.
-/
import Restful.Lemmas.Allow
import Restful.Lemmas.AllowHolds
import Restful.Lemmas.StateShape
import Restful.Lemmas.TieImpTemplate
import Restful.Lemmas.TieImpAllowed
import Restful.Lemmas.TieImpDetect
import Restful.Lemmas.TieImpFilters
import Restful.Lemmas.DecideLits
namespace Restful
namespace Props
open Str

/-! ### (1) the Allow header of a 405 -/

/-- the `allowedLoop` of `detectRoute` collects exactly the methods of the routes it is given -/
theorem C17_allowedMethods_mem (m : Str) (l : List Route) (acc : List Str) :
    m ∈ allowedMethods l acc ↔ m ∈ acc ∨ ∃ r ∈ l, r.method = m :=
  Restful.mem_allowedMethods m l acc

/-- **C17, 405**: whenever a request is answered 405, the methods in its Allow header are exactly
    the methods for which a request to the same URL (same headers, same If-condition values) is not
    answered 404 or 405.  Both routers, every route table, every request: no hypothesis. -/
theorem C17_405 (E : ReEnv) (cfg : Config) (req : Req) (allow : List Str)
    (h : route E cfg req = .error 405 (some allow)) (m : Str) :
    m ∈ allow ↔ Spec.routable E cfg req m = true :=
  Allow.allow_405_exact E cfg req allow h m

/-! ### (2) the OPTIONS filter -/

/-- **C17, filter on OPTIONS**: the filter does not pass the request on (no later filter, no route
    function runs) and adds Allow, Access-Control-Allow-Origin, Access-Control-Allow-Headers and
    Access-Control-Allow-Methods; Allow and Access-Control-Allow-Methods both carry the
    comma-joined list of `computeAllowedMethods` for the URL -/
theorem C17_filter_options (E : ReEnv) (tbl : Config) (rq : Options.OptReq) (h : rq.method = Cors.sOPTIONS)
    (out : Options.Out) (ho : Options.optionsOut E tbl rq = some out) :
    out.passOn = false ∧ ∃ ms, Cors.computeAllowedMethods E tbl.services rq.path = some ms ∧
      out.added = [("Allow".toList, Str.join Cors.sComma ms), (Cors.hAllowOrigin, rq.origin),
        (Cors.hAllowHeaders, rq.acrh), (Cors.hAllowMethods, Str.join Cors.sComma ms)] := by
  rw [Options.optionsOut_options E tbl rq h] at ho
  obtain ⟨ms, hc, rfl⟩ := Option.map_eq_some_iff.mp ho
  exact ⟨rfl, ms, hc, rfl⟩

/-- **C17, filter on any other method**: nothing is added and the request is passed on -/
theorem C17_filter_other (E : ReEnv) (tbl : Config) (rq : Options.OptReq) (h : rq.method ≠ Cors.sOPTIONS) :
    Options.optionsOut E tbl rq = some ⟨[], true⟩ :=
  Options.optionsOut_other E tbl rq h

/-! ### (3) RouterJSR311: the computed methods and the routable methods -/

/-- every routable method is listed (RouterJSR311; any nesting of roots, any If-conditions): if a
    request with method `m` is not answered 404/405, `computeAllowedMethods` lists `m` -/
theorem C17_options_lists_routable_jsr (E : ReEnv) (tbl : Config) (hk : tbl.router = .jsr) (path : Str)
    (ms : List Str) (hc : Cors.computeAllowedMethods E tbl.services path = some ms)
    (req : Req) (hpath : req.path = path) (m : Str) (hr : Spec.routable E tbl req m = true) :
    m ∈ ms :=
  Allow.routable_listed_jsr E tbl path ms hc { req with method := m } hpath
    (route_jsr E hk _ ▸ (Allow.routable_iff_status E tbl req m).mp hr)

/-- **C17, OPTIONS list under RouterJSR311** (partial: F14 excluded).  When at most one WebService
    root matches the URL and no If-condition of the table fails for the request, the methods
    `computeAllowedMethods` lists are exactly those not answered 404/405.  Content-Type and Accept
    play no role (they produce 415/406).  `hconds` is stated for `req` itself: `passesConds` does
    not read the method (`Restful.Allow.passesConds_setMethod`). -/
theorem C17_options_jsr_partial (E : ReEnv) (tbl : Config) (hk : tbl.router = .jsr) (path : Str) (ms : List Str)
    (hc : Cors.computeAllowedMethods E tbl.services path = some ms)
    (hF14 : Spec.severalRootsMatch E tbl path = false)
    (req : Req) (hpath : req.path = path)
    (hconds : ∀ s ∈ tbl.services, ∀ r ∈ s.built, passesConds r req = true) (m : Str) :
    m ∈ ms ↔ Spec.routable E tbl req m = true := by
  rw [Allow.routable_iff_status, route_jsr E hk]
  exact ⟨fun hm => Allow.listed_routable_jsr E tbl path ms m hc hm hF14 { req with method := m } rfl hpath hconds,
    Allow.routable_listed_jsr E tbl path ms hc { req with method := m } hpath⟩

/-- the same with the hypothesis on If-conditions in the form "for every method" -/
theorem C17_options_jsr_partial' (E : ReEnv) (tbl : Config) (hk : tbl.router = .jsr) (path : Str) (ms : List Str)
    (hc : Cors.computeAllowedMethods E tbl.services path = some ms)
    (hF14 : Spec.severalRootsMatch E tbl path = false)
    (req : Req) (hpath : req.path = path)
    (hconds : ∀ s ∈ tbl.services, ∀ r ∈ s.built, ∀ m, passesConds r { req with method := m } = true) (m : Str) :
    m ∈ ms ↔ Spec.routable E tbl req m = true :=
  C17_options_jsr_partial E tbl hk path ms hc hF14 req hpath (fun s hs r hr => hconds s hs r hr req.method) m

/-- the filter's answer and the router together: the Allow and Access-Control-Allow-Methods values
    of the OPTIONS answer are the comma-joined list of exactly the routable methods -/
theorem C17_filter_options_jsr_partial (E : ReEnv) (tbl : Config) (hk : tbl.router = .jsr)
    (rq : Options.OptReq) (h : rq.method = Cors.sOPTIONS) (out : Options.Out)
    (ho : Options.optionsOut E tbl rq = some out)
    (hF14 : Spec.severalRootsMatch E tbl rq.path = false)
    (req : Req) (hpath : req.path = rq.path)
    (hconds : ∀ s ∈ tbl.services, ∀ r ∈ s.built, passesConds r req = true) :
    out.passOn = false ∧ ∃ ms, (∀ m, m ∈ ms ↔ Spec.routable E tbl req m = true) ∧
      out.added = [("Allow".toList, Str.join Cors.sComma ms), (Cors.hAllowOrigin, rq.origin),
        (Cors.hAllowHeaders, rq.acrh), (Cors.hAllowMethods, Str.join Cors.sComma ms)] := by
  obtain ⟨hp, ms, hc, hadd⟩ := C17_filter_options E tbl rq h out ho
  exact ⟨hp, ms, fun m => C17_options_jsr_partial E tbl hk rq.path ms hc hF14 req hpath hconds m, hadd⟩

/-! ### (4) CurlyRouter on the common fragment, through C18 -/

/-- on the common fragment and a normal path a method is routable under CurlyRouter iff it is under
    RouterJSR311 (the status agreement of C18 does not need `ranksAgree` nor `routeIdsDistinct`) -/
theorem C17_routable_agrees (E : ReEnv) (tbl : Config) (hwf : Spec.wfCommon tbl = true)
    (hroots : Spec.rootsDistinct tbl = true) (hclean : Spec.rootsClean tbl = true)
    (req : Req) (hp : Spec.normalPath req.path = true) (m : Str) :
    Spec.routable E (Spec.withRouter tbl .curly) req m = Spec.routable E (Spec.withRouter tbl .jsr) req m := by
  unfold Spec.routable
  rw [route_withRouter_curly, route_withRouter_jsr,
    Allow.status_agrees E tbl hwf hroots hclean { req with method := m } hp]

/-- every routable method is listed (CurlyRouter, common fragment, normal path; any nesting of
    literal roots, any If-conditions) -/
theorem C17_options_lists_routable_curly (E : ReEnv) (tbl : Config) (hwf : Spec.wfCommon tbl = true)
    (hroots : Spec.rootsDistinct tbl = true) (hclean : Spec.rootsClean tbl = true)
    (path : Str) (hp : Spec.normalPath path = true) (ms : List Str)
    (hc : Cors.computeAllowedMethods E tbl.services path = some ms)
    (req : Req) (hpath : req.path = path) (m : Str)
    (hr : Spec.routable E (Spec.withRouter tbl .curly) req m = true) : m ∈ ms := by
  rw [C17_routable_agrees E tbl hwf hroots hclean req (hpath ▸ hp) m] at hr
  exact C17_options_lists_routable_jsr E (Spec.withRouter tbl .jsr) rfl path ms hc req hpath m hr

/-- **C17, OPTIONS list under CurlyRouter** (partial: F14 excluded).  On the common fragment
    (`wfCommon`, pairwise different clean roots) and a normal path, when at most one root matches
    the URL and no If-condition fails, the methods `computeAllowedMethods` lists are exactly those
    CurlyRouter does not answer 404/405.  (`routeIdsDistinct` and `ranksAgree` of C18 are not
    needed: only the status is compared.) -/
theorem C17_options_curly_partial (E : ReEnv) (tbl : Config) (hwf : Spec.wfCommon tbl = true)
    (hroots : Spec.rootsDistinct tbl = true) (hclean : Spec.rootsClean tbl = true)
    (path : Str) (hp : Spec.normalPath path = true) (ms : List Str)
    (hc : Cors.computeAllowedMethods E tbl.services path = some ms)
    (hF14 : Spec.severalRootsMatch E tbl path = false)
    (req : Req) (hpath : req.path = path)
    (hconds : ∀ s ∈ tbl.services, ∀ r ∈ s.built, passesConds r req = true) (m : Str) :
    m ∈ ms ↔ Spec.routable E (Spec.withRouter tbl .curly) req m = true := by
  rw [C17_routable_agrees E tbl hwf hroots hclean req (hpath ▸ hp) m]
  exact C17_options_jsr_partial E (Spec.withRouter tbl .jsr) rfl path ms hc hF14 req hpath hconds m

/-! ### (5) panics -/

/-- **C17 and panics.**  `Spec.routable` is "status ≠ 404, 405" and a model panic has status 500 (so
    has a real one: the harness records the recover handler's answer).  On every table on which
    dispatch cannot panic (the hypotheses of `C02_total`) a method is routable exactly when a route
    function runs for it or it is answered 415 or 406: `Spec.routable` never sees a panic there. -/
theorem C17_routable_served (E : ReEnv) (cfg : Config) (hwf : cfg.wfTemplates = true)
    (hrootsJ : cfg.router = .jsr → Jsr.rootsRead cfg = true)
    (hrootsC : cfg.router = .curly → Curly.rootsRead cfg = true) (req : Req) (m : Str) :
    Spec.routable E cfg req m = true ↔
      ((∃ s r ps, route E cfg { req with method := m } = .selected s r ps) ∨
        route E cfg { req with method := m } = .error 415 none ∨
        route E cfg { req with method := m } = .error 406 none) := by
  have hs := Allow.route_shape E cfg { req with method := m }
  simp only [C02_total E cfg hwf hrootsJ hrootsC, exists_false, false_or] at hs
  rcases hs with h | ⟨_, h⟩ | ⟨_, _, _, h⟩ | h | h <;> simp [Spec.routable, h, Spec.statusOf]

/-- `C17_405` on tables on which dispatch cannot panic: the Allow list of a 405 is exactly the set of
    methods for which a route function runs or the answer is 415 or 406 -/
theorem C17_405_served (E : ReEnv) (cfg : Config) (hwf : cfg.wfTemplates = true)
    (hrootsJ : cfg.router = .jsr → Jsr.rootsRead cfg = true)
    (hrootsC : cfg.router = .curly → Curly.rootsRead cfg = true) (req : Req) (allow : List Str)
    (h : route E cfg req = .error 405 (some allow)) (m : Str) :
    m ∈ allow ↔
      ((∃ s r ps, route E cfg { req with method := m } = .selected s r ps) ∨
        route E cfg { req with method := m } = .error 415 none ∨
        route E cfg { req with method := m } = .error 406 none) :=
  (C17_405 E cfg req allow h m).trans (C17_routable_served E cfg hwf hrootsJ hrootsC req m)

/-- a 405 never comes without its Allow list (both routers, every table, every request) -/
theorem C17_405_has_allow (E : ReEnv) (cfg : Config) (req : Req) (a : Option (List Str))
    (h : route E cfg req = .error 405 a) : ∃ al, a = some al := by
  have hs := Allow.route_shape E cfg req
  simpa [h] using hs

/-! ### (6) the driver's predicate on the model's observation

`Spec.modelObs E tbl req methods` (Spec/Options.lean) is the record the harness would send if the
implementation were the model: `probes` = `Spec.probeOf` of every method (status by `Spec.statusOf`,
the Allow list of a 405) — exactly the `(p …)` items `Driver/Options.lean` prints; `optAllow`,
`optACAM` = the list `Options.optionsOut` joins into the two headers of its OPTIONS answer;
`optHandlerRan` = "the filter passed OPTIONS on and a route was selected"; `othersUntouched` = "for
every other probed method the filter returned `⟨[], true⟩`".  What the filter model returns in the
two cases is `C17_filter_options` / `C17_filter_other` (`Spec.filtered E tbl req m` is
`Options.optionsOut E tbl ⟨m, req.path, [], []⟩` by definition), so the last two fields COMPUTE to
`false` and `true` (`Allow.modelObs_eq`).

Two hypotheses come with the observation, not with the code: OPTIONS is probed (else the harness
never asks the filter and both lists stay empty), and every declared method is probed (`c17Holds`
requires every listed method to be a probed one; the harness probes a fixed list that contains
every method its generator declares). -/

theorem optionsExact_jsr (E : ReEnv) (tbl : Config) (hk : tbl.router = .jsr) (hwf : tbl.wfTemplates = true)
    (hroots : Jsr.rootsRead tbl = true) (req : Req) (hF14 : Spec.severalRootsMatch E tbl req.path = false)
    (hconds : ∀ s ∈ tbl.services, ∀ r ∈ s.built, passesConds r req = true) : Allow.OptionsExact E tbl req := by
  obtain ⟨ms, hc⟩ := Allow.computeAllowedMethods_isSome E tbl.services req.path (Jsr.roots_compile hk hwf hroots)
    fun _ hs => Allow.decl_compiles (Jsr.routes_compile hk hwf hs)
  exact ⟨ms, hc, C17_options_jsr_partial E tbl hk req.path ms hc hF14 req rfl hconds⟩

theorem optionsExact_curly (E : ReEnv) (tbl : Config) (hwf : Spec.wfCommon tbl = true)
    (hroots : Spec.rootsDistinct tbl = true) (hclean : Spec.rootsClean tbl = true) (req : Req)
    (hp : Spec.normalPath req.path = true) (hF14 : Spec.severalRootsMatch E tbl req.path = false)
    (hconds : ∀ s ∈ tbl.services, ∀ r ∈ s.built, passesConds r req = true) :
    Allow.OptionsExact E (Spec.withRouter tbl .curly) req := by
  obtain ⟨ms, hc⟩ := Allow.computeAllowedMethods_isSome E tbl.services req.path
    (fun s hs => let ⟨_, _, _, _, ex, hex, _⟩ := wfCommon_root hwf hclean hs; ⟨ex, hex⟩)
    fun s hs => Allow.decl_compiles fun rt hrt =>
      let ⟨_, _, hj, _⟩ := wfCommon_route hwf hs hrt; (Jsr.compile_of_template hj).2
  exact ⟨ms, hc, C17_options_curly_partial E tbl hwf hroots hclean req.path hp ms hc hF14 req rfl hconds⟩

/-- **C17 as the driver evaluates it, RouterJSR311** (partial: F14).  Hypotheses: the table is one on
    which dispatch cannot panic (`C02_total`: `wfTemplates`, `Jsr.rootsRead`) — which also makes
    `computeAllowedMethods` answer —, at most one root matches the URL, the If-conditions hold.
    Tail wildcards and regex variables are allowed (F20 concerns CurlyRouter).  Conclusion: the
    predicate holds of the model's observation, and no probe is a panic (status 500). -/
theorem C17_holds_jsr_partial (E : ReEnv) (tbl : Config) (hk : tbl.router = .jsr)
    (hwf : tbl.wfTemplates = true) (hroots : Jsr.rootsRead tbl = true)
    (req : Req) (hF14 : Spec.severalRootsMatch E tbl req.path = false)
    (hconds : ∀ s ∈ tbl.services, ∀ r ∈ s.built, passesConds r req = true)
    (methods : List Str) (hO : Cors.sOPTIONS ∈ methods)
    (hcover : ∀ s ∈ tbl.services, ∀ rd ∈ s.routes, rd.method ∈ methods) :
    Spec.c17Holds (Spec.modelObs E tbl req methods) = true ∧
    ∀ p ∈ (Spec.modelObs E tbl req methods).probes, p.2.1 ∈ [200, 404, 405, 415, 406] :=
  ⟨Allow.c17Holds_modelObs E (optionsExact_jsr E tbl hk hwf hroots req hF14 hconds) hO hcover,
    Allow.probes_status E tbl req methods (C02_total E tbl hwf (fun _ => hroots) (fun h => by rw [hk] at h; cases h))⟩

/-- **C17 as the driver evaluates it, CurlyRouter** (partial: F14; F15/F16 — normal path; F20 — the
    common fragment has no tail wildcard).  Exactly the hypotheses of `C17_options_curly_partial`;
    the common fragment lies inside the hypotheses of `C02_total`, so no probe is a panic. -/
theorem C17_holds_curly_partial (E : ReEnv) (tbl : Config) (hwf : Spec.wfCommon tbl = true)
    (hroots : Spec.rootsDistinct tbl = true) (hclean : Spec.rootsClean tbl = true)
    (req : Req) (hp : Spec.normalPath req.path = true)
    (hF14 : Spec.severalRootsMatch E tbl req.path = false)
    (hconds : ∀ s ∈ tbl.services, ∀ r ∈ s.built, passesConds r req = true)
    (methods : List Str) (hO : Cors.sOPTIONS ∈ methods)
    (hcover : ∀ s ∈ tbl.services, ∀ rd ∈ s.routes, rd.method ∈ methods) :
    Spec.c17Holds (Spec.modelObs E (Spec.withRouter tbl .curly) req methods) = true ∧
    ∀ p ∈ (Spec.modelObs E (Spec.withRouter tbl .curly) req methods).probes, p.2.1 ∈ [200, 404, 405, 415, 406] :=
  ⟨Allow.c17Holds_modelObs E (optionsExact_curly E tbl hwf hroots hclean req hp hF14 hconds) hO hcover,
    Allow.probes_status E _ req methods (C02_total E (Spec.withRouter tbl .curly) (Allow.wfCommon_wfTemplates_curly tbl hwf)
      (fun h => by cases h) fun _ => Allow.wfCommon_rootsRead_curly tbl hwf hclean)⟩

/-- what the filter model contributes to the observation: on OPTIONS it answers itself with the two
    headers carrying the comma-joined lists of `modelObs`, for every other probed method it adds
    nothing and passes on — so the fields `optHandlerRan` / `othersUntouched` are computed, not assumed -/
theorem C17_modelObs_filter (E : ReEnv) (tbl : Config) (req : Req) (methods ms : List Str)
    (hO : Cors.sOPTIONS ∈ methods) (hc : Cors.computeAllowedMethods E tbl.services req.path = some ms) :
    let o := Spec.modelObs E tbl req methods
    Options.optionsOut E tbl { method := Cors.sOPTIONS, path := req.path } = some
      ⟨[("Allow".toList, Str.join Cors.sComma o.optAllow), (Cors.hAllowOrigin, []), (Cors.hAllowHeaders, []),
        (Cors.hAllowMethods, Str.join Cors.sComma o.optACAM)], false⟩ ∧
    (∀ m, m ≠ Cors.sOPTIONS → Options.optionsOut E tbl { method := m, path := req.path } = some ⟨[], true⟩) ∧
    o.optHandlerRan = false ∧ o.othersUntouched = true := by
  simp only [Allow.modelObs_eq E tbl req methods ms hO hc]
  exact ⟨Options.optionsOut_computed E tbl _ rfl ms hc, fun m hm => Options.optionsOut_other E tbl _ hm, trivial, trivial⟩

/-! #### the same with the lists decoded from the header values

Full statement (FALSE: `C17_wire_witness`): `C17_holds_*_partial` with `Spec.modelObsWire`.  A declared
method that is not a token (contains a comma, a space at an end, or is empty) does not survive
`strings.Join(…, ",")` followed by the reader's split: the header then names other methods than the
table declares.  `Spec.methodToken` of every declared method is the hypothesis the proof forces. -/

theorem C17_holds_jsr_wire_partial (E : ReEnv) (tbl : Config) (hk : tbl.router = .jsr)
    (hwf : tbl.wfTemplates = true) (hroots : Jsr.rootsRead tbl = true)
    (req : Req) (hF14 : Spec.severalRootsMatch E tbl req.path = false)
    (hconds : ∀ s ∈ tbl.services, ∀ r ∈ s.built, passesConds r req = true)
    (methods : List Str) (hO : Cors.sOPTIONS ∈ methods)
    (hcover : ∀ s ∈ tbl.services, ∀ rd ∈ s.routes, rd.method ∈ methods)
    (htok : ∀ s ∈ tbl.services, ∀ rd ∈ s.routes, Spec.methodToken rd.method = true) :
    Spec.c17Holds (Spec.modelObsWire E tbl req methods) = true :=
  Allow.c17Holds_modelObsWire E (optionsExact_jsr E tbl hk hwf hroots req hF14 hconds) hO hcover htok

theorem C17_holds_curly_wire_partial (E : ReEnv) (tbl : Config) (hwf : Spec.wfCommon tbl = true)
    (hroots : Spec.rootsDistinct tbl = true) (hclean : Spec.rootsClean tbl = true)
    (req : Req) (hp : Spec.normalPath req.path = true)
    (hF14 : Spec.severalRootsMatch E tbl req.path = false)
    (hconds : ∀ s ∈ tbl.services, ∀ r ∈ s.built, passesConds r req = true)
    (methods : List Str) (hO : Cors.sOPTIONS ∈ methods)
    (hcover : ∀ s ∈ tbl.services, ∀ rd ∈ s.routes, rd.method ∈ methods)
    (htok : ∀ s ∈ tbl.services, ∀ rd ∈ s.routes, Spec.methodToken rd.method = true) :
    Spec.c17Holds (Spec.modelObsWire E (Spec.withRouter tbl .curly) req methods) = true :=
  Allow.c17Holds_modelObsWire E (optionsExact_curly E tbl hwf hroots hclean req hp hF14 hconds) hO hcover htok

/-! #### OPTIONS probes that carry Access-Control-Request-Method

The property speaks of the set "listed by the OPTIONS filter (Allow and Access-Control-Allow-Methods)"
for every URL — for every OPTIONS request the filter answers, a browser's preflight (which names the
method of the call to come) included.  The harness sends such probes too; `Spec.c17HoldsAll` demands of
each answer what `c17Holds` demands of the bare one. -/

/-- the filter model does not read Access-Control-Request-Method (options_filter.go:13-27 reads
    Origin and Access-Control-Request-Headers only) -/
theorem C17_filter_ignores_request_method (E : ReEnv) (tbl : Config) (rq : Options.OptReq) (a : Str) :
    Options.optionsOut E tbl { rq with acrm := a } = Options.optionsOut E tbl rq := rfl

/-- what the filter model answers to a preflight probe: the headers of the bare OPTIONS answer,
    carrying the comma-joined lists of `Spec.modelPreflight`; not passed on -/
theorem C17_preflight_filter (E : ReEnv) (tbl : Config) (req : Req) (ms : List Str) (a : Str)
    (hc : Cors.computeAllowedMethods E tbl.services req.path = some ms) :
    let p := Spec.modelPreflight E tbl req a
    Options.optionsOut E tbl (Spec.optReqPf req a) = some
      ⟨[("Allow".toList, Str.join Cors.sComma p.allow), (Cors.hAllowOrigin, []), (Cors.hAllowHeaders, []),
        (Cors.hAllowMethods, Str.join Cors.sComma p.acam)], false⟩ ∧ p.acrm = a ∧ p.handlerRan = false := by
  simp only [Allow.modelPreflight_eq E tbl req ms a hc]
  exact ⟨Allow.filtered_preflight E tbl req ms a hc, trivial, trivial⟩

/-- **C17 as the driver evaluates it, with preflight probes, RouterJSR311** (partial: F14): the
    hypotheses of `C17_holds_jsr_partial`; every list of Access-Control-Request-Method values -/
theorem C17_holds_jsr_preflights_partial (E : ReEnv) (tbl : Config) (hk : tbl.router = .jsr)
    (hwf : tbl.wfTemplates = true) (hroots : Jsr.rootsRead tbl = true)
    (req : Req) (hF14 : Spec.severalRootsMatch E tbl req.path = false)
    (hconds : ∀ s ∈ tbl.services, ∀ r ∈ s.built, passesConds r req = true)
    (methods : List Str) (hO : Cors.sOPTIONS ∈ methods)
    (hcover : ∀ s ∈ tbl.services, ∀ rd ∈ s.routes, rd.method ∈ methods) (acrms : List Str) :
    Spec.c17HoldsAll (Spec.modelObs E tbl req methods) (acrms.map (Spec.modelPreflight E tbl req)) = true :=
  Allow.c17HoldsAll_model E (optionsExact_jsr E tbl hk hwf hroots req hF14 hconds) hO hcover acrms

/-- **the same, CurlyRouter** (partial: F14, F15/F16, F20): the hypotheses of `C17_holds_curly_partial` -/
theorem C17_holds_curly_preflights_partial (E : ReEnv) (tbl : Config) (hwf : Spec.wfCommon tbl = true)
    (hroots : Spec.rootsDistinct tbl = true) (hclean : Spec.rootsClean tbl = true)
    (req : Req) (hp : Spec.normalPath req.path = true)
    (hF14 : Spec.severalRootsMatch E tbl req.path = false)
    (hconds : ∀ s ∈ tbl.services, ∀ r ∈ s.built, passesConds r req = true)
    (methods : List Str) (hO : Cors.sOPTIONS ∈ methods)
    (hcover : ∀ s ∈ tbl.services, ∀ rd ∈ s.routes, rd.method ∈ methods) (acrms : List Str) :
    Spec.c17HoldsAll (Spec.modelObs E (Spec.withRouter tbl .curly) req methods)
      (acrms.map (Spec.modelPreflight E (Spec.withRouter tbl .curly) req)) = true :=
  Allow.c17HoldsAll_model E (optionsExact_curly E tbl hwf hroots hclean req hp hF14 hconds) hO hcover acrms

-- the frame condition (Lemmas/StateShape.lean): the code has exactly the state this property's model accounts for
-- also: Restful.StateShape.globals_shape
-- also: Restful.StateShape.consts_shape
-- also: Restful.StateShape.container_shape

end Props
end Restful

/-! ### witnesses -/
namespace Restful.C17Witness
open Restful.Props

def E0 : ReEnv := ⟨fun _ _ => true, fun _ _ => true⟩

def rt (id : Nat) (m p : String) : RouteDecl :=
  { id := id, method := m.toList, relPath := p.toList, consumes := [], produces := [], conds := [], noct := [] }

/-- nested literal roots: `/a` with `PUT /{p}/{q}`, `/a/b` with `GET /{x}` -/
def nested (k : RouterKind) : Config :=
  { router := k, services := [
      { id := 0, root := "/a".toList, routes := [rt 0 "PUT" "/{p}/{q}"] },
      { id := 1, root := "/a/b".toList, routes := [rt 1 "GET" "/{x}"] }] }

/-- **F14**: with nested roots the OPTIONS list is not the routable set.  OPTIONS `/a/b/x` lists
    PUT and GET (both roots match: `severalRootsMatch`), but `PUT /a/b/x` is dispatched to `/a/b`
    alone and answered 405 (Allow: GET) — under both routers.  The table is in the common fragment
    and the path normal: only `severalRootsMatch = false` fails of `C17_options_*_partial`. -/
theorem C17_F14_witness :
    let path := "/a/b/x".toList
    let req : Req := { method := "OPTIONS".toList, path := path }
    Cors.computeAllowedMethods E0 (nested .jsr).services path = some ["PUT".toList, "GET".toList] ∧
    Spec.severalRootsMatch E0 (nested .jsr) path = true ∧
    Spec.wfCommon (nested .jsr) = true ∧ Spec.rootsDistinct (nested .jsr) = true ∧
    Spec.rootsClean (nested .jsr) = true ∧ Spec.normalPath path = true ∧
    route E0 (nested .jsr) { req with method := "PUT".toList } = .error 405 (some ["GET".toList]) ∧
    route E0 (nested .curly) { req with method := "PUT".toList } = .error 405 (some ["GET".toList]) ∧
    Spec.routable E0 (nested .jsr) req "PUT".toList = false ∧
    Spec.routable E0 (nested .curly) req "PUT".toList = false ∧
    Spec.routable E0 (nested .jsr) req "GET".toList = true ∧
    Spec.routable E0 (nested .curly) req "GET".toList = true := by
  decide +kernel

/-- why the hypothesis on If-conditions is needed: `/r` with `GET /x` guarded by an If-condition
    that is false for the request.  `computeAllowedMethods` (which never consults conditions) lists
    GET, one root matches, yet `GET /r/x` is answered 404 by both routers. -/
theorem C17_conds_witness :
    let tblc : RouterKind → Config := fun k => { router := k, services :=
      [{ id := 0, root := "/r".toList, routes := [{ rt 0 "GET" "/x" with conds := [0] }] }] }
    let req : Req := { method := "OPTIONS".toList, path := "/r/x".toList, conds := [false] }
    Cors.computeAllowedMethods E0 (tblc .jsr).services req.path = some ["GET".toList] ∧
    Spec.severalRootsMatch E0 (tblc .jsr) req.path = false ∧
    route E0 (tblc .jsr) { req with method := "GET".toList } = .error 404 none ∧
    route E0 (tblc .curly) { req with method := "GET".toList } = .error 404 none ∧
    Spec.routable E0 (tblc .jsr) req "GET".toList = false ∧
    Spec.routable E0 (tblc .curly) req "GET".toList = false := by
  decide +kernel

/-! non-vacuity of `C17_405`: GET and POST on one template, DELETE elsewhere; a PUT request -/

def tbl (k : RouterKind) : Config :=
  { router := k, services := [
      { id := 0, root := "/r".toList,
        routes := [rt 0 "GET" "/x/{id}", rt 1 "POST" "/x/{id}", rt 2 "DELETE" "/y"] }] }

def put : Req := { method := "PUT".toList, path := "/r/x/7".toList }

theorem put_405 (k : RouterKind) : route E0 (tbl k) put = .error 405 (some ["GET".toList, "POST".toList]) := by
  cases k <;> decide +kernel

example : route E0 (tbl .curly) put = .error 405 (some ["GET".toList, "POST".toList]) ∧
    route E0 (tbl .jsr) put = .error 405 (some ["GET".toList, "POST".toList]) := ⟨put_405 .curly, put_405 .jsr⟩

/-- GET is in the Allow list and routable … -/
example : ("GET".toList ∈ ["GET".toList, "POST".toList] ↔ Spec.routable E0 (tbl .curly) put "GET".toList = true) ∧
    "GET".toList ∈ ["GET".toList, "POST".toList] ∧ Spec.routable E0 (tbl .curly) put "GET".toList = true :=
  have h := C17_405 E0 (tbl .curly) put _ (put_405 .curly) "GET".toList
  ⟨h, List.mem_cons_self, h.mp List.mem_cons_self⟩

/-- … DELETE (routable only at another URL) is neither -/
example : ("DELETE".toList ∈ ["GET".toList, "POST".toList] ↔ Spec.routable E0 (tbl .jsr) put "DELETE".toList = true) ∧
    "DELETE".toList ∉ ["GET".toList, "POST".toList] ∧ Spec.routable E0 (tbl .jsr) put "DELETE".toList = false :=
  have h := C17_405 E0 (tbl .jsr) put _ (put_405 .jsr) "DELETE".toList
  have hn : "DELETE".toList ∉ ["GET".toList, "POST".toList] := by decide +kernel
  ⟨h, hn, Bool.eq_false_iff.mpr fun hr => hn (h.mpr hr)⟩

/-! non-vacuity of (2)-(4): the same table, the OPTIONS filter and both routers -/

def optReq : Options.OptReq := { method := Cors.sOPTIONS, path := "/r/x/7".toList, origin := "http://o".toList }

theorem computed : Cors.computeAllowedMethods E0 (tbl .jsr).services put.path = some ["GET".toList, "POST".toList] := by
  decide +kernel

example : Options.optionsOut E0 (tbl .jsr) optReq = some
    ⟨[("Allow".toList, "GET,POST".toList), (Cors.hAllowOrigin, "http://o".toList), (Cors.hAllowHeaders, []),
      (Cors.hAllowMethods, "GET,POST".toList)], false⟩ := by
  rw [Options.optionsOut_options _ _ _ rfl, show optReq.path = put.path from rfl, computed]
  decide_lits [optReq, Cors.sComma, Cors.hAllowOrigin, Cors.hAllowHeaders, Cors.hAllowMethods]

theorem oneRoot : Spec.severalRootsMatch E0 (tbl .jsr) put.path = false := by decide +kernel
theorem noConds : ∀ s ∈ (tbl .jsr).services, ∀ r ∈ s.built, passesConds r put = true := by decide +kernel

example (m : Str) : m ∈ ["GET".toList, "POST".toList] ↔ Spec.routable E0 (tbl .jsr) put m = true :=
  C17_options_jsr_partial E0 (tbl .jsr) rfl put.path _ computed oneRoot put rfl noConds m

example (m : Str) : m ∈ ["GET".toList, "POST".toList] ↔ Spec.routable E0 (Spec.withRouter (tbl .jsr) .curly) put m = true :=
  C17_options_curly_partial E0 (tbl .jsr) (by decide +kernel) (by decide +kernel) (by decide +kernel) put.path
    (by decide +kernel) _ computed oneRoot put rfl noConds m

end Restful.C17Witness

/-! ### non-vacuity (audit): the remaining theorems with all their hypotheses, on a table with two
    (not nested) services, one of whose routes carries an If-condition that holds for the request -/
namespace Restful.C17Audit
open Restful.Props Restful.C17Witness

/-- `/r` with GET `/x/{id}`, POST `/x/{id}` (If-condition 0), DELETE `/y`; `/s` with PUT `/x/{id}` -/
def tbl2 (k : RouterKind) : Config :=
  { router := k, services := [
      { id := 0, root := "/r".toList,
        routes := [rt 0 "GET" "/x/{id}", { rt 1 "POST" "/x/{id}" with conds := [0] }, rt 2 "DELETE" "/y"] },
      { id := 1, root := "/s".toList, routes := [rt 3 "PUT" "/x/{id}"] }] }

def put2 : Req := { method := "PUT".toList, path := "/r/x/7".toList, conds := [true] }
def opt2 : Options.OptReq := { method := Cors.sOPTIONS, path := "/r/x/7".toList, origin := "http://o".toList, acrh := "X-A".toList }
def out2 : Options.Out :=
  ⟨[("Allow".toList, "GET,POST".toList), (Cors.hAllowOrigin, "http://o".toList), (Cors.hAllowHeaders, "X-A".toList),
    (Cors.hAllowMethods, "GET,POST".toList)], false⟩

/-- what `computeAllowedMethods` lists at `/r/x/7` -/
def ms2 : List Str := ["GET".toList, "POST".toList]

theorem wfCommon2 : Spec.wfCommon (tbl2 .jsr) = true := by decide +kernel
theorem rootsDistinct2 : Spec.rootsDistinct (tbl2 .jsr) = true := by decide +kernel
theorem rootsClean2 : Spec.rootsClean (tbl2 .jsr) = true := by decide +kernel
theorem normal2 : Spec.normalPath put2.path = true := by decide +kernel
theorem oneRoot2 : Spec.severalRootsMatch E0 (tbl2 .jsr) put2.path = false := by decide +kernel
theorem computed2 : Cors.computeAllowedMethods E0 (tbl2 .jsr).services put2.path = some ms2 := by decide +kernel
theorem conds2 : ∀ s ∈ (tbl2 .jsr).services, ∀ r ∈ s.built, passesConds r put2 = true := by decide +kernel
theorem options2 : Options.optionsOut E0 (tbl2 .jsr) opt2 = some out2 := by
  rw [Options.optionsOut_options _ _ _ rfl, show opt2.path = put2.path from rfl, computed2]
  decide_lits [opt2, out2, ms2, Cors.sComma, Cors.hAllowOrigin, Cors.hAllowHeaders, Cors.hAllowMethods]
theorem put2_405 (k : RouterKind) : route E0 (tbl2 k) put2 = .error 405 (some ms2) := by
  cases k <;> decide +kernel
theorem post2_routable : Spec.routable E0 (tbl2 .jsr) put2 "POST".toList = true := by decide +kernel

/-- the hypotheses of the theorems below, all at once; PUT is answered 405 here and routed at `/s/x/7` -/
example :
    Spec.wfCommon (tbl2 .jsr) = true ∧ Spec.rootsDistinct (tbl2 .jsr) = true ∧ Spec.rootsClean (tbl2 .jsr) = true ∧
    Spec.normalPath put2.path = true ∧ Spec.severalRootsMatch E0 (tbl2 .jsr) put2.path = false ∧
    Cors.computeAllowedMethods E0 (tbl2 .jsr).services put2.path = some ["GET".toList, "POST".toList] ∧
    (∀ s ∈ (tbl2 .jsr).services, ∀ r ∈ s.built, passesConds r put2 = true) ∧
    Options.optionsOut E0 (tbl2 .jsr) opt2 = some out2 ∧
    route E0 (tbl2 .jsr) put2 = .error 405 (some ["GET".toList, "POST".toList]) ∧
    route E0 (tbl2 .curly) put2 = .error 405 (some ["GET".toList, "POST".toList]) ∧
    route E0 (tbl2 .curly) { put2 with path := "/s/x/7".toList } = .selected 1 3 [("id".toList, "7".toList)] ∧
    Spec.routable E0 (tbl2 .jsr) put2 "POST".toList = true ∧ Spec.routable E0 (tbl2 .jsr) put2 "PUT".toList = false :=
  ⟨wfCommon2, rootsDistinct2, rootsClean2, normal2, oneRoot2, computed2, conds2, options2, put2_405 .jsr, put2_405 .curly,
    by decide +kernel, post2_routable, by decide +kernel⟩

example (m : Str) : m ∈ ["GET".toList, "POST".toList] ↔ Spec.routable E0 (tbl2 .curly) put2 m = true :=
  C17_405 E0 (tbl2 .curly) put2 _ (put2_405 .curly) m
example := C17_allowedMethods_mem "POST".toList ((tbl2 .jsr).services.flatMap Service.built) []
example := C17_filter_options E0 (tbl2 .jsr) opt2 rfl out2 options2
example := C17_filter_other E0 (tbl2 .jsr) { opt2 with method := "GET".toList } (by decide +kernel)
example : "POST".toList ∈ ["GET".toList, "POST".toList] :=
  C17_options_lists_routable_jsr E0 (tbl2 .jsr) rfl put2.path _ computed2 put2 rfl _ post2_routable
example : "POST".toList ∈ ["GET".toList, "POST".toList] :=
  C17_options_lists_routable_curly E0 (tbl2 .jsr) wfCommon2 rootsDistinct2 rootsClean2 put2.path normal2 _ computed2
    put2 rfl _ (by decide +kernel)
example (m : Str) := C17_routable_agrees E0 (tbl2 .jsr) wfCommon2 rootsDistinct2 rootsClean2 put2 normal2 m
example (m : Str) := C17_options_jsr_partial E0 (tbl2 .jsr) rfl put2.path ms2 computed2 oneRoot2 put2 rfl conds2 m
example (m : Str) := C17_options_jsr_partial' E0 (tbl2 .jsr) rfl put2.path ms2 computed2 oneRoot2 put2 rfl
  (fun s hs r hr _ => conds2 s hs r hr) m
example (m : Str) := C17_options_curly_partial E0 (tbl2 .jsr) wfCommon2 rootsDistinct2 rootsClean2 put2.path normal2 ms2
  computed2 oneRoot2 put2 rfl conds2 m
example := C17_filter_options_jsr_partial E0 (tbl2 .jsr) rfl opt2 rfl out2 options2 oneRoot2 put2 rfl conds2

/-- the equivalences are not trivially true: `Spec.routable` separates the methods at this URL, and
    with the If-condition false POST stops being routable while it is still listed (`C17_conds_witness`) -/
example :
    ["GET", "POST", "PUT", "DELETE", "OPTIONS"].map (fun m => Spec.routable E0 (tbl2 .curly) put2 m.toList) =
      [true, true, false, false, false] ∧
    Spec.routable E0 (tbl2 .curly) { put2 with conds := [false] } "POST".toList = false := by
  decide +kernel

/-! `Spec.c17Holds` (Spec/Options.lean) is the predicate the driver evaluates on every REAL observation
of C17; `C17_holds_jsr_partial` / `C17_holds_curly_partial` conclude it for the model's observation
`Spec.modelObs` (instantiated in `Restful.C17Holds` below).  Here, by evaluation: on the observation
the MODEL amounts to at `/r/x/7` — five probed methods, the OPTIONS filter's two lists — the
predicate holds under both routers, and it is falsified by wrong observations. -/

def methods2 : List String := ["GET", "POST", "PUT", "DELETE", "OPTIONS"]

/-- the observation the model amounts to: per probed method its status and (405) Allow list; the
    filter lists `computeAllowedMethods`, runs no route function and leaves other methods alone
    (`C17_filter_options`, `C17_filter_other`) -/
def obs2 (k : RouterKind) : Spec.AllowObs :=
  { probes := methods2.map (fun m =>
      match route E0 (tbl2 k) { put2 with method := m.toList } with
      | .error 405 (some al) => (m.toList, 405, some al)
      | out => (m.toList, Spec.statusOf out, none))
    optAllow := ms2, optACAM := ms2, optHandlerRan := false, othersUntouched := true }

example :
    (obs2 .curly).probes.map (·.2.1) = [200, 200, 405, 405, 405] ∧ (obs2 .jsr).probes.map (·.2.1) = [200, 200, 405, 405, 405] ∧
    Spec.c17Holds (obs2 .curly) = true ∧ Spec.c17Holds (obs2 .jsr) = true ∧
    -- the filter lists a method that is not routable / misses one that is / names one nobody probed
    Spec.c17Holds { obs2 .curly with optAllow := ms2 ++ ["PUT".toList], optACAM := ms2 ++ ["PUT".toList] } = false ∧
    Spec.c17Holds { obs2 .curly with optAllow := ["GET".toList], optACAM := ["GET".toList] } = false ∧
    Spec.c17Holds { obs2 .curly with optAllow := ms2 ++ ["PATCH".toList], optACAM := ms2 ++ ["PATCH".toList] } = false ∧
    -- Allow and Access-Control-Allow-Methods differ; a route function ran for OPTIONS; another method was touched
    Spec.c17Holds { obs2 .curly with optACAM := ["GET".toList] } = false ∧
    Spec.c17Holds { obs2 .curly with optHandlerRan := true } = false ∧
    Spec.c17Holds { obs2 .curly with othersUntouched := false } = false ∧
    -- a 405 whose Allow list misses POST, lists DELETE, or is absent
    Spec.c17Holds { obs2 .curly with probes := (obs2 .curly).probes.map (fun p =>
      if p.1 = "PUT".toList then (p.1, 405, some ["GET".toList]) else p) } = false ∧
    Spec.c17Holds { obs2 .curly with probes := (obs2 .curly).probes.map (fun p =>
      if p.1 = "PUT".toList then (p.1, 405, some (ms2 ++ ["DELETE".toList])) else p) } = false ∧
    Spec.c17Holds { obs2 .curly with probes := (obs2 .curly).probes.map (fun p =>
      if p.1 = "PUT".toList then (p.1, 405, none) else p) } = false := by
  decide +kernel

end Restful.C17Audit

/-! ### `Spec.c17Holds` on the model's observation: non-vacuity, and the witnesses for the hypotheses -/
namespace Restful.C17Holds
open Restful.Props Restful.C17Witness Restful.C17Audit

/-- the probed methods: GET, POST, PUT, DELETE, OPTIONS — every method `tbl2` declares, and OPTIONS -/
def probed : List Str := methods2.map String.toList

theorem wfTemplates2 (k : RouterKind) : (tbl2 k).wfTemplates = true := by cases k <;> decide +kernel
theorem rootsReadJ2 : Jsr.rootsRead (tbl2 .jsr) = true := by decide +kernel
theorem options_probed : Cors.sOPTIONS ∈ probed := by decide +kernel
theorem cover2 : ∀ s ∈ (tbl2 .jsr).services, ∀ rd ∈ s.routes, rd.method ∈ probed := by decide +kernel
theorem tokens2 : ∀ s ∈ (tbl2 .jsr).services, ∀ rd ∈ s.routes, Spec.methodToken rd.method = true := by decide +kernel

/-- `Spec.modelObs` at `/r/x/7` on the two-service table IS the hand-written `obs2` (GET, POST run a
    route function, PUT — routed at `/s/x/7` only —, DELETE and OPTIONS are 405 with Allow GET, POST;
    the filter lists GET, POST, runs no route function, leaves the others alone), and so is the
    observation decoded from the header values -/
example :
    Spec.modelObs E0 (tbl2 .jsr) put2 probed = obs2 .jsr ∧ Spec.modelObs E0 (tbl2 .curly) put2 probed = obs2 .curly ∧
    Spec.modelObsWire E0 (tbl2 .jsr) put2 probed = obs2 .jsr ∧ Spec.modelObsWire E0 (tbl2 .curly) put2 probed = obs2 .curly ∧
    (obs2 .jsr).probes = [("GET".toList, 200, none), ("POST".toList, 200, none), ("PUT".toList, 405, some ms2),
      ("DELETE".toList, 405, some ms2), ("OPTIONS".toList, 405, some ms2)] := by
  decide +kernel

example :
    (tbl2 .jsr).wfTemplates = true ∧ Jsr.rootsRead (tbl2 .jsr) = true ∧
    Spec.wfCommon (tbl2 .jsr) = true ∧ Spec.rootsDistinct (tbl2 .jsr) = true ∧ Spec.rootsClean (tbl2 .jsr) = true ∧
    Spec.normalPath put2.path = true ∧ Spec.severalRootsMatch E0 (tbl2 .jsr) put2.path = false ∧
    (∀ s ∈ (tbl2 .jsr).services, ∀ r ∈ s.built, passesConds r put2 = true) ∧
    Cors.sOPTIONS ∈ probed ∧ (∀ s ∈ (tbl2 .jsr).services, ∀ rd ∈ s.routes, rd.method ∈ probed) ∧
    (∀ s ∈ (tbl2 .jsr).services, ∀ rd ∈ s.routes, Spec.methodToken rd.method = true) :=
  ⟨wfTemplates2 .jsr, rootsReadJ2, wfCommon2, rootsDistinct2, rootsClean2, normal2, oneRoot2, conds2, options_probed, cover2,
    tokens2⟩

example : Spec.c17Holds (Spec.modelObs E0 (tbl2 .jsr) put2 probed) = true :=
  (C17_holds_jsr_partial E0 (tbl2 .jsr) rfl (wfTemplates2 .jsr) rootsReadJ2 put2 oneRoot2 conds2 probed options_probed cover2).1
example : Spec.c17Holds (Spec.modelObs E0 (Spec.withRouter (tbl2 .jsr) .curly) put2 probed) = true :=
  (C17_holds_curly_partial E0 (tbl2 .jsr) wfCommon2 rootsDistinct2 rootsClean2 put2 normal2 oneRoot2 conds2
    probed options_probed cover2).1
example : Spec.c17Holds (Spec.modelObsWire E0 (tbl2 .jsr) put2 probed) = true :=
  C17_holds_jsr_wire_partial E0 (tbl2 .jsr) rfl (wfTemplates2 .jsr) rootsReadJ2 put2 oneRoot2 conds2 probed options_probed
    cover2 tokens2
example : Spec.c17Holds (Spec.modelObsWire E0 (Spec.withRouter (tbl2 .jsr) .curly) put2 probed) = true :=
  C17_holds_curly_wire_partial E0 (tbl2 .jsr) wfCommon2 rootsDistinct2 rootsClean2 put2 normal2 oneRoot2 conds2
    probed options_probed cover2 tokens2
example := C17_modelObs_filter E0 (tbl2 .jsr) put2 probed ms2 options_probed computed2

/-- preflight probes: `C17_holds_*_preflights_partial`, `C17_preflight_filter`,
    `C17_filter_ignores_request_method` on the same table — requested methods GET (routable), PUT
    (not routable), `get`, junk, empty; the model's answer lists GET and POST each time -/
def acrms2 : List Str := ["GET".toList, "PUT".toList, "get".toList, "x y,".toList, []]
example : Spec.c17HoldsAll (Spec.modelObs E0 (tbl2 .jsr) put2 probed) (acrms2.map (Spec.modelPreflight E0 (tbl2 .jsr) put2)) = true :=
  C17_holds_jsr_preflights_partial E0 (tbl2 .jsr) rfl (wfTemplates2 .jsr) rootsReadJ2 put2 oneRoot2 conds2 probed
    options_probed cover2 acrms2
example : Spec.c17HoldsAll (Spec.modelObs E0 (Spec.withRouter (tbl2 .jsr) .curly) put2 probed)
    (acrms2.map (Spec.modelPreflight E0 (Spec.withRouter (tbl2 .jsr) .curly) put2)) = true :=
  C17_holds_curly_preflights_partial E0 (tbl2 .jsr) wfCommon2 rootsDistinct2 rootsClean2 put2 normal2 oneRoot2 conds2
    probed options_probed cover2 acrms2
example : Spec.modelPreflight E0 (tbl2 .jsr) put2 "PUT".toList = ⟨"PUT".toList, ms2, ms2, false⟩ := by decide +kernel
example := C17_preflight_filter E0 (tbl2 .jsr) put2 ms2 "GET".toList computed2
example := C17_filter_ignores_request_method E0 (tbl2 .jsr) opt2 "GET".toList
/-- the preflight clause is falsified by an answer that confirms only the requested method in
    Access-Control-Allow-Methods (Allow complete), by one that lists nothing for a method that is not
    routable, by an incomplete Allow list, and by a route function that ran -/
example :
    let o := Spec.modelObs E0 (tbl2 .jsr) put2 probed
    Spec.pfHolds o ⟨"GET".toList, ms2, ms2, false⟩ = true ∧
    Spec.pfHolds o ⟨"GET".toList, ms2, ["GET".toList], false⟩ = false ∧
    Spec.pfHolds o ⟨"PUT".toList, ms2, [], false⟩ = false ∧
    Spec.pfHolds o ⟨"GET".toList, ["GET".toList], ["GET".toList], false⟩ = false ∧
    Spec.pfHolds o ⟨"GET".toList, ms2, ms2, true⟩ = false ∧
    Spec.c17HoldsAll o [⟨"GET".toList, ms2, ms2, false⟩, ⟨"GET".toList, ms2, ["GET".toList], false⟩] = false := by
  decide +kernel

/-- the predicate is falsified by wrong observations: the filter lists a method that is answered 405
    (PUT) / misses a routable one (POST) / the two headers differ / a route function ran for OPTIONS /
    another method was touched / a 405 whose Allow list misses POST; and by the model's own
    observation when a declared method (DELETE, say) is not among the probed ones — the reason for
    `hcover` — or OPTIONS is not (the filter is never asked, both lists stay empty: `hO`) -/
example :
    let o := Spec.modelObs E0 (tbl2 .jsr) put2 probed
    Spec.c17Holds o = true ∧
    Spec.c17Holds { o with optAllow := ms2 ++ ["PUT".toList], optACAM := ms2 ++ ["PUT".toList] } = false ∧
    Spec.c17Holds { o with optAllow := ["GET".toList], optACAM := ["GET".toList] } = false ∧
    Spec.c17Holds { o with optACAM := ["GET".toList] } = false ∧
    Spec.c17Holds { o with optHandlerRan := true } = false ∧
    Spec.c17Holds { o with othersUntouched := false } = false ∧
    Spec.c17Holds { o with probes := o.probes.map (fun p =>
      if p.1 = "PUT".toList then (p.1, 405, some ["GET".toList]) else p) } = false ∧
    Spec.c17Holds (Spec.modelObs E0 (tbl2 .jsr) { put2 with path := "/r/y".toList }
      ["GET".toList, "POST".toList, "OPTIONS".toList]) = false ∧
    Spec.c17Holds (Spec.modelObs E0 (tbl2 .jsr) put2 ["GET".toList, "POST".toList, "PUT".toList]) = false := by
  decide +kernel

/-- `C17_routable_served`, `C17_405_served`, `C17_405_has_allow` on the same instance: no method is
    "routable" by way of a panic — POST runs route 1 of service 0, PUT is a 405 -/
example (m : Str) := C17_routable_served E0 (tbl2 .curly) (wfTemplates2 .curly) (fun h => by cases h) (fun _ => by decide +kernel) put2 m
example (m : Str) := C17_405_served E0 (tbl2 .jsr) (wfTemplates2 .jsr) (fun _ => rootsReadJ2) (fun h => by cases h) put2 ms2
  (put2_405 .jsr) m
example := C17_405_has_allow E0 (tbl2 .jsr) put2 (some ms2) (put2_405 .jsr)
example :
    route E0 (tbl2 .curly) { put2 with method := "POST".toList } = .selected 0 1 [("id".toList, "7".toList)] ∧
    Spec.routable E0 (tbl2 .curly) put2 "POST".toList = true ∧ Spec.routable E0 (tbl2 .curly) put2 "PUT".toList = false := by
  decide +kernel

/-- why `C17_routable_served` has hypotheses: on a table outside the grammar (`/{a:` as the root of
    a route-less service, `C02_roots_witness`) every dispatch is a model panic, and `Spec.routable`
    calls every method routable -/
theorem C17_panic_witness :
    let cfg : Config := { router := .jsr, services := [{ id := 0, root := "/{a:".toList, routes := [] }] }
    let req : Req := { method := "GET".toList, path := "/x".toList }
    cfg.wfTemplates = true ∧ Jsr.rootsRead cfg = false ∧
    route E0 cfg req = .panic "jsr.compile" ∧ Spec.routable E0 cfg req "GET".toList = true ∧
    (Spec.probeOf E0 cfg req "GET".toList).2.1 = 500 := by
  decide +kernel

/-- a declared method that is not a token: `A,B`.  Every hypothesis of `C17_holds_*_partial` holds
    and the predicate holds of `modelObs`; the header value `A,B` decodes to the two methods A and
    B, which nobody declared or probed: `c17Holds` fails of `modelObsWire` under both routers.
    Only `Spec.methodToken` fails of `C17_holds_*_wire_partial`. -/
def tblComma (k : RouterKind) : Config :=
  { router := k, services := [{ id := 0, root := "/r".toList, routes := [rt 0 "A,B" "/x"] }] }

theorem C17_wire_witness :
    let req : Req := { method := "OPTIONS".toList, path := "/r/x".toList }
    let ms : List Str := ["A,B".toList, "OPTIONS".toList]
    (tblComma .jsr).wfTemplates = true ∧ Jsr.rootsRead (tblComma .jsr) = true ∧ Spec.wfCommon (tblComma .jsr) = true ∧
    Spec.rootsDistinct (tblComma .jsr) = true ∧ Spec.rootsClean (tblComma .jsr) = true ∧ Spec.normalPath req.path = true ∧
    Spec.severalRootsMatch E0 (tblComma .jsr) req.path = false ∧
    (∀ s ∈ (tblComma .jsr).services, ∀ rd ∈ s.routes, rd.method ∈ ms) ∧
    Spec.methodToken "A,B".toList = false ∧
    Spec.c17Holds (Spec.modelObs E0 (tblComma .jsr) req ms) = true ∧
    Spec.c17Holds (Spec.modelObs E0 (tblComma .curly) req ms) = true ∧
    (Spec.modelObsWire E0 (tblComma .jsr) req ms).optAllow = ["A".toList, "B".toList] ∧
    Spec.c17Holds (Spec.modelObsWire E0 (tblComma .jsr) req ms) = false ∧
    Spec.c17Holds (Spec.modelObsWire E0 (tblComma .curly) req ms) = false := by
  decide +kernel

/-- **F20 on the driver's predicate** (the table of `C14_options_wildcard_witness`): root `/a` with
    `GET /{t:*}`, URL `/a/`.  CurlyRouter answers GET with 404 while the filter lists GET: the
    model's observation falsifies `c17Holds` although one root matches, the path is normal and no
    panic is possible — the table is outside the common fragment (`wfCommon = false`), which is why
    `C17_holds_curly_partial` keeps `wfCommon`.  Under RouterJSR311 the same table is covered by
    `C17_holds_jsr_partial` (GET runs the route). -/
def wild (k : RouterKind) : Config :=
  { router := k, services := [{ id := 0, root := "/a".toList, routes := [rt 1 "GET" "/{t:*}"] }] }

theorem C17_F20_witness :
    let req : Req := { method := "OPTIONS".toList, path := "/a/".toList }
    let ms : List Str := ["GET".toList, "OPTIONS".toList]
    (wild .curly).wfTemplates = true ∧ Curly.rootsRead (wild .curly) = true ∧ Spec.wfCommon (wild .curly) = false ∧
    Spec.rootsDistinct (wild .curly) = true ∧ Spec.rootsClean (wild .curly) = true ∧ Spec.normalPath req.path = true ∧
    Spec.severalRootsMatch E0 (wild .curly) req.path = false ∧
    (Spec.modelObs E0 (wild .curly) req ms).probes = [("GET".toList, 404, none), ("OPTIONS".toList, 404, none)] ∧
    (Spec.modelObs E0 (wild .curly) req ms).optAllow = ["GET".toList] ∧
    Spec.c17Holds (Spec.modelObs E0 (wild .curly) req ms) = false ∧
    (Spec.modelObs E0 (wild .jsr) req ms).probes = [("GET".toList, 200, none), ("OPTIONS".toList, 405, some ["GET".toList])] ∧
    Spec.c17Holds (Spec.modelObs E0 (wild .jsr) req ms) = true := by
  decide +kernel

/-- … and that last line is an instance of the theorem (tail wildcard, RouterJSR311) -/
example : Spec.c17Holds (Spec.modelObs E0 (wild .jsr) { method := "OPTIONS".toList, path := "/a/".toList }
    ["GET".toList, "OPTIONS".toList]) = true :=
  (C17_holds_jsr_partial E0 (wild .jsr) rfl (by decide +kernel) (by decide +kernel) _ (by decide +kernel)
    (by decide +kernel) _ (by decide +kernel) (by decide +kernel)).1

end Restful.C17Holds

-- the ties of the imperative functions this property's model rests on (Lemmas/TieImp*.lean):
-- also: Restful.TieImp.template_to_regex
-- also: Restful.TieImp.compute_allowed_methods
-- also: Restful.TieImp.detect_route
-- also: Restful.TieImp.options_filter
