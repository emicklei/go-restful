/-
C08 — CORS headers are granted only to allowed origins, echoing the origin.

`Cors.corsOut lower E cc tbl rq` is the model of `CrossOriginResourceSharing.Filter`
(cors_filter.go:47): the headers it adds in order and whether it passes the request on; `none`
only when the route table does not compile (no such container exists).  `lower` stands for
`strings.ToLower`, the predicate is an arbitrary function: every theorem holds for all of them,
for every origin string, allowed list, cookie setting, method and route table.

The predicate of the property is `Spec.c08Holds` (Spec/Cors.lean); the driver evaluates it on every
real observation, `C08_spec` proves it of the model's outcome — in front of an ARBITRARY rest of the
container (`Cors.Rest`, Lemmas/Cors.lean): "processed exactly as if the filter were absent" is
derived from the model for every such rest (`C08_as_if_absent`); for allowed origins the facts about
the code behind the filter that only the harness's twin comparison can establish are an explicit
hypothesis (`Cors.RestOK`).
-/
import Restful.Lemmas.Cors
import Restful.Lemmas.DecideLits
import Restful.Lemmas.StateShape
import Restful.Lemmas.TieCors
import Restful.Lemmas.TieImpFilters
namespace Restful
namespace Props
open Str Cors
variable (lower : Str → Str) (E : ReEnv)

/-- Any header added ⇒ the origin is not empty and is allowed in the declarative sense.  The
    security content is the second disjunct: equality of the WHOLE lowered entry — a prefix, suffix
    or pattern match of an entry is not among the ways to be allowed.  (The predicate is asked about
    the lowered origin when the list is empty, about the original origin otherwise: as the code
    has it.) -/
theorem C08_grant (cc : CorsCfg) (tbl : Config) (rq : CorsReq) (out : Out)
    (h : corsOut lower E cc tbl rq = some out) (hne : out.added ≠ []) :
    rq.origin ≠ [] ∧
    ((cc.allowedDomains = [] ∧ cc.pred = none)
     ∨ (∃ d ∈ cc.allowedDomains, lower d = lower rq.origin)
     ∨ sDotStar ∈ cc.allowedDomains
     ∨ (∃ f, cc.pred = some f ∧
          ((cc.allowedDomains = [] ∧ f (lower rq.origin) = true) ∨ (cc.allowedDomains ≠ [] ∧ f rq.origin = true)))) := by
  rcases corsOut_cases lower E cc tbl rq out h with ⟨_, rfl⟩ | ⟨ha, _⟩ | ⟨ha, _⟩
  · exact absurd rfl hne
  · exact (originAllowed_iff lower cc rq.origin).mp ha
  · exact (originAllowed_iff lower cc rq.origin).mp ha

/-- The contrapositive, where a prefix or substring match of an entry would be the hole (the origin
    `http://good.example.evil.test` against the entry `http://good.example`): with a non-empty list
    without wildcard, no predicate, and no entry equal to the whole origin ignoring case — however
    much of an entry the origin contains — nothing is added and the request is passed on. -/
theorem C08_no_partial_match (cc : CorsCfg) (tbl : Config) (rq : CorsReq)
    (hp : cc.pred = none) (hl : cc.allowedDomains ≠ [])
    (hd : ∀ d ∈ cc.allowedDomains, d ≠ sDotStar ∧ lower d ≠ lower rq.origin) :
    corsOut lower E cc tbl rq = some ⟨[], true⟩ := by
  apply corsOut_not_allowed
  cases ha : Spec.originAllowed lower cc rq.origin with
  | false => rfl
  | true =>
    obtain ⟨_, h | ⟨d, hm, he⟩ | h | ⟨f, hf, _⟩⟩ := (originAllowed_iff lower cc rq.origin).mp ha
    · exact absurd h.1 hl
    · exact absurd he (hd d hm).2
    · exact absurd rfl (hd _ h).1
    · rw [hp] at hf; cases hf

/-- When anything is granted: exactly one Allow-Origin, equal to the request's Origin verbatim;
    Allow-Credentials only if cookies are configured; no header name twice. -/
theorem C08_echo (cc : CorsCfg) (tbl : Config) (rq : CorsReq) (out : Out)
    (h : corsOut lower E cc tbl rq = some out) (hne : out.added ≠ []) :
    Spec.valuesOf hAllowOrigin out.added = [rq.origin] ∧
    (Spec.valuesOf hAllowCredentials out.added ≠ [] → cc.cookies = true) ∧
    (out.added.map (·.1)).Nodup := by
  rcases corsOut_cases lower E cc tbl rq out h with ⟨_, rfl⟩ | ⟨_, _, rfl⟩ | ⟨_, _, _, hadd⟩
  · exact absurd rfl hne
  · have f := actualHeaders_facts cc rq
    exact ⟨f.1, actualHeaders_cookies cc rq, f.2.2.2.2.2.2⟩
  · rw [hadd] at hne ⊢
    split at hne
    · have f := preflightGrant_facts cc (Spec.methodsFor E cc tbl rq.path) rq
      rw [if_pos ‹_›]
      exact ⟨f.1, f.2.1, f.2.2.2.2⟩
    · exact absurd rfl hne

/-- Requests without an Origin, or from a disallowed origin: nothing is added and the request is
    passed on — the filter is the identity on the chain. -/
theorem C08_transparent (cc : CorsCfg) (tbl : Config) (rq : CorsReq)
    (h : rq.origin = [] ∨ Spec.originAllowed lower cc rq.origin = false) :
    corsOut lower E cc tbl rq = some ⟨[], true⟩ := by
  apply corsOut_not_allowed
  rcases h with h | h
  · rw [h]; simp [Spec.originAllowed]
  · exact h

/-- Connecting `C08_transparent` to "processed exactly as if the filter were absent" — DERIVED, not
    assumed: let `k` be ANY rest of the container (later filters, route function or the router's
    error answer; `Cors.Rest`, an arbitrary function of the header lines already on the response when
    control arrives).  For a request without Origin or from a disallowed origin the exchange of the
    container with the filter EQUALS the exchange of the twin without it (`k []`), so the harness's
    comparison of the two finds no extra header, no missing header, the same status, body and log. -/
theorem C08_as_if_absent (cc : CorsCfg) (tbl : Config) (rq : CorsReq)
    (h : rq.origin = [] ∨ Spec.originAllowed lower cc rq.origin = false) (k : Rest) :
    ∃ out, corsOut lower E cc tbl rq = some out ∧ withFilter k out = k [] ∧
      Spec.sameAsTwin (obsOf k out) = true :=
  ⟨⟨[], true⟩, C08_transparent lower E cc tbl rq h, rfl, sameAsTwin_observe_self (k [])⟩

/-- What the filter does to an exchange, for every request and every rest `k` of the container:
    EITHER it passes control on, and then it has added headers and done nothing else (the exchange is
    the rest of the chain started on a response carrying the added lines), OR it answers alone — and
    that only for a preflight from an allowed origin. -/
theorem C08_adds_headers_only (cc : CorsCfg) (tbl : Config) (rq : CorsReq) (out : Out)
    (h : corsOut lower E cc tbl rq = some out) (k : Rest) :
    (out.passOn = true ∧ withFilter k out = k out.added) ∨
    (out.passOn = false ∧ Spec.isPreflight rq = true ∧ Spec.originAllowed lower cc rq.origin = true ∧
      withFilter k out = answered out.added) := by
  rcases corsOut_cases lower E cc tbl rq out h with ⟨_, rfl⟩ | ⟨_, _, rfl⟩ | ⟨ha, hp, hpass, _⟩
  · exact .inl ⟨rfl, rfl⟩
  · exact .inl ⟨rfl, rfl⟩
  · exact .inr ⟨hpass, hp, ha, withFilter_answered k out hpass⟩

/-- When the filter chain is not reached at all (the ServeMux answered first), the filter is not
    called: real container and twin run the same code on the same request.  The predicate then
    demands the twin's response, and an exchange compared with itself has it. -/
theorem C08_not_reached (cc : CorsCfg) (rq : CorsReq) (e : Exch) :
    Spec.c08Holds lower cc rq { observe e e with reached := false } = true := by
  have h := sameAsTwin_observe_self e
  simpa [Spec.c08Holds, Spec.sameAsTwin, Spec.restSame] using h

/-- The property's predicate holds of the model's outcome, for every input and in front of every
    rest `k` of the container.

    The observation is `obsOf k out = observe (withFilter k out) (k [])`: the exchange with the filter
    compared, the way the harness compares, with the exchange of the twin.  NOTHING about the twin
    comparison is put in by hand:
    * for a request without Origin or from a disallowed origin the hypothesis `hk` is void —
      "exactly as if the filter were absent" is derived for arbitrary `k` (`C08_as_if_absent`);
    * for an allowed origin the predicate reads `extra` only, and `extra` is the filter's `added`
      provided the code behind the filter keeps those lines and sets no CORS header itself
      (`RestOK k`) — a hypothesis about user code that only the harness can check, and does. -/
theorem C08_spec (cc : CorsCfg) (tbl : Config) (rq : CorsReq) (out : Out)
    (h : corsOut lower E cc tbl rq = some out) (k : Rest)
    (hk : Spec.originAllowed lower cc rq.origin = true → RestOK k) :
    Spec.c08Holds lower cc rq (obsOf k out) = true := by
  rw [Spec.c08Holds]
  rcases corsOut_cases lower E cc tbl rq out h with ⟨ha, rfl⟩ | ⟨ha, hp, rfl⟩ | ⟨ha, hp, _⟩
  · -- no Origin / not allowed: derived, no hypothesis on `k`
    simpa [ha, obsOf, withFilter] using sameAsTwin_observe_self (k [])
  · -- actual request: passed on with exactly the actual-request headers
    obtain ⟨hperm, _, _, hre⟩ := obsOf_passOn k (hk ha) (Spec.actualHeaders cc rq)
    rw [hre, ha, hp]
    simpa using List.isPerm_iff.mpr hperm
  · -- preflight: answered alone; when granted, the echo
    obtain ⟨hex, _, hre⟩ := obsOf_preflight lower E cc tbl rq out ha hp h k (hk ha)
    rw [hre, ha, hp, hex]
    by_cases hne : out.added = []
    · simp [hne]
    · obtain ⟨h1, h2, h3⟩ := C08_echo lower E cc tbl rq out h hne
      have hc : ((Spec.valuesOf hAllowCredentials out.added).isEmpty || cc.cookies) = true := by
        cases hv : Spec.valuesOf hAllowCredentials out.added with
        | nil => rfl
        | cons a as => simp [h2 (by rw [hv]; simp)]
      simp [h1, hc, h3]

/-- non-vacuity: a mixed-case origin equal to a whole entry ignoring case is granted, echoed
    verbatim, with credentials; an origin that merely has an entry as a prefix is not. -/
example :
    let cc : CorsCfg := { allowedDomains := ["http://good.example".toList], cookies := true, maxAge := 3600 }
    let tbl : Config := { router := .curly, services := [] }
    let env : ReEnv := ⟨fun _ _ => true, fun _ _ => true⟩
    corsOut toLowerAscii env cc tbl { method := "GET".toList, path := "/x".toList, origin := "HTTP://Good.Example".toList } =
      some ⟨[(hAllowOrigin, "HTTP://Good.Example".toList), (hAllowCredentials, "true".toList), (hMaxAge, "3600".toList)], true⟩ ∧
    corsOut toLowerAscii env cc tbl { method := "GET".toList, path := "/x".toList, origin := "http://good.example.evil.test".toList } =
      some ⟨[], true⟩ ∧
    corsOut toLowerAscii env cc tbl { method := "GET".toList, path := "/x".toList, origin := "http://good.exampl".toList } =
      some ⟨[], true⟩ := by
  dsimp only
  refine ⟨?_, corsOut_not_allowed _ _ _ _ _ (by decide_lits), corsOut_not_allowed _ _ _ _ _ (by decide_lits)⟩
  rw [corsOut_actual _ _ _ _ _ (by decide_lits) (by decide_lits)]
  -- the list: whatever stands between the goal and a header constant, so that every literal is in sight
  decide_lits [Spec.actualHeaders, hAllowOrigin, hAllowCredentials, hMaxAge]

/-- non-vacuity of the predicate's two arguments: with an empty list the predicate sees the
    lowered origin, with a non-empty list the original one. -/
example :
    let f : Str → Bool := fun o => o == "http://MiXed.example".toList
    let tbl : Config := { router := .curly, services := [] }
    let env : ReEnv := ⟨fun _ _ => true, fun _ _ => true⟩
    let rq : CorsReq := { method := "GET".toList, path := "/".toList, origin := "http://MiXed.example".toList }
    corsOut toLowerAscii env { pred := some f } tbl rq = some ⟨[], true⟩ ∧
    corsOut toLowerAscii env { pred := some f, allowedDomains := ["http://other.example".toList] } tbl rq =
      some ⟨[(hAllowOrigin, "http://MiXed.example".toList)], true⟩ := by
  dsimp only
  refine ⟨corsOut_not_allowed _ _ _ _ _ (by decide_lits), ?_⟩
  rw [corsOut_actual _ _ _ _ _ (by decide_lits) (by decide_lits)]
  decide_lits [Spec.actualHeaders, hAllowOrigin]

/-! ### non-vacuity (audit): the theorems instantiated (all hypotheses at once) on a filter with two
    allowed domains, credentials and max-age, in front of a two-service table; `Spec.c08Holds` falsified -/
namespace C08Example

def env : ReEnv := ⟨fun _ _ => true, fun _ _ => true⟩
def tbl : Config := { router := .curly, services :=
  [{ id := 0, root := "/a".toList, routes := [{ id := 0, method := "GET".toList, relPath := "".toList, consumes := [], produces := [], conds := [], noct := [] }] },
   { id := 1, root := "/b".toList, routes := [{ id := 1, method := "PUT".toList, relPath := "/{id}".toList, consumes := [], produces := [], conds := [], noct := [] }] }] }
def cc : CorsCfg :=
  { allowedDomains := ["http://other.example".toList, "http://good.example".toList], cookies := true, maxAge := 3600 }
def ccNoCookies : CorsCfg := { allowedDomains := ["http://other.example".toList, "http://good.example".toList] }
def rq (origin : String) : CorsReq := { method := "GET".toList, path := "/a".toList, origin := origin.toList }
/-- equals the second entry ignoring case -/
def good : CorsReq := rq "HTTP://Good.Example"
/-- has the second entry as a proper prefix -/
def evil : CorsReq := rq "http://good.example.evil.test"
def outGood : Out :=
  ⟨[(hAllowOrigin, "HTTP://Good.Example".toList), (hAllowCredentials, "true".toList), (hMaxAge, "3600".toList)], true⟩

/-- a preflight from the same origin for GET at `/a` (computed methods, no requested header) -/
def pre : CorsReq := { method := "OPTIONS".toList, path := "/a".toList, origin := "HTTP://Good.Example".toList, acrm := "GET".toList }
def outPre : Out :=
  ⟨[(hAllowMethods, "GET".toList), (hAllowHeaders, []), (hAllowOrigin, "HTTP://Good.Example".toList),
    (hAllowCredentials, "true".toList), (hMaxAge, "3600".toList)], false⟩

/-- a rest of the container as the harness builds it: the logging filter behind the CORS filter,
    then the route function, which ADDS an `X-Handler` line and writes status and body -/
def k : Rest := exRest "0".toList 200 "route 0".toList ["h:0:0".toList]
/-- a rest of the container that does NOT satisfy `RestOK`: it drops whatever was on the response -/
def kDrop : Rest := fun _ => ⟨[("X-Handler".toList, "0".toList)], 200, "route 0".toList, ["post".toList]⟩

theorem good_allowed : Spec.originAllowed toLowerAscii cc good.origin = true := by decide_lits [cc, good, rq]
theorem good_out : corsOut toLowerAscii env cc tbl good = some outGood := by
  rw [corsOut_actual toLowerAscii env cc tbl good good_allowed (by decide_lits [good, rq])]
  decide_lits [Spec.actualHeaders, cc, good, rq, outGood, hAllowOrigin, hAllowCredentials, hMaxAge]
theorem pre_allowed : Spec.originAllowed toLowerAscii cc pre.origin = true := by decide_lits [cc, pre]
theorem pre_out : corsOut toLowerAscii env cc tbl pre = some outPre := by
  rw [corsOut_preflight_eq toLowerAscii env cc tbl pre pre_allowed (by decide_lits [pre])]
  decide_lits [preflightGrant, Spec.actualHeaders, cc, tbl, pre, outPre, hAllowMethods, hAllowHeaders, hAllowOrigin,
    hAllowCredentials, hMaxAge]
theorem evil_notAllowed : Spec.originAllowed toLowerAscii cc evil.origin = false := by decide_lits [cc, evil, rq]
theorem evil_out : corsOut toLowerAscii env cc tbl evil = some ⟨[], true⟩ :=
  corsOut_not_allowed toLowerAscii env cc tbl evil evil_notAllowed

example : corsOut toLowerAscii env cc tbl good = some outGood ∧ outGood.added ≠ [] ∧
    corsOut toLowerAscii env cc tbl pre = some outPre := ⟨good_out, List.cons_ne_nil _ _, pre_out⟩
/-- `C08_grant`, `C08_echo`, `C08_spec`: hypotheses `h` and `hne` hold of the granted request -/
example := C08_grant toLowerAscii env cc tbl good outGood good_out (List.cons_ne_nil _ _)
example := C08_echo toLowerAscii env cc tbl good outGood good_out (List.cons_ne_nil _ _)
example : Spec.c08Holds toLowerAscii cc good (obsOf k outGood) = true :=
  C08_spec toLowerAscii env cc tbl good outGood good_out k (fun _ => exRest_ok _ _ _ _)
example : Spec.c08Holds toLowerAscii cc pre (obsOf k outPre) = true :=
  C08_spec toLowerAscii env cc tbl pre outPre pre_out k (fun _ => exRest_ok _ _ _ _)
/-- for the disallowed origin `C08_spec` needs nothing of the rest of the container: here with a rest
    that violates `RestOK` (the hypothesis `hk` is void — its premise is false) -/
example : Spec.c08Holds toLowerAscii cc evil (obsOf kDrop ⟨[], true⟩) = true :=
  C08_spec toLowerAscii env cc tbl evil ⟨[], true⟩ evil_out kDrop (fun h => nomatch evil_notAllowed.symm.trans h)
/-- … while for the allowed origin the hypothesis is needed: behind `kDrop` the grant is lost and the
    predicate is false of that observation -/
example : Spec.c08Holds toLowerAscii cc good (obsOf kDrop outGood) = false := by
  decide_lits [Spec.c08Holds, Spec.actualHeaders, obsOf, cc, good, rq, kDrop, outGood, hAllowOrigin, hAllowCredentials,
    hMaxAge]
/-- `C08_no_partial_match`: no predicate, a non-empty list, no entry is the wildcard or the whole origin -/
example : corsOut toLowerAscii env cc tbl evil = some ⟨[], true⟩ :=
  C08_no_partial_match toLowerAscii env cc tbl evil rfl (List.cons_ne_nil _ _) (by decide_lits [cc, evil, rq, sDotStar])
/-- `C08_transparent`, both alternatives of its hypothesis; `C08_as_if_absent`, `C08_adds_headers_only`
    (both alternatives), `C08_not_reached` -/
example := C08_transparent toLowerAscii env cc tbl evil (.inr evil_notAllowed)
example := C08_transparent toLowerAscii env cc tbl (rq "") (.inl rfl)
example := C08_as_if_absent toLowerAscii env cc tbl evil (.inr evil_notAllowed) kDrop
example := C08_as_if_absent toLowerAscii env cc tbl (rq "") (.inl rfl) k
example := C08_adds_headers_only toLowerAscii env cc tbl good outGood good_out k
example := C08_adds_headers_only toLowerAscii env cc tbl pre outPre pre_out k
example := C08_not_reached toLowerAscii cc good (k [])

/-- the observations spelled out: what `obsOf` computes from the two exchanges -/
def oGood : Spec.CorsObs :=
  { reached := true, extra := outGood.added, missing := 0, status := 200, twinStatus := 200,
    bodySame := true, logSame := true, later := true }
def oPre : Spec.CorsObs :=
  { reached := true, extra := outPre.added, missing := 1, status := 200, twinStatus := 200,
    bodySame := false, logSame := false, later := false }
def oNone : Spec.CorsObs :=
  { reached := true, extra := [], missing := 0, status := 200, twinStatus := 200,
    bodySame := true, logSame := true, later := true }
example : obsOf k outGood = oGood ∧ obsOf k outPre = oPre ∧ obsOf k ⟨[], true⟩ = oNone ∧
    obsOf kDrop ⟨[], true⟩ = oNone := by
  decide_lits [obsOf, k, kDrop, exRest, oGood, oPre, oNone, outGood, outPre, hAllowMethods, hAllowHeaders, hAllowOrigin,
    hAllowCredentials, hMaxAge]

/-- `Spec.c08Holds` is not trivially true.

    ACTUAL request from the allowed origin (the grant is due, exactly as configured): accepted in any
    order; falsified by no header at all, and by every configured header except Allow-Origin;
    Allow-Origin lower-cased (the spelling of the list entry instead of the request's); Allow-Origin
    twice; `*` instead of the origin; credentials configured but missing; credentials that are not
    configured; Max-Age missing, or with another value; an Expose-Headers that is not configured.

    PREFLIGHT from the allowed origin (whether it is granted is C09's): accepts the grant and the
    refusal; a grant is falsified by the lower-cased origin, Allow-Origin twice, no
    Allow-Origin, credentials that are not configured.

    DISALLOWED origin / no Origin: accepts the twin's response only — falsified by an Allow-Origin
    echo, by any other CORS header, by another status, another log, another body, a header missing.
    The same when the filter chain was not reached. -/
example :
    Spec.c08Holds toLowerAscii cc good oGood = true ∧
    Spec.c08Holds toLowerAscii cc good { oGood with extra := oGood.extra.reverse } = true ∧
    Spec.c08Holds toLowerAscii cc good { oGood with extra := [] } = false ∧
    Spec.c08Holds toLowerAscii cc good { oGood with extra := [(hAllowCredentials, "true".toList), (hMaxAge, "3600".toList)] } = false ∧
    Spec.c08Holds toLowerAscii cc good { oGood with extra :=
      [(hAllowOrigin, "http://good.example".toList), (hAllowCredentials, "true".toList), (hMaxAge, "3600".toList)] } = false ∧
    Spec.c08Holds toLowerAscii cc good { oGood with extra := oGood.extra ++ [(hAllowOrigin, "HTTP://Good.Example".toList)] } = false ∧
    Spec.c08Holds toLowerAscii cc good { oGood with extra :=
      [(hAllowOrigin, "*".toList), (hAllowCredentials, "true".toList), (hMaxAge, "3600".toList)] } = false ∧
    Spec.c08Holds toLowerAscii cc good { oGood with extra := [(hAllowOrigin, good.origin), (hMaxAge, "3600".toList)] } = false ∧
    Spec.c08Holds toLowerAscii ccNoCookies good oGood = false ∧
    Spec.c08Holds toLowerAscii cc good { oGood with extra := [(hAllowOrigin, good.origin), (hAllowCredentials, "true".toList)] } = false ∧
    Spec.c08Holds toLowerAscii cc good { oGood with extra :=
      [(hAllowOrigin, good.origin), (hAllowCredentials, "true".toList), (hMaxAge, "60".toList)] } = false ∧
    Spec.c08Holds toLowerAscii cc good { oGood with extra := (hExposeHeaders, "X-A".toList) :: oGood.extra } = false ∧
    Spec.c08Holds toLowerAscii cc pre oPre = true ∧
    Spec.c08Holds toLowerAscii cc pre { oPre with extra := [] } = true ∧
    Spec.c08Holds toLowerAscii cc pre { oPre with extra :=
      [(hAllowMethods, "GET".toList), (hAllowHeaders, []), (hAllowOrigin, "http://good.example".toList)] } = false ∧
    Spec.c08Holds toLowerAscii cc pre { oPre with extra := oPre.extra ++ [(hAllowOrigin, pre.origin)] } = false ∧
    Spec.c08Holds toLowerAscii cc pre { oPre with extra := [(hAllowMethods, "GET".toList), (hAllowHeaders, [])] } = false ∧
    Spec.c08Holds toLowerAscii ccNoCookies pre oPre = false ∧
    Spec.c08Holds toLowerAscii cc evil oNone = true ∧
    Spec.c08Holds toLowerAscii cc evil { oNone with extra := [(hAllowOrigin, evil.origin)] } = false ∧
    Spec.c08Holds toLowerAscii cc evil { oNone with extra := [(hMaxAge, "3600".toList)] } = false ∧
    Spec.c08Holds toLowerAscii cc evil { oNone with status := 403 } = false ∧
    Spec.c08Holds toLowerAscii cc evil { oNone with logSame := false } = false ∧
    Spec.c08Holds toLowerAscii cc evil { oNone with bodySame := false } = false ∧
    Spec.c08Holds toLowerAscii cc (rq "") { oNone with extra := [(hAllowOrigin, [])] } = false ∧
    Spec.c08Holds toLowerAscii cc (rq "") { oNone with missing := 1 } = false ∧
    Spec.c08Holds toLowerAscii cc good { oNone with reached := false } = true ∧
    Spec.c08Holds toLowerAscii cc good { oGood with reached := false } = false := by
  decide +kernel

/-- The three ways a grant can be wrong that matter most, each rejected by `Spec.c08Holds` on the actual
    request and on the preflight: Allow-Origin twice; no Allow-Origin (no header at all, or every other
    configured header); Allow-Origin lower-cased, where the request said `HTTP://Good.Example`.  A
    preflight that must be granted and is not is C09's clause: `c08Holds` accepts a refused preflight
    from an allowed origin, `c09Holds` decides whether the refusal was right. -/
example :
    Spec.c08Holds toLowerAscii cc good { oGood with extra := oGood.extra ++ [(hAllowOrigin, good.origin)] } = false ∧
    Spec.c08Holds toLowerAscii cc pre { oPre with extra := oPre.extra ++ [(hAllowOrigin, pre.origin)] } = false ∧
    Spec.c08Holds toLowerAscii cc good { oGood with extra := [] } = false ∧
    Spec.c08Holds toLowerAscii cc good { oGood with extra := [(hAllowCredentials, "true".toList), (hMaxAge, "3600".toList)] } = false ∧
    Spec.c08Holds toLowerAscii cc good { oGood with extra :=
      [(hAllowOrigin, toLowerAscii good.origin), (hAllowCredentials, "true".toList), (hMaxAge, "3600".toList)] } = false ∧
    Spec.c08Holds toLowerAscii cc pre { oPre with extra :=
      [(hAllowMethods, "GET".toList), (hAllowHeaders, []), (hAllowOrigin, toLowerAscii pre.origin),
       (hAllowCredentials, "true".toList), (hMaxAge, "3600".toList)] } = false ∧
    toLowerAscii good.origin ≠ good.origin ∧
    Spec.c08Holds toLowerAscii cc pre { oPre with extra := [] } = true := by
  decide +kernel

end C08Example

/-! The frame condition (Lemmas/StateShape.lean): the code has exactly the state this property's model
    accounts for — no further package-level variable, struct type or field; constants as modelled. -/
-- also: Restful.StateShape.globals_shape
-- also: Restful.StateShape.consts_shape
-- also: Restful.StateShape.cors_shape

/-! The regenerated tie (tools/gotrans → Gen/Translated.lean, Lemmas/Tie*.lean): the origin test this
    property's model contains (`Cors.isOriginAllowed`: the search loop over `AllowedDomains`, the two
    calls of `AllowedDomainFunc` and their arguments, `strings.ToLower`) IS the one translated from
    cors_filter.go on this run. -/
-- also: Restful.Tie.cors_domain_loop
-- also: Restful.Tie.cors_is_origin_allowed

end Props
end Restful

-- the imperative `Filter`, tied to its translation by tools/goimp:
-- also: Restful.TieImp.cors_filter
