/-
C15 — response status and length bookkeeping match what was actually sent.

`Resp.run env st calls` is the model of `restful.Response` (response.go, entity_accessors.go) over
an arbitrary underlying writer `env : Nat → (accepted, err)`, `err` the error VALUE it returned (a
tag, 0 = nil) (tied to /repo by the
correspondence stream `response`).  `Spec.c15Holds` is the property as a predicate on an observed
history; the driver evaluates the same predicate on what the real code did.

All theorems quantify over every call sequence, every initial setting, every chunking the
marshallers may produce and every behaviour of the underlying writer (no relation between offered
and accepted sizes is assumed; failures may start anywhere, stop again, accept any partial count).

The property excludes histories in which the status is set twice or after a body byte.  There the
code keeps the LAST status (`C15_status_last_set`) whereas `net/http` and `ResponseRecorder` keep
the FIRST; `C15_discipline_needed_*` exhibit both situations on the model, so the hypothesis
`disciplinedCalls` of `C15_bookkeeping` cannot be dropped.  `validStatus` (100..999, what
`net/http` accepts without panicking) is needed because `StatusCode()` maps a stored 0 to 200
(`C15_status_zero_witness`).  No deviation of the code from C15 inside its quantifier was found:
there is no `_partial` theorem in this file.

The error clause is proved with the error's identity (`C15_error_value`): the call in which an
underlying `Write` failed returns THE value that `Write` returned.  Its quantifier is "the underlying
writer fails" — as the call's only failure: a value that does not marshal (the marshaller reports an
error of its own) gives the call a second reason to fail, and then `xml.Encoder.Encode` may return
its own error although a flush failed first (`C15_own_marshal_error_boundary`, outside the
quantifier; such a call still returns a non-nil error: `C15_error`).  "Every entity marshals" is the
decidable condition `Spec.marshalClean` on the call sequence; per call it is `ownErr = false`.
-/
import Restful.Lemmas.Response
import Restful.Lemmas.StateShape
import Restful.Lemmas.TieResponse
namespace Restful
namespace Props
open Resp Spec

/-- Everything the model does satisfies the property predicate: after every call (and for the
    filter reading the getters after the handler) `StatusCode()`/`ContentLength()` equal the status
    the underlying writer received (200 if none) / the bytes it accepted whenever the status was
    set at most once and before any body byte; and a call in which an underlying write failed
    returns an error, with only accepted bytes counted. -/
theorem C15 (coding : Bool) (env : Env) (s : Settings) (calls : List Call) :
    Spec.c15Holds (Spec.modelHistory coding env s calls) = true := by
  unfold Spec.c15Holds Spec.modelHistory
  simp only [Bool.and_eq_true]
  refine ⟨run_callsOK coding env calls _ [] (Inv_init s), ?_⟩
  simp only [finalOK, allEvents_run]
  exact Inv_bookkeeping (Inv_run env s calls)

/-- The bookkeeping law in explicit form.  For every call sequence obeying the discipline (a
    decidable predicate on the sequence and the initial settings, independent of the writer), every
    underlying writer: what the writer received obeys the discipline too, `StatusCode()` is the
    status it received (200 if none) and `ContentLength()` is the number of bytes it accepted. -/
theorem C15_bookkeeping (env : Env) (s : Settings) (calls : List Call)
    (hd : Spec.disciplinedCalls s calls = true) :
    let fin := finalState env (State.init s) calls
    let evs := eventsOf env (State.init s) calls
    Spec.discipline evs = true ∧ fin.StatusCode = Spec.effectiveStatus evs ∧
      fin.ContentLength = Spec.acceptedBytes evs := by
  intro fin evs
  have hdisc : Spec.discipline evs = true :=
    primDiscipline_sublist (events_sublist_planned env calls (State.init s)) hd
  have hi := Inv_run env s calls
  refine ⟨hdisc, ?_, hi.1⟩
  simp only [State.StatusCode, fin, hi.2]
  exact discipline_status evs hdisc

/-- The length half needs no discipline at all: `ContentLength()` is always the number of bytes
    the underlying writer accepted — counted on the events and, equivalently, on the environment. -/
theorem C15_length_always (env : Env) (s : Settings) (calls : List Call) :
    let fin := finalState env (State.init s) calls
    fin.ContentLength = Spec.acceptedBytes (eventsOf env (State.init s) calls) :=
  (Inv_run env s calls).1

/-- What the code does with the status in general: the last status handed to `WriteHeader` wins
    (200 before the first). -/
theorem C15_status_last_set (env : Env) (s : Settings) (calls : List Call) :
    (finalState env (State.init s) calls).statusCode = lastStatus 200 (eventsOf env (State.init s) calls) :=
  (Inv_run env s calls).2

/-- The error law, with the error's identity.  If the k-th `Write` call of the underlying writer was
    made and failed, then the high-level call that made it returned an error, that write was the
    last thing the call did, `ContentLength()` after the call is exactly what the writer accepted in
    writes 0..k, and — when the value handed to the call marshals (`ownErr = false`: the writer's
    failure is the call's only failure) — the error the call returned is THE error value that `Write`
    returned, `(env k).err`.  Exactly: the call returns that value, or, only for a value whose
    marshaller reports an error of its own, that other error. -/
theorem C15_error_value (env : Env) (s : Settings) (calls : List Call) (k : Nat)
    (hk : k < (finalState env (State.init s) calls).writes) (hf : (env k).failed = true) :
    ∃ r ∈ run env (State.init s) calls,
      r.firstWrite ≤ k ∧ k + 1 = r.firstWrite + Spec.writeCount r.events ∧
      r.retErr = true ∧ r.length = envAccepted env (k + 1) ∧
      (r.ownErr = false → r.ret = .writer (env k).err) ∧
      (r.ret = .writer (env k).err ∨ (r.ownErr = true ∧ r.ret = .other)) := by
  obtain ⟨r, hr, h1, h2, _, h4, h5, h6⟩ :=
    run_error env calls (State.init s) k rfl (Nat.zero_le k) hk hf
  refine ⟨r, hr, h1, h2, h4, h5, ?_, h6⟩
  exact fun ho => h6.resolve_right fun h => by simp [ho] at h

/-- the same under the condition on the whole sequence: every entity marshals (`Spec.marshalClean`,
    decidable, independent of the writer) — then every failing `Write` surfaces as itself -/
theorem C15_error_value_clean (env : Env) (s : Settings) (calls : List Call) (k : Nat)
    (hm : Spec.marshalClean s calls = true)
    (hk : k < (finalState env (State.init s) calls).writes) (hf : (env k).failed = true) :
    ∃ r ∈ run env (State.init s) calls,
      r.firstWrite ≤ k ∧ k + 1 = r.firstWrite + Spec.writeCount r.events ∧
      r.ret = .writer (env k).err ∧ r.length = envAccepted env (k + 1) := by
  obtain ⟨r, hr, h1, h2, _, h4, h5, _⟩ := C15_error_value env s calls k hk hf
  exact ⟨r, hr, h1, h2, h5 (run_ownErr_clean env calls (State.init s) hm r hr), h4⟩

/-- The error law without the error's identity (a corollary): the call returned a non-nil error —
    this half needs no condition on the values. -/
theorem C15_error (env : Env) (s : Settings) (calls : List Call) (k : Nat)
    (hk : k < (finalState env (State.init s) calls).writes) (hf : (env k).failed = true) :
    ∃ r ∈ run env (State.init s) calls,
      r.firstWrite ≤ k ∧ k + 1 = r.firstWrite + Spec.writeCount r.events ∧
      r.retErr = true ∧ r.length = envAccepted env (k + 1) := by
  obtain ⟨r, hr, h1, h2, h3, h4, _⟩ := C15_error_value env s calls k hk hf
  exact ⟨r, hr, h1, h2, h3, h4⟩

/-- The same per call, on the events: a failed write is the last event of its call and makes the
    call return an error. -/
theorem C15_error_events (env : Env) (s : Settings) (calls : List Call) :
    ∀ r ∈ run env (State.init s) calls,
      failsOnlyLast r.events = true ∧ (r.events.any Spec.failedWrite = true → r.retErr = true) :=
  run_error_events env calls (State.init s)

/-! ### why the hypotheses are there (these are not deviations: the property excludes them) -/

/-- **Boundary example — outside the quantifier.**  A value that does not marshal: `xml.Encoder`
    fills its 4096-byte buffer, the flush is triggered while it writes the start tag of a field no
    marshaller supports, the `Write` fails (error value 7), `Encode` goes on, runs into the
    unsupported field and returns ITS error (`encXmlMasked = [true]`; in the harness:
    `BadTail{Pad: text(2389)}`, replayed on the real code).  The call returns a non-nil error that
    is not the writer's.  This is `encoding/xml`'s choice between two errors of one call, not a
    deviation of the Response: `Spec.c15Holds` holds of the history (`ownErr`), and with a value
    that marshals the same failing write surfaces as itself. -/
theorem C15_own_marshal_error_boundary :
    let bad : Marshalled := { encXml := [4096], encXmlFails := true, encXmlMasked := [true] }
    let good : Marshalled := { encXml := [4096] }
    let env := Env.ofList [⟨0, 7⟩]
    let st := State.init { prettyPrint := false }
    Spec.marshalClean { prettyPrint := false } [Call.writeAsXml bad] = false ∧
      run env st [Call.writeAsXml bad] = [⟨[.header 200, .write 4096 0 7], 200, 0, .other, false, 0, true⟩] ∧
      Spec.c15Holds (Spec.modelHistory false env { prettyPrint := false } [Call.writeAsXml bad]) = true ∧
      Spec.marshalClean { prettyPrint := false } [Call.writeAsXml good] = true ∧
      run env st [Call.writeAsXml good] = [⟨[.header 200, .write 4096 0 7], 200, 0, .writer 7, false, 0, false⟩] := by
  decide +kernel

/-- status set twice: the code reports the last one, a `net/http`-like writer sent the first -/
theorem C15_discipline_needed_twice :
    let calls := [Call.writeHeader 404, Call.writeHeader 500]
    let env := Env.ofList []
    Spec.disciplinedCalls {} calls = false ∧
      (finalState env (State.init {}) calls).StatusCode = 500 ∧
      Spec.effectiveStatus (eventsOf env (State.init {}) calls) = 404 := by
  decide +kernel

/-- status set after a body byte: the code reports it, the writer had already sent 200 -/
theorem C15_discipline_needed_order :
    let calls := [Call.write 3, Call.writeErrorString 500 7]
    let env := Env.ofList [⟨3, 0⟩, ⟨7, 0⟩]
    Spec.disciplinedCalls {} calls = false ∧
      (finalState env (State.init {}) calls).StatusCode = 500 ∧
      Spec.effectiveStatus (eventsOf env (State.init {}) calls) = 200 := by
  decide +kernel

/-- `WriteHeader(0)` (on which `net/http` panics): `StatusCode()` answers 200, the writer got 0 -/
theorem C15_status_zero_witness :
    let calls := [Call.writeHeader 0]
    let env := Env.ofList []
    Spec.disciplinedCalls {} calls = false ∧
      (finalState env (State.init {}) calls).StatusCode = 200 ∧
      Spec.effectiveStatus (eventsOf env (State.init {}) calls) = 0 := by
  decide +kernel

/-! ### non-vacuity -/

/-- A disciplined sequence through the accessor lookup, pretty XML of 120 bytes (two writes), a partial failing
    write, and later writes that succeed again: status 201 throughout, the length counts 39 + 70,
    then + 50; the failing call returns an error. -/
example :
    let v : Marshalled := { prettyJson := some 100, prettyXml := some 120, encJson := [91], encXml := [4096, 37] }
    let calls := [Call.setAccept .xml, Call.writeHeaderAndEntity 201 v, Call.write 50, Call.prettyPrint false]
    let env := Env.ofList [⟨39, 0⟩, ⟨70, 5⟩, ⟨50, 0⟩]
    Spec.disciplinedCalls {} calls = true ∧ Spec.marshalClean {} calls = true ∧
      run env (State.init {}) calls =
        [⟨[], 200, 0, .nil, false, 0, false⟩,
         ⟨[.header 201, .write 39 39 0, .write 120 70 5], 201, 109, .writer 5, false, 0, false⟩,
         ⟨[.write 50 50 0], 201, 159, .nil, false, 2, false⟩,
         ⟨[], 201, 159, .nil, false, 3, false⟩] ∧
      Spec.c15Holds (Spec.modelHistory false env {} calls) = true := by
  decide +kernel

/-- an encoder that writes two chunks and then reports a marshalling error; no entity writer → 406;
    a body-only sequence keeps 200 -/
example :
    let v : Marshalled := { encXml := [4096, 10], encXmlFails := true }
    run (Env.ofList [⟨4096, 0⟩, ⟨10, 0⟩]) (State.init { prettyPrint := false }) [Call.writeAsXml v] =
        [⟨[.header 200, .write 4096 4096 0, .write 10 10 0], 200, 4106, .other, false, 0, true⟩] ∧
      run (Env.ofList []) (State.init {}) [Call.writeEntity { prettyJson := some 5 }] = [⟨[.header 406], 406, 0, .nil, false, 0, false⟩] ∧
      Spec.disciplinedCalls {} [Call.write 1, Call.write 0, Call.write 2] = true ∧
      (finalState (Env.ofList [⟨1, 0⟩, ⟨0, 0⟩, ⟨1, 9⟩]) (State.init {}) [Call.write 1, Call.write 0, Call.write 2]).ContentLength = 2 := by
  decide +kernel

/-- the predicate is not trivially true: it rejects a history whose length counts offered instead
    of accepted bytes, one whose status was not recorded, one whose failing call returned nil, one
    whose failing call returned an error that is not the writer's (another `Write`'s, or one made
    elsewhere) although its value marshals — and accepts that history with the writer's own error -/
example :
    Spec.c15Holds ⟨false, [⟨[.header 200, .write 10 4 3], 200, 10, .writer 3, false⟩], none⟩ = false ∧
    Spec.c15Holds ⟨false, [⟨[.header 500, .write 3 3 0], 200, 3, .nil, false⟩], none⟩ = false ∧
    Spec.c15Holds ⟨false, [⟨[.header 200, .write 10 4 3], 200, 4, .nil, false⟩], none⟩ = false ∧
    Spec.c15Holds ⟨false, [⟨[.header 200, .write 10 4 3], 200, 4, .writer 2, false⟩], none⟩ = false ∧
    Spec.c15Holds ⟨false, [⟨[.header 200, .write 10 4 3], 200, 4, .other, false⟩], none⟩ = false ∧
    Spec.c15Holds ⟨false, [⟨[.header 200, .write 10 4 3], 200, 4, .writer 3, false⟩], none⟩ = true ∧
    Spec.c15Holds ⟨false, [⟨[.header 200, .write 10 4 3], 200, 4, .other, true⟩], none⟩ = true ∧
    Spec.c15Holds ⟨true, [⟨[.header 200, .write 10 10 0], 200, 10, .nil, false⟩], some (200, 9)⟩ = false := by
  decide +kernel

/-! ### non-vacuity (audit): `C15_bookkeeping` and `C15_error` themselves on the history of the first
    example above (four calls, three underlying writes, the second of which fails after 70 of 120 bytes) -/
namespace C15Example

def v : Marshalled := { prettyJson := some 100, prettyXml := some 120, encJson := [91], encXml := [4096, 37] }
def calls : List Call := [Call.setAccept .xml, Call.writeHeaderAndEntity 201 v, Call.write 50, Call.prettyPrint false]
def env : Env := Env.ofList [⟨39, 0⟩, ⟨70, 5⟩, ⟨50, 0⟩]

theorem written : 1 < (finalState env (State.init {}) calls).writes := by decide +kernel
theorem failed : (env 1).failed = true := by decide +kernel

/-- `C15_bookkeeping`: its hypothesis holds, and the three quantities it equates are 201 / 159 here -/
example := C15_bookkeeping env {} calls (by decide +kernel)
example : (finalState env (State.init {}) calls).StatusCode = 201 ∧ (finalState env (State.init {}) calls).ContentLength = 159 ∧
    Spec.effectiveStatus (eventsOf env (State.init {}) calls) = 201 ∧ Spec.acceptedBytes (eventsOf env (State.init {}) calls) = 159 ∧
    (eventsOf env (State.init {}) calls).length = 4 := by
  decide +kernel

/-- `C15_error` at k = 1: that write was made (`hk`) and failed (`hf`); the call that made it
    returned an error with length 39 + 70 -/
example : (1 < (finalState env (State.init {}) calls).writes) ∧ (env 1).failed = true ∧ envAccepted env 2 = 109 :=
  ⟨written, failed, by decide +kernel⟩
example := C15_error env {} calls 1 written failed
/-- `C15_error_value` / `C15_error_value_clean` at k = 1 (every entity of the sequence marshals): the
    call returned the error value 5 the second `Write` returned -/
example := C15_error_value env {} calls 1 written failed
example := C15_error_value_clean env {} calls 1 (by decide +kernel) written failed
example : (env 1).err = 5 ∧ ((run env (State.init {}) calls)[1]?.map (·.ret)) = some (.writer 5) := by decide +kernel
example := C15_error_events env {} calls

/-- `C15` on that history, without and with a content coding underneath -/
example : Spec.c15Holds (Spec.modelHistory true env {} calls) = true := C15 true env {} calls

end C15Example

/-! The frame condition (Lemmas/StateShape.lean): the code has exactly the state this property's model
    accounts for — no further package-level variable, struct type or field; constants as modelled. -/
-- also: Restful.StateShape.globals_shape
-- also: Restful.StateShape.consts_shape
-- also: Restful.StateShape.response_shape

/-! The regenerated tie (tools/gotrans → Gen/Translated.lean, Lemmas/Tie*.lean): the decision
    functions this property's model contains ARE the ones translated from the Go sources on this run. -/
-- also: Restful.Tie.response_status_code

end Props
end Restful
