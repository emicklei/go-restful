/-
C14 — by default a trailing slash on the request path changes nothing.

"With the default path strategy, a request for a path p that does not end in `/` and a request for
p followed by `/` have the same outcome in every respect the framework decides: same status, same
selected route, same path parameter values, same Allow header."

(1) What `route` decides (status, selected route, path parameters, the Allow set of a 405).
CurlyRouter: both `SelectRoute` and `ExtractParameters` see the path only through
`tokenizePath`, which ignores one trailing slash (`C14_curly`: all templates, every path with a
character other than `/`).  RouterJSR311: the extra `/` is absorbed by the final group `(/.*)?`,
which the route stage accepts iff it is empty or `/` — provided no regex variable of the table
matches the empty segment (finding F19 otherwise) and no tail wildcard is involved (outside the
property for this router): `C14_jsr_partial(_B)`.

(2) The COMPUTED Allow header.  `Container.computeAllowedMethods` (container.go:435) produces the
Allow / Access-Control-Allow-Methods values of `Container.OPTIONSFilter` and the method list of a
CORS preflight when no methods are configured.  It never consults the router: it walks ALL services
with the compiled (RouterJSR311-style) expressions — root expression against the URL, its final
group against every route's own expression, the route's method is listed when the route's final
group is empty or `/`.  On every table (either router) that is `Jsr.slashSafe` — no compiled root or
route template contains a tail wildcard or a regex variable that matches the empty segment: the
hypothesis of (1) for RouterJSR311, needed of root and route templates because the function matches
with both — the computed list is the same for p and p/, and with it the whole answer of the OPTIONS
filter and of the CORS filter.  Neither half of the hypothesis can be dropped, for root or for route
templates (`C14_options_F19_witness`, `C14_options_wildcard_witness`).  Since `computeAllowedMethods`
ignores the router, the tail-wildcard witness also holds of a CurlyRouter container, where (1) holds
on all templates: there `GET /a` and `GET /a/` are both 404 but the OPTIONS filter lists nothing for
`/a` and `GET` for `/a/`.
-/
import Restful.Lemmas.Tokenize
import Restful.Lemmas.JsrSlash
import Restful.Lemmas.AllowSlash
import Restful.Spec.Slash
import Restful.Lemmas.StateShape
import Restful.Lemmas.TieImpPath
import Restful.Lemmas.TieImpMatch
import Restful.Lemmas.TieImpAllowed
import Restful.Lemmas.TieImpJsrSel
import Restful.Lemmas.DecideLits
namespace Restful
namespace Props
variable (E : ReEnv)

/-- CurlyRouter, all templates: p and p/ have the same outcome in every respect, for every p with a
    character other than `/` (`tokenizePath` gives `[""]` for the empty path and nothing for `/`) -/
theorem C14_curly (cfg : Config) (hk : cfg.router = .curly) (req : Req) (p : Str)
    (hp : ∃ c ∈ p, c ≠ '/') (hreq : req.path = p) :
    route E cfg { req with path := p ++ ['/'] } = route E cfg req := by
  unfold route routeTagged
  rw [hk]
  simp only
  unfold routeCurly Params.extract
  simp only [hreq, tokenize_trailing_slash p hp]
  rfl

/-
Full statement for RouterJSR311 (false on the current code, see `C14_F19_witness`):
  theorem C14_jsr (noTailWildcard cfg) (hp : p.getLast? ≠ some '/') :
      route E cfg { req with path := p ++ ['/'] } = route E cfg req
-/

/-- RouterJSR311, templates without a tail wildcard whose regex variables do not match the empty
    segment: p and p/ have the same outcome -/
theorem C14_jsr_partial (cfg : Config) (hk : cfg.router = .jsr) (hs : Jsr.slashSafe E cfg) (req : Req) (p : Str)
    (hp : p = [] ∨ p.getLast? ≠ some '/') (hreq : req.path = p) :
    route E cfg { req with path := p ++ ['/'] } = route E cfg req := by
  subst hreq
  unfold route routeTagged
  rw [hk]
  exact Jsr.route_trailing_slash E cfg hs req (.of_or hp)

theorem tokSlashSafe_of_B {t : Jsr.JTok} (h : Spec.jtokSlashSafeB E t = true) : Jsr.tokSlashSafe E t := by
  cases t <;> simp_all [Spec.jtokSlashSafeB, Jsr.tokSlashSafe]

theorem exprSlashSafe_of_B {tmpl : Str} (h : Spec.exprSlashSafeB E tmpl = true) (ex : Jsr.Expr)
    (hex : Jsr.compile tmpl = some ex) : ∀ t ∈ ex.toks, Jsr.tokSlashSafe E t := by
  simp only [Spec.exprSlashSafeB, hex, List.all_eq_true] at h
  exact fun t ht => tokSlashSafe_of_B E (h t ht)

/-- the decidable hypothesis the driver evaluates implies the one the theorem uses -/
theorem slashSafe_of_B (cfg : Config) (h : Spec.jsrSlashSafeB E cfg = true) : Jsr.slashSafe E cfg := by
  simp only [Spec.jsrSlashSafeB, List.all_eq_true, Bool.and_eq_true] at h
  exact fun svc hsvc => ⟨exprSlashSafe_of_B E (h svc hsvc).1, fun rt hrt => exprSlashSafe_of_B E ((h svc hsvc).2 rt hrt)⟩

theorem C14_jsr_partial_B (cfg : Config) (hk : cfg.router = .jsr) (hs : Spec.jsrSlashSafeB E cfg = true) (req : Req) (p : Str)
    (hp : p = [] ∨ p.getLast? ≠ some '/') (hreq : req.path = p) :
    route E cfg { req with path := p ++ ['/'] } = route E cfg req :=
  C14_jsr_partial E cfg hk (slashSafe_of_B E cfg hs) req p hp hreq

/-- F19: under RouterJSR311 a regex variable that matches the empty string makes `/a` a 404 and
    `/a/` a hit with `v = ""` -/
theorem C14_F19_witness :
    let cfg : Config := { router := .jsr, services := [{ id := 0, root := "/a".toList, routes :=
      [{ id := 1, method := "GET".toList, relPath := "/{v:[a-z]*}".toList, consumes := [], produces := [], conds := [], noct := [] }] }] }
    let E : ReEnv := ⟨fun _ _ => true, fun _ s => s.isEmpty⟩
    route E cfg { method := "GET".toList, path := "/a".toList } = .error 404 none ∧
    route E cfg { method := "GET".toList, path := "/a/".toList } = .selected 0 1 [("v".toList, [])] := by
  decide_lits

/-- non-vacuity of `C14_jsr_partial`'s hypothesis -/
example : Jsr.slashSafe ⟨fun _ _ => true, fun _ s => !s.isEmpty⟩
    { router := .jsr, services := [{ id := 0, root := "/a".toList, routes :=
      [{ id := 1, method := "GET".toList, relPath := "/{v:[a-z]+}/b".toList, consumes := [], produces := [], conds := [], noct := [] }] }] } :=
  slashSafe_of_B _ _ (by decide_lits)

/-! ### the computed Allow header (`Container.computeAllowedMethods`) -/

/-
Full statement (false on the current code, see `C14_options_F19_witness`, `C14_options_wildcard_witness`):
  theorem C14_options_allow (hp : p = [] ∨ p.getLast? ≠ some '/') :
      Cors.computeAllowedMethods E tbl.services (p ++ ['/']) = Cors.computeAllowedMethods E tbl.services p
-/

/-- **C14, computed Allow header**: on every table — whatever its router, which
    `computeAllowedMethods` never consults — whose compiled root and route templates contain no tail
    wildcard and no regex variable that matches the empty segment, the method list computed for
    `p/` is the one computed for `p` (same methods, same order, same multiplicities; `none` = a
    template that does not compile, on both sides) -/
theorem C14_options_allow_partial (tbl : Config) (hs : Jsr.slashSafe E tbl) (p : Str)
    (hp : p = [] ∨ p.getLast? ≠ some '/') :
    Cors.computeAllowedMethods E tbl.services (p ++ ['/']) = Cors.computeAllowedMethods E tbl.services p :=
  Cors.computeAllowedMethods_append_slash_tokOK E tbl.services
    (fun svc h ex hex => Jsr.compile_tokOK E hex ((hs svc h).1 ex hex))
    (fun svc h rt hrt ex hex => Jsr.compile_tokOK E hex ((hs svc h).2 (svc.build rt) (List.mem_map_of_mem hrt) ex hex))
    p (.of_or hp)

theorem C14_options_allow_partial_B (tbl : Config) (hs : Spec.jsrSlashSafeB E tbl = true) (p : Str)
    (hp : p = [] ∨ p.getLast? ≠ some '/') :
    Cors.computeAllowedMethods E tbl.services (p ++ ['/']) = Cors.computeAllowedMethods E tbl.services p :=
  C14_options_allow_partial E tbl (slashSafe_of_B E tbl hs) p hp

/-- **C14, OPTIONS filter**: under the same hypothesis the whole answer of `Container.OPTIONSFilter`
    (Allow, Access-Control-Allow-Origin, Access-Control-Allow-Headers, Access-Control-Allow-Methods,
    passes on or not) is the same for `p/` and `p`, for every method and every other header -/
theorem C14_options_filter_partial (tbl : Config) (hs : Jsr.slashSafe E tbl) (rq : Options.OptReq) (p : Str)
    (hp : p = [] ∨ p.getLast? ≠ some '/') (hreq : rq.path = p) :
    Options.optionsOut E tbl { rq with path := p ++ ['/'] } = Options.optionsOut E tbl { rq with path := p } := by
  subst hreq
  exact Options.optionsOut_congr_path E tbl rq _ (C14_options_allow_partial E tbl hs rq.path hp)

theorem C14_options_filter_partial_B (tbl : Config) (hs : Spec.jsrSlashSafeB E tbl = true) (rq : Options.OptReq) (p : Str)
    (hp : p = [] ∨ p.getLast? ≠ some '/') (hreq : rq.path = p) :
    Options.optionsOut E tbl { rq with path := p ++ ['/'] } = Options.optionsOut E tbl { rq with path := p } :=
  C14_options_filter_partial E tbl (slashSafe_of_B E tbl hs) rq p hp hreq

/-- **C14, CORS filter**: the other consumer of `computeAllowedMethods` (preflight when no methods
    are configured): the whole answer of the filter is the same for `p/` and `p` -/
theorem C14_cors_partial (lower : Str → Str) (cc : Cors.CorsCfg) (tbl : Config) (hs : Jsr.slashSafe E tbl)
    (rq : Cors.CorsReq) (p : Str) (hp : p = [] ∨ p.getLast? ≠ some '/') (hreq : rq.path = p) :
    Cors.corsOut lower E cc tbl { rq with path := p ++ ['/'] } = Cors.corsOut lower E cc tbl { rq with path := p } := by
  subst hreq
  exact Cors.corsOut_congr_path lower E cc tbl rq _ (C14_options_allow_partial E tbl hs rq.path hp)

/-- the regex half of the hypothesis cannot be dropped (F19 seen through the computed Allow header):
    a regex variable that matches the empty string — in a route template (`/a` + `/{v:[a-z]*}`:
    nothing listed for `/a`, GET for `/a/`) or in a root template (`/a/{v:[a-z]*}` + `/`, same
    paths; `/{v:[a-z]*}` + `/` for p = "") -/
theorem C14_options_F19_witness :
    let E : ReEnv := ⟨fun _ _ => true, fun _ s => s.isEmpty⟩
    let get (rel : String) : RouteDecl :=
      { id := 1, method := "GET".toList, relPath := rel.toList, consumes := [], produces := [], conds := [], noct := [] }
    (Cors.computeAllowedMethods E [{ id := 0, root := "/a".toList, routes := [get "/{v:[a-z]*}"] }] "/a".toList = some [] ∧
     Cors.computeAllowedMethods E [{ id := 0, root := "/a".toList, routes := [get "/{v:[a-z]*}"] }] "/a/".toList = some ["GET".toList]) ∧
    (Cors.computeAllowedMethods E [{ id := 0, root := "/a/{v:[a-z]*}".toList, routes := [get "/"] }] "/a".toList = some [] ∧
     Cors.computeAllowedMethods E [{ id := 0, root := "/a/{v:[a-z]*}".toList, routes := [get "/"] }] "/a/".toList = some ["GET".toList]) ∧
    (Cors.computeAllowedMethods E [{ id := 0, root := "/{v:[a-z]*}".toList, routes := [get "/"] }] [] = some [] ∧
     Cors.computeAllowedMethods E [{ id := 0, root := "/{v:[a-z]*}".toList, routes := [get "/"] }] "/".toList = some ["GET".toList]) := by
  decide_lits

/-- the wildcard half of the hypothesis cannot be dropped either, and — `computeAllowedMethods`
    ignoring the router — not for a CurlyRouter container either: with `/a` + `/{t:*}` nothing is
    listed for `/a` and GET for `/a/` (under CurlyRouter both `GET /a` and `GET /a/` are 404:
    `C14_curly` holds, the computed Allow header differs); likewise with the wildcard in the root -/
theorem C14_options_wildcard_witness :
    let E : ReEnv := ⟨fun _ _ => true, fun _ _ => false⟩
    let get (rel : String) : RouteDecl :=
      { id := 1, method := "GET".toList, relPath := rel.toList, consumes := [], produces := [], conds := [], noct := [] }
    let cfg : Config := { router := .curly, services := [{ id := 0, root := "/a".toList, routes := [get "/{t:*}"] }] }
    (Cors.computeAllowedMethods E cfg.services "/a".toList = some [] ∧
     Cors.computeAllowedMethods E cfg.services "/a/".toList = some ["GET".toList] ∧
     route E cfg { method := "GET".toList, path := "/a".toList } = .error 404 none ∧
     route E cfg { method := "GET".toList, path := "/a/".toList } = .error 404 none) ∧
    (Cors.computeAllowedMethods E [{ id := 0, root := "/a/{t:*}".toList, routes := [get "/"] }] "/a".toList = some [] ∧
     Cors.computeAllowedMethods E [{ id := 0, root := "/a/{t:*}".toList, routes := [get "/"] }] "/a/".toList = some ["GET".toList]) := by
  decide_lits

/-- non-vacuity of `C14_options_allow_partial` / `C14_options_filter_partial`: a literal root with
    two static routes one segment below it meets the hypothesis (in both forms), and the computed
    list is GET, POST for `/shop/candies` and for `/shop/candies/` -/
example :
    let E : ReEnv := ⟨fun _ _ => true, fun _ s => !s.isEmpty⟩
    let tbl : Config := { router := .curly, services := [{ id := 0, root := "/shop".toList, routes :=
      [{ id := 1, method := "GET".toList, relPath := "/candies".toList, consumes := [], produces := [], conds := [], noct := [] },
       { id := 2, method := "POST".toList, relPath := "/candies".toList, consumes := [], produces := [], conds := [], noct := [] }] }] }
    Spec.jsrSlashSafeB E tbl = true ∧ Jsr.slashSafe E tbl ∧
    ("/shop/candies".toList = [] ∨ "/shop/candies".toList.getLast? ≠ some '/') ∧
    Cors.computeAllowedMethods E tbl.services "/shop/candies".toList = some ["GET".toList, "POST".toList] ∧
    Cors.computeAllowedMethods E tbl.services ("/shop/candies".toList ++ ['/']) = some ["GET".toList, "POST".toList] ∧
    Options.optionsOut E tbl { method := "OPTIONS".toList, path := "/shop/candies".toList ++ ['/'] } =
      Options.optionsOut E tbl { method := "OPTIONS".toList, path := "/shop/candies".toList } := by
  intro E tbl
  have hB : Spec.jsrSlashSafeB E tbl = true := by
    simp only [E, tbl]
    decide_lits
  have hs := slashSafe_of_B E tbl hB
  have hp : "/shop/candies".toList = [] ∨ "/shop/candies".toList.getLast? ≠ some '/' := by decide_lits
  have hc : Cors.computeAllowedMethods E tbl.services "/shop/candies".toList = some ["GET".toList, "POST".toList] := by
    simp only [E, tbl]
    decide_lits
  exact ⟨hB, hs, hp, hc, (C14_options_allow_partial E tbl hs _ hp).trans hc,
    C14_options_filter_partial E tbl hs { method := "OPTIONS".toList, path := "/shop/candies".toList } _ hp rfl⟩

/-! ### non-vacuity (audit): every theorem instantiated with all its hypotheses on a table with a
    variable root, a regex variable and several candidate routes, on requests that ARE routed (the
    two sides of each equation are not both "404"), and the equations are not trivially true -/
namespace C14Example

/-- `[0-9]+` evaluated faithfully: it does not match the empty segment -/
def E1 : ReEnv :=
  ⟨fun e s => if e = "[0-9]+".toList then s.any Char.isDigit else true,
   fun e s => if e = "[0-9]+".toList then !s.isEmpty && s.all Char.isDigit else !s.isEmpty⟩
def rd (id : Nat) (m p : String) : RouteDecl :=
  { id := id, method := m.toList, relPath := p.toList, consumes := [], produces := [], conds := [], noct := [] }
def services : List Service :=
  [ { id := 0, root := "/users".toList, routes := [rd 1 "GET" "/{id:[0-9]+}", rd 2 "GET" "/me", rd 3 "PUT" "/{id:[0-9]+}"] },
    { id := 1, root := "/orgs/{org}".toList, routes := [rd 4 "GET" "/things", rd 5 "DELETE" ""] } ]
def cfgC : Config := { router := .curly, services := services }
def cfgJ : Config := { router := .jsr, services := services }
def p42 : Str := "/users/42".toList
def get (p : Str) : Req := { method := "GET".toList, path := p }

theorem noTS42 : p42 = [] ∨ p42.getLast? ≠ some '/' := by decide_lits [p42]
theorem safeBJ : Spec.jsrSlashSafeB E1 cfgJ = true := by decide_lits [E1, cfgJ, services, rd]
theorem computed42 : Cors.computeAllowedMethods E1 cfgC.services p42 = some ["GET".toList, "PUT".toList] := by
  decide_lits [E1, cfgC, services, rd, p42]

/-- hypotheses of `C14_curly` / `C14_jsr_partial_B`; what the routers answer for p (p/ by the theorems) -/
example :
    (∃ c ∈ p42, c ≠ '/') ∧ (p42 = [] ∨ p42.getLast? ≠ some '/') ∧ Spec.jsrSlashSafeB E1 cfgJ = true ∧
    route E1 cfgC (get p42) = .selected 0 1 [("id".toList, "42".toList)] ∧
    route E1 cfgJ (get p42) = .selected 0 1 [("id".toList, "42".toList)] ∧
    route E1 cfgJ { get p42 with method := "DELETE".toList } = .error 405 (some ["GET".toList, "PUT".toList]) ∧
    route E1 cfgJ (get "/orgs/acme/things".toList) = .selected 1 4 [("org".toList, "acme".toList)] :=
  ⟨by decide_lits [p42], noTS42, safeBJ, by decide_lits [E1, cfgC, services, rd, get, p42],
    by decide_lits [E1, cfgJ, services, rd, get, p42], by decide_lits [E1, cfgJ, services, rd, get, p42],
    by decide_lits [E1, cfgJ, services, rd, get]⟩

example : route E1 cfgC { get p42 with path := p42 ++ ['/'] } = route E1 cfgC (get p42) :=
  C14_curly E1 cfgC rfl (get p42) p42 (by decide_lits [p42]) rfl
example : route E1 cfgJ { get p42 with path := p42 ++ ['/'] } = route E1 cfgJ (get p42) :=
  C14_jsr_partial_B E1 cfgJ rfl safeBJ (get p42) p42 noTS42 rfl
theorem safeJ : Jsr.slashSafe E1 cfgJ := slashSafe_of_B E1 cfgJ safeBJ
-- `jsrSlashSafeB` reads only the services, which `cfgC` and `cfgJ` share
theorem safeC : Jsr.slashSafe E1 cfgC := slashSafe_of_B E1 cfgC safeBJ
example := C14_jsr_partial E1 cfgJ rfl safeJ { get p42 with method := "DELETE".toList } p42 noTS42 rfl

/-- the equation of `C14_jsr_partial` is not trivially true: a request path and the same path with
    ANOTHER character appended are routed differently on this table -/
example : route E1 cfgJ { get p42 with path := p42 ++ ['x'] } ≠ route E1 cfgJ (get p42) := by
  decide_lits [E1, cfgJ, services, rd, get, p42]

/-- the computed Allow header: GET, PUT at `/users/42` (two routes of three), for p and p/ -/
example : Cors.computeAllowedMethods E1 cfgC.services p42 = some ["GET".toList, "PUT".toList] := computed42
example := C14_options_allow_partial E1 cfgC safeC p42 noTS42
example := C14_options_allow_partial_B E1 cfgJ safeBJ p42 noTS42
example := C14_options_filter_partial E1 cfgC safeC { method := "OPTIONS".toList, path := p42, origin := "http://o".toList } p42
  noTS42 rfl
example := C14_options_filter_partial_B E1 cfgJ safeBJ { method := "OPTIONS".toList, path := p42 } p42 noTS42 rfl
example : Options.optionsOut E1 cfgC { method := "OPTIONS".toList, path := p42 } =
    some ⟨[("Allow".toList, "GET,PUT".toList), (Cors.hAllowOrigin, []), (Cors.hAllowHeaders, []),
           (Cors.hAllowMethods, "GET,PUT".toList)], false⟩ := by
  rw [Options.optionsOut_options _ _ _ rfl, computed42]
  decide_lits [Cors.sComma, Cors.hAllowOrigin, Cors.hAllowHeaders, Cors.hAllowMethods]
/-- `C14_cors_partial` on a preflight with computed methods, which is granted -/
def pre : Cors.CorsReq := { method := "OPTIONS".toList, path := p42, origin := "http://o".toList, acrm := "PUT".toList }
example := C14_cors_partial E1 Str.toLowerAscii {} cfgC safeC pre p42 noTS42 rfl
example : (Cors.corsOut Str.toLowerAscii E1 {} cfgC pre).map (·.added.take 1) =
    some [(Cors.hAllowMethods, "GET,PUT".toList)] := by
  decide_lits [E1, cfgC, services, rd, pre, p42, Cors.hAllowMethods]

end C14Example

-- the frame condition (Lemmas/StateShape.lean): the code has exactly the state this property's model accounts for
-- also: Restful.StateShape.globals_shape
-- also: Restful.StateShape.consts_shape
-- also: Restful.StateShape.routing_shape

end Props
end Restful

-- the ties of the imperative functions this property's model rests on (Lemmas/TieImp*.lean):
-- also: Restful.TieImp.T2.tokenize_path
-- also: Restful.TieImp.match_tokens
-- also: Restful.TieImp.compute_allowed_methods
-- also: Restful.TieImp.jsr_select_routes
-- also: Restful.TieImp.jsr_detect_dispatcher
