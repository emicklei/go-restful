/-
C02 — every request gets exactly one outcome; 404/405/415/406 are exact; no panic.

`Spec.c02Holds` (Spec/Classify.lean) is the decision table of the property evaluated on an outcome:
best-matching service → routes admitting the path whose conditions hold (404 if none) → same
method (405 + Allow set) → consuming the Content-Type (415 when a body is sent) → able to satisfy
Accept (415 for a bodiless POST/PUT/PATCH, else 406) → one of the remaining routes runs, once.
"Best-matching" for CurlyRouter: greatest `Spec.claimScore` among the roots that CLAIM the URL —
root tokens match the leading segments, variable segments non-empty, regex variables satisfied.
"Best-matching" for RouterJSR311: `Spec.jsrBestService` — among the roots whose compiled expression
matches the URL, the one with the maximal key (matchesCount, then literalCount, then
nonDefaultCount; `Spec.JsrKey`), the FIRST registered one among equal maximal keys.  This is stated
without sorting and without the router model (only the regex layer `Jsr.compile` / `Jsr.matchExpr`);
`C02_jsr_best_service` proves that the model's `detectDispatcher` (collect, `sort.Sort(sort.Reverse)`,
take `[0]`) computes exactly that, for all inputs — so `C02_classify_jsr_partial` is not circular on
which WebService is chosen.

Full statement:
  theorem C02_classify (hwf : cfg.wfTemplates) (hh : mediaHygiene cfg) :
      c02Holds E cfg req (route E cfg req) (if selected then 1 else 0) = true
CurlyRouter: proved in full (`C02_classify_curly`).  RouterJSR311: false on the current code, the
proof forces one hypothesis that is the class of a known finding:
  F16  RouterJSR311: `.` in the compiled expression stops at '\n' (`'\n' ∉ req.path`)
so the RouterJSR311 theorem keeps its `_partial`.

Since the repairs 19aa57d (F03: CurlyRouter evaluates the regex of a root-path variable) and e9138e1
(F04: one notion of "has a body" in `detectRoute`) of /repo neither `Spec.noRootRegex cfg` nor
`Spec.bodyCoherent req` is a hypothesis; the inputs on which the two defects showed are instances
(`C02_F03_fixed`, `C02_F04_fixed`).  What is asked of the root of a route-less service
(`Jsr.rootsRead`, `Curly.rootsRead`) and why: Lemmas/Classify.lean.
-/
import Restful.Lemmas.Classify
import Restful.Lemmas.DecideLits
import Restful.Lemmas.StateShape
import Restful.Lemmas.TieRequest
import Restful.Lemmas.TieImpScore
import Restful.Lemmas.TieImpMatch
import Restful.Lemmas.TieImpPath
import Restful.Lemmas.TieImpMedia
import Restful.Lemmas.TieImpTemplate
import Restful.Lemmas.TieImpDetect
import Restful.Lemmas.TieImpCurlySel
import Restful.Lemmas.TieImpJsrSel
import Restful.Lemmas.TieImpSelect
namespace Restful
namespace Props
variable (E : ReEnv)

/-! The theorems of the property.  Each is proved next to its lemmas: totality and classification in
    Lemmas/Classify*.lean, the chosen WebService and the sort in Lemmas/JsrBest.lean, the score in
    Lemmas/CurlyScore.lean. -/

/-- dispatching never panics, for every table in the grammar and every request
    (both routers additionally read the root path of route-less services: RouterJSR311 compiles
    it, CurlyRouter cuts the expressions of its `{name:regex}` tokens out of it) -/
theorem C02_total (cfg : Config) (hwf : cfg.wfTemplates = true)
    (hrootsJ : cfg.router = .jsr → Jsr.rootsRead cfg = true)
    (hrootsC : cfg.router = .curly → Curly.rootsRead cfg = true) (req : Req) :
    ∀ w, route E cfg req ≠ .panic w :=
  Restful.C02_total E cfg hwf hrootsJ hrootsC req

/-- CurlyRouter: the outcome is exactly what the decision table says (full statement) -/
theorem C02_classify_curly (cfg : Config) (hk : cfg.router = .curly) (hwf : cfg.wfTemplates = true)
    (hroots : Curly.rootsRead cfg = true) (hh : Spec.mediaHygiene cfg = true) (req : Req) :
    Spec.c02Holds E cfg req (route E cfg req)
      (match route E cfg req with | .selected _ _ _ => 1 | _ => 0) = true :=
  Restful.C02_classify_curly E cfg hk hwf hroots hh req

/-- RouterJSR311: the outcome is exactly what the decision table says -/
theorem C02_classify_jsr_partial (cfg : Config) (hk : cfg.router = .jsr) (hwf : cfg.wfTemplates = true)
    (hroots : Jsr.rootsRead cfg = true) (hh : Spec.mediaHygiene cfg = true) (req : Req) (hn : '\n' ∉ req.path) :
    Spec.c02Holds E cfg req (route E cfg req)
      (match route E cfg req with | .selected _ _ _ => 1 | _ => 0) = true :=
  Restful.C02_classify_jsr_partial E cfg hk hwf hroots hh req hn

/-- RouterJSR311: WHICH WebService is chosen.  The model of `detectDispatcher` (jsr311.go:214:
    collect the roots whose expression matches, `sort.Sort(sort.Reverse(…))`, take `[0]`) returns —
    compile failure, "not found", or the service with the final match handed to the route stage —
    exactly what the independent specification `Spec.jsrBestService` names: the first registered
    among the matching services whose key (matchesCount, literalCount, nonDefaultCount) is maximal.
    For all service lists and paths (the model's sort is insertion sort at every length). -/
theorem C02_jsr_best_service (svcs : List Service) (path : Str) :
    Jsr.detectDispatcher E svcs path = Spec.jsrBestService E svcs path :=
  Jsr.detectDispatcher_eq_spec E svcs path

/-- the fact about Go's insertion sort behind it: for a strict weak order, index 0 of the result
    holds the FIRST element of the input that no element of the input is `less` than -/
theorem C02_sort_head {α : Type} (less : α → α → Bool)
    (htrans : ∀ a b c, less b a = false → less c b = false → less c a = false)
    (hasym : ∀ a b, less a b = true → less b a = false) (l : List α) :
    (Sort.insertionSort less l).head? = l.find? (fun x => l.all (fun y => !less y x)) :=
  Sort.head?_insertionSort less htrans hasym l

/-- CurlyRouter's score of a root IS the specification's claim, regular expressions of root
    variables included -/
theorem C02_claimScore (cfg : Config) (hk : cfg.router = .curly) (hwf : cfg.wfTemplates = true)
    (hroots : Curly.rootsRead cfg = true) (s : Service) (hs : s ∈ cfg.services) (qs : List Str) :
    Curly.wsScoreE E qs (tokenize s.rootPath) =
      match Spec.claimScore E s qs with
      | some sc => .yes sc
      | none => .no :=
  Curly.wsScoreE_claim E (Curly.rootGood_of_cfg hk hwf hroots hs) qs

/-! The evaluated witnesses showing that the hypotheses cannot be dropped, and the F03 / F04 inputs
as instances, stand next to the lemmas (Lemmas/Classify.lean) and are audited with this property: -/
-- also: Restful.C02_F03_fixed
-- also: Restful.C02_F04_fixed
-- also: Restful.C02_roots_witness
-- also: Restful.C02_curly_roots_witness
-- also: Restful.C02_curly_rootverb_witness

/-! `Spec.jsrBestService` on concrete roots (Lemmas/JsrBest.lean): three matching roots with three
different keys in all six registration orders (the root with most capture groups is named, although
another has more literal characters); two matching roots, a non-matching one, none, a root that does
not compile; two matching roots with EQUAL keys in both orders (the first registered is named, by the
specification and by the model's sort alike): -/
-- also: Restful.JsrBestExample.three_keys
-- also: Restful.JsrBestExample.three_roots
-- also: Restful.JsrBestExample.two_roots
-- also: Restful.JsrBestExample.tie_first

/-! ### non-vacuity (audit)

The instances `C02Witness.cfgC` / `cfgJ` (Lemmas/Classify.lean: three services — a literal root with
three routes, a variable root, a route-less root with a regex variable) carry evaluated examples
that every hypothesis of `C02_classify_curly` / `C02_classify_jsr_partial` holds, that a route runs
and that 404 (with and without a service), 405, 415 (Content-Type not consumed) and 406 are reached.
Here: the other theorems on the same instances, and `Spec.c02Holds` falsified by wrong observations. -/
namespace C02Example
open C02Witness

/-- `C02_total` on both instances (its two implications are met non-trivially: the route-less
    third service is what `rootsRead` speaks about) -/
example : ∀ w, route Eany cfgC post ≠ .panic w :=
  C02_total Eany cfgC cfgC_wf (fun h => by cases h) (fun _ => cfgC_rootsRead) post
example : ∀ w, route Eany cfgJ post ≠ .panic w :=
  C02_total Eany cfgJ cfgJ_wf (fun _ => cfgJ_rootsRead) (fun h => by cases h) post
example : cfgC.services.any (fun s => s.routes.isEmpty) = true ∧ Curly.rootsRead cfgC = true ∧
    Jsr.rootsRead cfgJ = true :=
  ⟨by decide, cfgC_rootsRead, cfgJ_rootsRead⟩

/-- the route-less service `/v/{n:[0-9]+}` of that table -/
def vsvc : Service := { id := 2, root := "/v/{n:[0-9]+}".toList, routes := [] }

/-- `C02_claimScore` on the route-less service with a regex root, under the oracle that evaluates
    `[0-9]+`: both sides are `.yes 21` on `/v/12/z` and `.no` on `/v/ab/z` (the regex decides) -/
example : Curly.wsScoreE E03 (tokenize "/v/12/z".toList) (tokenize vsvc.rootPath) =
    match Spec.claimScore E03 vsvc (tokenize "/v/12/z".toList) with
    | some sc => .yes sc
    | none => .no := by
  have h := C02_claimScore E03 cfgC rfl cfgC_wf cfgC_rootsRead vsvc (.tail _ (.tail _ (.head _)))
    (tokenize "/v/12/z".toList)
  generalize Spec.claimScore E03 vsvc (tokenize "/v/12/z".toList) = c at h ⊢
  cases c <;> exact h
example :
    Spec.claimScore E03 vsvc (tokenize "/v/12/z".toList) = some 21 ∧
    Spec.claimScore E03 vsvc (tokenize "/v/ab/z".toList) = none ∧
    Curly.wsScoreE E03 (tokenize "/v/ab/z".toList) (tokenize vsvc.rootPath) = .no := by
  decide_lits [vsvc, E03]

/-- DELETE /users/7 on that table: 405, Allow = {GET, PUT} -/
def del7 : Req := { post with method := "DELETE".toList, path := "/users/7".toList }

/-- `Spec.c02Holds` is not trivially true.  On the POST that runs route 1 once it is falsified by:
    two invocations, no invocation, a 404, another route of the service, another service.  On the
    DELETE answered 405 it accepts the Allow set in any order and is falsified by: an Allow set that
    misses a method, one with a method too many, no Allow, a 404, an invocation.  A 415 may not be
    reported as 406 nor a 406 as 415, a 404 not as 405.  Both routers. -/
example :
    Spec.c02Holds Eany cfgC post (.selected 0 1 []) 1 = true ∧
    Spec.c02Holds Eany cfgC post (.selected 0 1 []) 2 = false ∧
    Spec.c02Holds Eany cfgC post (.selected 0 1 []) 0 = false ∧
    Spec.c02Holds Eany cfgC post (.error 404 none) 0 = false ∧
    Spec.c02Holds Eany cfgC post (.selected 0 3 []) 1 = false ∧
    Spec.c02Holds Eany cfgC post (.selected 1 1 []) 1 = false ∧
    Spec.c02Holds Eany cfgC del7 (.error 405 (some ["PUT".toList, "GET".toList])) 0 = true ∧
    Spec.c02Holds Eany cfgC del7 (.error 405 (some ["GET".toList])) 0 = false ∧
    Spec.c02Holds Eany cfgC del7 (.error 405 (some ["GET".toList, "PUT".toList, "POST".toList])) 0 = false ∧
    Spec.c02Holds Eany cfgC del7 (.error 405 none) 0 = false ∧
    Spec.c02Holds Eany cfgC del7 (.error 404 none) 0 = false ∧
    Spec.c02Holds Eany cfgC del7 (.error 405 (some ["GET".toList, "PUT".toList])) 1 = false ∧
    Spec.c02Holds Eany cfgC { post with method := "PUT".toList, path := "/users/7".toList } (.error 406 none) 0 = false ∧
    Spec.c02Holds Eany cfgC { post with accept := "text/html".toList } (.error 415 none) 0 = false ∧
    Spec.c02Holds Eany cfgC { post with path := "/users/7/x".toList } (.error 405 (some [])) 0 = false ∧
    Spec.c02Holds Eany cfgJ del7 (.error 405 (some ["GET".toList])) 0 = false ∧
    Spec.c02Holds Eany cfgJ post (.error 404 none) 0 = false ∧
    Spec.c02Holds Eany cfgJ post (.selected 0 1 []) 2 = false := by
  decide +kernel

/-! #### RouterJSR311: the specified WebService, on whole tables -/

/-- three nested literal roots, each with a catch-all route, registered as `/a/b/c`, `/a`, `/a/b` -/
def nested : Config := { router := .jsr, services :=
  [ { id := 0, root := "/a/b/c".toList, routes := [rd 10 "GET" "/{t:*}" [] []] },
    { id := 1, root := "/a".toList, routes := [rd 11 "GET" "/{t:*}" [] []] },
    { id := 2, root := "/a/b".toList, routes := [rd 12 "GET" "/{t:*}" [] []] } ] }

def getABCD : Req := { method := "GET".toList, path := "/a/b/c/d".toList }

/-- all three roots match `GET /a/b/c/d` with keys (2,3,0), (2,1,0), (2,2,0); the specification
    names `/a/b/c` (id 0) and hands `/d` to its routes; the hypotheses of `C02_classify_jsr_partial`
    hold; the predicate accepts "route 10 of service 0 ran once" and rejects what a router that
    compares neighbours instead of the running best would do (route 12 of service 2: the last local
    ascent in registration order), as well as the least specific root and a 404 -/
example :
    nested.wfTemplates = true ∧ Jsr.rootsRead nested = true ∧ Spec.mediaHygiene nested = true ∧
    '\n' ∉ getABCD.path ∧
    (nested.services.filterMap (Spec.jsrClaim Eany getABCD.path)).map (fun c => (c.1.id, c.2.2)) =
      [(0, ⟨2, 3, 0⟩), (1, ⟨2, 1, 0⟩), (2, ⟨2, 2, 0⟩)] ∧
    (Spec.jsrBestService Eany nested.services getABCD.path).map (Option.map (fun p => (p.1.id, p.2))) =
      some (some (0, "/d".toList)) ∧
    (Spec.bestServices Eany nested getABCD).map (·.id) = [0] ∧
    route Eany nested getABCD = .selected 0 10 [("t".toList, "d".toList)] ∧
    Spec.c02Holds Eany nested getABCD (.selected 0 10 [("t".toList, "d".toList)]) 1 = true ∧
    Spec.c02Holds Eany nested getABCD (.selected 2 12 [("t".toList, "c/d".toList)]) 1 = false ∧
    Spec.c02Holds Eany nested getABCD (.selected 1 11 [("t".toList, "b/c/d".toList)]) 1 = false ∧
    Spec.c02Holds Eany nested getABCD (.error 404 none) 0 = false := by
  decide +kernel

example : Spec.c02Holds Eany nested getABCD (route Eany nested getABCD)
    (match route Eany nested getABCD with | .selected _ _ _ => 1 | _ => 0) = true := by
  have hyps : nested.wfTemplates = true ∧ Jsr.rootsRead nested = true ∧ Spec.mediaHygiene nested = true ∧
      '\n' ∉ getABCD.path ∧ route Eany nested getABCD = .selected 0 10 [("t".toList, "d".toList)] := by
    decide +kernel
  obtain ⟨hwf, hroots, hh, hn, hr⟩ := hyps
  have h := C02_classify_jsr_partial Eany nested rfl hwf hroots hh getABCD hn
  rwa [hr] at h ⊢

/-- two roots with EQUAL keys (one variable, one literal character) that both match `GET /a/b`,
    in both registration orders -/
def tieXA : Config := { router := .jsr, services :=
  [ { id := 0, root := "/{x}/b".toList, routes := [rd 20 "GET" "" [] []] },
    { id := 1, root := "/a/{y}".toList, routes := [rd 21 "GET" "" [] []] } ] }
def tieAX : Config := { router := .jsr, services :=
  [ { id := 1, root := "/a/{y}".toList, routes := [rd 21 "GET" "" [] []] },
    { id := 0, root := "/{x}/b".toList, routes := [rd 20 "GET" "" [] []] } ] }

def getAB : Req := { method := "GET".toList, path := "/a/b".toList }

/-- the tie: the FIRST registered of the two is the specified service, the router runs its route,
    and the predicate rejects the other service's route -/
example :
    (tieXA.services.filterMap (Spec.jsrClaim Eany getAB.path)).map (fun c => (c.1.id, c.2.2)) =
      [(0, ⟨3, 1, 1⟩), (1, ⟨3, 1, 1⟩)] ∧
    (Spec.bestServices Eany tieXA getAB).map (·.id) = [0] ∧
    (Spec.bestServices Eany tieAX getAB).map (·.id) = [1] ∧
    route Eany tieXA getAB = .selected 0 20 [("x".toList, "a".toList)] ∧
    route Eany tieAX getAB = .selected 1 21 [("y".toList, "b".toList)] ∧
    Spec.c02Holds Eany tieXA getAB (.selected 0 20 [("x".toList, "a".toList)]) 1 = true ∧
    Spec.c02Holds Eany tieXA getAB (.selected 1 21 [("y".toList, "b".toList)]) 1 = false ∧
    Spec.c02Holds Eany tieAX getAB (.selected 1 21 [("y".toList, "b".toList)]) 1 = true ∧
    Spec.c02Holds Eany tieAX getAB (.selected 0 20 [("x".toList, "a".toList)]) 1 = false := by
  decide +kernel

/-- `C02_jsr_best_service` on these tables -/
example : Jsr.detectDispatcher Eany nested.services getABCD.path =
    Spec.jsrBestService Eany nested.services getABCD.path :=
  C02_jsr_best_service Eany nested.services getABCD.path

end C02Example

/-! The frame condition (Lemmas/StateShape.lean): the code has exactly the state this property's model
    accounts for — no further package-level variable, struct type or field; constants as modelled. -/
-- also: Restful.StateShape.globals_shape
-- also: Restful.StateShape.consts_shape
-- also: Restful.StateShape.routing_shape

/-! The regenerated tie (tools/gotrans → Gen/Translated.lean, Lemmas/Tie*.lean). -/
-- also: Restful.Tie.trim_space_cutset

end Props
end Restful

-- the ties of the imperative functions this model rests on (tools/goimp, Gen/Imp.lean):
-- also: Restful.TieImp.T2.webservice_score
-- also: Restful.TieImp.match_tokens
-- also: Restful.TieImp.T2.tokenize_path
-- also: Restful.TieImp.T5.matches_accept
-- also: Restful.TieImp.T5.matches_content_type
-- also: Restful.TieImp.template_to_regex
-- also: Restful.TieImp.detect_route
-- also: Restful.TieImp.detect_web_service
-- also: Restful.TieImp.select_routes
-- also: Restful.TieImp.jsr_select_routes
-- also: Restful.TieImp.jsr_detect_dispatcher
-- also: Restful.TieImp.routeCurly_eq_sel
-- also: Restful.TieImp.curly_select_route
-- also: Restful.TieImp.jsr_select_route
