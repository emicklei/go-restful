/-
C04 — path parameters are bound to exactly the URL text they stand for.

`Spec.c04Holds` on an outcome: exactly the declared variable names are bound; every variable is
bound to the URL segment at its position (minus literal suffix and custom verb), a tail wildcard
to the remaining segments joined by `/`; substituting the values back into the template gives the
URL's segments again.  Proved for the model's outcome on every table in the grammar and every
request, for both routers; evaluated by the driver on every real outcome.
-/
import Restful.Lemmas.RouteAdmitted
import Restful.Lemmas.JsrSlash
import Restful.Lemmas.StateShape
import Restful.Lemmas.DecideLits
import Restful.Lemmas.TieImpParams
import Restful.Lemmas.TieImpUntok
import Restful.Lemmas.TieImpPath
import Restful.Lemmas.TieImpJsrParams
namespace Restful
namespace Props
variable (E : ReEnv)

/-! ### the witness of the predicate is the route that ran

`Spec.c04Holds` names the route by its two ids.  On a table whose ids identify (`Spec.idsDistinct`,
reported by the driver inside `WF`) exactly one declaration carries them: the predicate is its
clause evaluated at THAT declaration's template, and for the model's outcome that declaration is
the route object the router returned (`RouteRan`), whose parameters the path processor extracted
(`paramsOf`).  Without the hypothesis a namesake with another template can satisfy it
(`C04_ids_witness`). -/

/-- **C04 of the route that ran** (both routers, no hypothesis on the ids): against the template of
    the route object the router returned, the parameters the path processor extracts for it are
    exactly the declared names, each bound to the text at its position, and substitution gives the
    admitted segments of the URL back -/
theorem C04_ran (cfg : Config) (hwf : cfg.wfTemplates = true) (req : Req) {svc : Service} {rt : Route}
    (hran : RouteRan E cfg req svc rt) {ps : Params} (hps : paramsOf E cfg req svc rt = some ps) :
    ∃ ts segs, Spec.templateOf cfg.router rt = some ts ∧ Spec.admittedSegments E cfg.router ts req.path = some segs ∧
      (ps.map (·.1)).Perm (varNames ts) ∧
      (∀ kv ∈ Spec.expectedParams ts segs, Spec.lookup ps kv.1 = some kv.2) ∧
      Spec.substitute ps ts = some segs := by
  obtain ⟨ts, segs, hts, hseg, hexp⟩ := hran.admitted E hwf
  obtain ⟨hshape, hnd⟩ := Spec.templateOf_facts hts
  obtain ⟨hadm, hslash⟩ := Spec.admittedSegments_facts E cfg.router ts req.path segs hseg
  rw [hexp ps hps]
  exact ⟨ts, segs, hts, hseg, Spec.expectedParams_clauses E cfg.router ts hshape hnd segs hslash hadm⟩

/-- both routers in one statement -/
theorem C04_holds (cfg : Config) (hwf : cfg.wfTemplates = true) (req : Req) :
    Spec.c04Holds E cfg req (route E cfg req) = true := by
  cases h : route E cfg req with
  | selected s r ps =>
    obtain ⟨svc, hsvc, rt, hrt, hran, hs, hr, _, hps⟩ := route_selected_ran E h
    obtain ⟨ts, segs, hts, hseg, h1, h2, h3⟩ := C04_ran E cfg hwf req hran hps
    refine Spec.anyIds_intro (P := Spec.c04At E cfg req ps) hsvc hs hrt hr ?_
    simp only [Spec.c04At, hts, hseg, Bool.and_eq_true, decide_eq_true_eq, List.all_eq_true, beq_iff_eq]
    exact ⟨⟨h1, h2⟩, h3⟩
  | error c a => rfl
  | panic w => rfl

theorem C04_curly (cfg : Config) (hk : cfg.router = .curly) (hwf : cfg.wfTemplates = true) (req : Req) :
    Spec.c04Holds E cfg req (route E cfg req) = true :=
  C04_holds E cfg hwf req

theorem C04_jsr (cfg : Config) (hk : cfg.router = .jsr) (hwf : cfg.wfTemplates = true) (req : Req) :
    Spec.c04Holds E cfg req (route E cfg req) = true :=
  C04_holds E cfg hwf req

/-- on a table whose ids identify, no OTHER declaration can satisfy the predicate in the place of
    the one whose function was observed to run (`Spec.anyIds_eq`: the predicate is its clause
    `Spec.c04At` — names, values, substitution — at THE declaration the ids stand for) -/
theorem C04_predicate_unique (cfg : Config) (hids : Spec.idsDistinct cfg = true) (req : Req)
    (svc : Service) (hsvc : svc ∈ cfg.services) (rt : Route) (hrt : rt ∈ svc.built) (ps : Params) :
    Spec.c04Holds E cfg req (.selected svc.id rt.id ps) = Spec.c04At E cfg req ps svc rt :=
  Spec.anyIds_of_mem hids _ hsvc hrt

/-- **C04 with a unique witness** (both routers): when the model selects `(s, r)` with parameters
    `ps`, exactly one declaration has these ids, it is the object the router returned, `ps` is what
    the path processor extracts for it, and against ITS template the parameters are exactly the
    declared names, each bound to the text at its position, and substitution gives the admitted
    segments of the URL back -/
theorem C04_holds_unique (cfg : Config) (hwf : cfg.wfTemplates = true) (hids : Spec.idsDistinct cfg = true)
    (req : Req) (s r : Nat) (ps : Params) (h : route E cfg req = .selected s r ps) :
    ∃ svc ∈ cfg.services, ∃ rt ∈ svc.built, RouteRan E cfg req svc rt ∧ svc.id = s ∧ rt.id = r ∧
      (∀ svc' ∈ cfg.services, svc'.id = s → svc' = svc) ∧
      (∀ svc' ∈ cfg.services, ∀ rt' ∈ svc'.built, svc'.id = s → rt'.id = r → rt' = rt) ∧
      paramsOf E cfg req svc rt = some ps ∧
      ∃ ts segs, Spec.templateOf cfg.router rt = some ts ∧ Spec.admittedSegments E cfg.router ts req.path = some segs ∧
        (ps.map (·.1)).Perm (varNames ts) ∧
        (∀ kv ∈ Spec.expectedParams ts segs, Spec.lookup ps kv.1 = some kv.2) ∧
        Spec.substitute ps ts = some segs := by
  obtain ⟨svc, hsvc, rt, hrt, hran, hs, hr, hps, _, hu1, hu2⟩ := route_selected_unique E hids h
  exact ⟨svc, hsvc, rt, hrt, hran, hs, hr, hu1, hu2, hps, C04_ran E cfg hwf req hran hps⟩

/-- non-vacuity: regex variable, literal, tail wildcard under RouterJSR311 -/
example :
    let cfg : Config := { router := .jsr, services := [{ id := 0, root := "/users".toList, routes :=
      [{ id := 3, method := "GET".toList, relPath := "/{id:[0-9]+}/x/{rest:*}".toList, consumes := [], produces := [],
         conds := [], noct := [] }] }] }
    cfg.wfTemplates = true ∧
      route ⟨fun _ _ => true, fun _ s => !s.isEmpty⟩ cfg { method := "GET".toList, path := "/users/42/x/a/b".toList } =
        .selected 0 3 [("id".toList, "42".toList), ("rest".toList, "a/b".toList)] := by
  decide_lits

/-! ### non-vacuity (audit): every hypothesis at once, several candidate routes, both routers; the
    predicate is not trivially true -/
namespace C04Example

/-- an oracle that evaluates `[0-9]+` faithfully (search / whole segment) -/
def E1 : ReEnv :=
  ⟨fun e s => if e = "[0-9]+".toList then s.any Char.isDigit else true,
   fun e s => if e = "[0-9]+".toList then !s.isEmpty && s.all Char.isDigit else true⟩

def rd (id : Nat) (m p : String) : RouteDecl :=
  { id := id, method := m.toList, relPath := p.toList, consumes := [], produces := [], conds := [], noct := [] }

/-- root `/orgs/{org}` (a root variable) with a regex variable + `{v}suffix` + custom verb, two plain
    variables, a tail wildcard -/
def cfgC : Config := { router := .curly, services :=
  [ { id := 0, root := "/orgs/{org}".toList, routes :=
        [ rd 1 "GET" "/users/{id:[0-9]+}/{file}.json:export",
          rd 2 "GET" "/users/{id}/{name}",
          rd 3 "GET" "/static/{rest:*}" ] } ] }
/-- the same on the forms RouterJSR311 documents -/
def cfgJ : Config := { router := .jsr, services :=
  [ { id := 0, root := "/orgs/{org}".toList, routes :=
        [ rd 1 "GET" "/users/{id:[0-9]+}/x",
          rd 2 "GET" "/users/{id}/{name}",
          rd 3 "GET" "/static/{rest:*}" ] } ] }

def get (p : String) : Req := { method := "GET".toList, path := p.toList }
def reqC : Req := get "/orgs/acme/users/42/report.json:export"
def reqJ : Req := get "/orgs/acme/users/42/x"

theorem cfgC_facts :
    cfgC.wfTemplates = true ∧ Spec.idsDistinct cfgC = true ∧ route E1 cfgC reqC = .selected 0 1
      [("org".toList, "acme".toList), ("id".toList, "42".toList), ("file".toList, "report".toList)] := by
  decide_lits [cfgC, rd, reqC, C04Example.get, E1]

theorem cfgJ_facts :
    cfgJ.wfTemplates = true ∧ Spec.idsDistinct cfgJ = true ∧
    route E1 cfgJ reqJ = .selected 0 1 [("org".toList, "acme".toList), ("id".toList, "42".toList)] := by
  decide_lits [cfgJ, rd, reqJ, C04Example.get, E1]

/-- the hypotheses of `C04_curly` hold; TWO routes admit the first URL (1 and 2) and route 1 runs with
    root variable, regex variable and suffix variable bound; a trailing slash and a tail wildcard -/
example :
    cfgC.router = .curly ∧ cfgC.wfTemplates = true ∧
    ((cfgC.services.flatMap Service.built).filter (fun rt => Spec.admitsRequest E1 .curly rt reqC)).map (·.id) = [1, 2] ∧
    route E1 cfgC reqC = .selected 0 1
      [("org".toList, "acme".toList), ("id".toList, "42".toList), ("file".toList, "report".toList)] ∧
    route E1 cfgC (get "/orgs/acme/users/42/bob/") = .selected 0 2
      [("org".toList, "acme".toList), ("id".toList, "42".toList), ("name".toList, "bob".toList)] ∧
    route E1 cfgC (get "/orgs/acme/static/css/site.css") = .selected 0 3
      [("org".toList, "acme".toList), ("rest".toList, "css/site.css".toList)] :=
  ⟨rfl, cfgC_facts.1, by decide_lits [cfgC, rd, reqC, C04Example.get, E1], cfgC_facts.2.2,
    by decide_lits [cfgC, rd, C04Example.get, E1], by decide_lits [cfgC, rd, C04Example.get, E1]⟩
example : Spec.c04Holds E1 cfgC reqC (route E1 cfgC reqC) = true := C04_curly E1 cfgC rfl cfgC_facts.1 reqC

/-- the hypotheses of `C04_jsr` hold; two routes admit the first URL and the literal one runs -/
example :
    cfgJ.router = .jsr ∧ cfgJ.wfTemplates = true ∧
    ((cfgJ.services.flatMap Service.built).filter (fun rt => Spec.admitsRequest E1 .jsr rt reqJ)).map (·.id) = [1, 2] ∧
    route E1 cfgJ reqJ = .selected 0 1 [("org".toList, "acme".toList), ("id".toList, "42".toList)] ∧
    route E1 cfgJ (get "/orgs/acme/users/42/bob/") = .selected 0 2
      [("org".toList, "acme".toList), ("id".toList, "42".toList), ("name".toList, "bob".toList)] ∧
    route E1 cfgJ (get "/orgs/acme/static/css/site.css") = .selected 0 3
      [("org".toList, "acme".toList), ("rest".toList, "css/site.css".toList)] :=
  ⟨rfl, cfgJ_facts.1, by decide_lits [cfgJ, rd, reqJ, C04Example.get, E1], cfgJ_facts.2.2,
    by decide_lits [cfgJ, rd, C04Example.get, E1], by decide_lits [cfgJ, rd, C04Example.get, E1]⟩
example : Spec.c04Holds E1 cfgJ reqJ (route E1 cfgJ reqJ) = true := C04_jsr E1 cfgJ rfl cfgJ_facts.1 reqJ

/-- `C04_holds_unique` on these instances (ids identify, templates read, a route
    function runs); the observation "route 2 ran with the parameters of route 1" is judged against
    the template of route 2 and fails -/
example : Spec.idsDistinct cfgC = true ∧ Spec.idsDistinct cfgJ = true := ⟨cfgC_facts.2.1, cfgJ_facts.2.1⟩
example := C04_holds_unique E1 cfgC cfgC_facts.1 cfgC_facts.2.1 reqC 0 1
  [("org".toList, "acme".toList), ("id".toList, "42".toList), ("file".toList, "report".toList)] cfgC_facts.2.2
example := C04_holds_unique E1 cfgJ cfgJ_facts.1 cfgJ_facts.2.1 reqJ 0 1
  [("org".toList, "acme".toList), ("id".toList, "42".toList)] cfgJ_facts.2.2
example : Spec.c04Holds E1 cfgC reqC (.selected 0 2
    [("org".toList, "acme".toList), ("id".toList, "42".toList), ("file".toList, "report".toList)]) = false := by
  decide_lits [cfgC, rd, reqC, C04Example.get, E1]

/-- `Spec.c04Holds` is not trivially true: with the right route it is falsified by a wrong value,
    a value that kept its suffix, a value that kept the verb, a missing name, an extra name, two
    values swapped, a tail wildcard bound to its first segment only; the order of the bindings does
    not matter (they come out of a map) -/
example :
    Spec.c04Holds E1 cfgC reqC (.selected 0 1
      [("file".toList, "report".toList), ("org".toList, "acme".toList), ("id".toList, "42".toList)]) = true ∧
    Spec.c04Holds E1 cfgC reqC (.selected 0 1
      [("org".toList, "acme".toList), ("id".toList, "43".toList), ("file".toList, "report".toList)]) = false ∧
    Spec.c04Holds E1 cfgC reqC (.selected 0 1
      [("org".toList, "acme".toList), ("id".toList, "42".toList), ("file".toList, "report.json".toList)]) = false ∧
    Spec.c04Holds E1 cfgC reqC (.selected 0 1
      [("org".toList, "acme".toList), ("id".toList, "42".toList), ("file".toList, "report.json:export".toList)]) = false ∧
    Spec.c04Holds E1 cfgC reqC (.selected 0 1 [("id".toList, "42".toList), ("file".toList, "report".toList)]) = false ∧
    Spec.c04Holds E1 cfgC reqC (.selected 0 1
      [("org".toList, "acme".toList), ("id".toList, "42".toList), ("file".toList, "report".toList), ("x".toList, [])]) = false ∧
    Spec.c04Holds E1 cfgC reqC (.selected 0 1
      [("org".toList, "42".toList), ("id".toList, "acme".toList), ("file".toList, "report".toList)]) = false ∧
    Spec.c04Holds E1 cfgC (get "/orgs/acme/static/css/site.css") (.selected 0 3
      [("org".toList, "acme".toList), ("rest".toList, "css".toList)]) = false ∧
    Spec.c04Holds E1 cfgJ reqJ (.selected 0 1 [("org".toList, "acme".toList), ("id".toList, "4".toList)]) = false ∧
    Spec.c04Holds E1 cfgJ reqJ (.selected 0 1 [("org".toList, "acme".toList)]) = false ∧
    Spec.c04Holds E1 cfgJ (get "/orgs/acme/static/css/site.css") (.selected 0 3
      [("org".toList, "acme".toList), ("rest".toList, "css".toList)]) = false := by
  decide_lits [cfgC, cfgJ, rd, reqC, reqJ, C04Example.get, E1]

/-- the full template of route 1 of `cfgC` and the segments of `reqC` -/
def ts1 : List TTok :=
  [ ⟨.lit "orgs".toList, none⟩, ⟨.var "org".toList, none⟩, ⟨.lit "users".toList, none⟩,
    ⟨.re "id".toList "[0-9]+".toList, none⟩, ⟨.suf "file".toList ".json".toList, some "export".toList⟩ ]

example : readTemplate "/orgs/{org}/users/{id:[0-9]+}/{file}.json:export".toList = some ts1 := by decide_lits [ts1]

/-- `Spec.expectedParams_clauses` and `Spec.admittedSegments_facts` on that template and URL (every hypothesis by evaluation) -/
example := Spec.expectedParams_clauses E1 .curly ts1 (by decide_lits [ts1]) (by decide_lits [ts1]) (tokenize reqC.path)
  (by decide_lits [reqC, C04Example.get]) (by decide_lits [ts1, reqC, C04Example.get, E1])
example := Spec.admittedSegments_facts E1 .curly ts1 reqC.path (tokenize reqC.path) (by decide_lits [ts1, reqC, C04Example.get, E1])
/-- … and `Spec.admittedSegments_facts` on RouterJSR311's reading with a tolerated trailing slash -/
example := Spec.admittedSegments_facts E1 .jsr
  [⟨.lit "orgs".toList, none⟩, ⟨.var "org".toList, none⟩] "/orgs/acme/".toList ["orgs".toList, "acme".toList] (by decide_lits [E1])

/-- two routes of one WebService share id 1: `/{a}` and `/{b}` -/
def cfgDup : Config := { router := .curly, services :=
  [ { id := 0, root := "/w".toList, routes := [ rd 1 "GET" "/{a}", rd 1 "GET" "/{b}" ] } ] }

end C04Example

/-- without `idsDistinct` the predicate can be satisfied by a namesake: the first declaration with
    ids (0, 1) is `/w/{a}` and it is its function that runs for `GET /w/x` (parameter `a`); the
    observation "function 1 of service 0 ran with `b = x`" — parameters that route cannot produce —
    satisfies the predicate all the same, through the second declaration with id 1 -/
theorem C04_ids_witness :
    C04Example.cfgDup.wfTemplates = true ∧ Spec.idsDistinct C04Example.cfgDup = false ∧
    (Spec.routeOfIds C04Example.cfgDup 0 1).map (·.2.path) = some "/w/{a}".toList ∧
    Spec.c04Holds C04Example.E1 C04Example.cfgDup (C04Example.get "/w/x") (.selected 0 1 [("b".toList, "x".toList)]) = true ∧
    (Spec.routeOfIds C04Example.cfgDup 0 1).map (fun p =>
      Spec.c04At C04Example.E1 C04Example.cfgDup (C04Example.get "/w/x") [("b".toList, "x".toList)] p.1 p.2) = some false := by
  decide_lits [C04Example.cfgDup, C04Example.rd, C04Example.get, C04Example.E1]

-- the route that ran and its ids (Lemmas/RouteUnique.lean):
-- also: Restful.route_selected_ran
-- also: Restful.route_selected_unique
-- also: Restful.Spec.anyIds_eq

/-! The frame condition (Lemmas/StateShape.lean): the code has exactly the state this property's model
    accounts for — no further package-level variable, struct type or field; constants as modelled. -/
-- also: Restful.StateShape.globals_shape
-- also: Restful.StateShape.consts_shape
-- also: Restful.StateShape.routing_shape

end Props
end Restful

-- the ties of the imperative functions this model rests on (Lemmas/TieImp*.lean):
-- also: Restful.TieImp.T4.extract_parameters
-- also: Restful.TieImp.T2.untokenize_path
-- also: Restful.TieImp.T2.tokenize_path
-- also: Restful.TieImp.jsr_extract_parameters
