/-
C03 — best match: literals beat variables, independent of registration order.

CurlyRouter (both levels).  The RouterJSR311 half is in the second part of this file.
The full order-independence statement of the property excludes only root paths of the same
literal/variable shape; the proof needs that no two *matching* roots score equally
(`scoresSeparate`), which is strictly stronger: the gap is finding F05 (ten variables score like
one literal), recorded below with a `decide`d witness.

Since fix 19aa57d `computeWebserviceScore` evaluates the expression of a `{name:regex}` root token:
`Curly.wsScoreE E qs toks` (`.no` / `.yes score` / `.panic`) is the loop, `Curly.wsScore qs toks` its
arithmetic.  A claimed root (`.yes sc`) has the arithmetic score `sc` (`C03_claimed_score`), so the
ranking facts are stated for both; `C03_best_service` speaks about the roots that claim the request,
and order independence is proved under separation of the CLAIMED scores
(`C03_curly_order_claimed_partial`), of which the `scoresSeparateB` form is a corollary.
-/
import Restful.Lemmas.Order
import Restful.Lemmas.OrderJsr
import Restful.Lemmas.C03Holds
import Restful.Lemmas.StateShape
import Restful.Lemmas.TieOrder
import Restful.Lemmas.RouteUnique
import Restful.Lemmas.Classify
import Restful.Lemmas.TieImpScore
import Restful.Lemmas.TieImpMatch
import Restful.Lemmas.TieImpTemplate
import Restful.Lemmas.TieImpCurlySel
import Restful.Lemmas.TieImpJsrSel
import Restful.Lemmas.TieImpSelect
import Restful.Lemmas.DecideLits
namespace Restful
namespace Props
variable (E : ReEnv)

/-- route level: a template with literals where the other has variables (same shape otherwise)
    has the strictly greater primary sort key -/
theorem C03_curly_key (ts' ts : List TTok) (h : Spec.moreSpecific ts' ts = true) :
    staticCount ts' > staticCount ts := Restful.C03_curly_key ts' ts h

/-- service level, the arithmetic of the score: a literal root token beats a variable at the same
    position -/
theorem C03_root_literal_beats_variable (qs a b : List Str) (hne : ∀ t ∈ a, t ≠ [])
    (h : Spec.rootMoreSpecific a b = true) (sa sb : Nat)
    (ha : Curly.wsScore qs a = some sa) (hb : Curly.wsScore qs b = some sb) : sa > sb :=
  Restful.C03_root_literal_beats_variable qs a b hne h sa sb ha hb

/-- service level, the arithmetic of the score: a longer matching root beats its own proper prefix -/
theorem C03_root_longer_beats_prefix (qs a b : List Str) (hpre : b <+: a) (hne : b ≠ a) (sa sb : Nat)
    (ha : Curly.wsScore qs a = some sa) (hb : Curly.wsScore qs b = some sb) : sa > sb :=
  Restful.C03_root_longer_beats_prefix qs a b hpre hne sa sb ha hb

/-- the score `computeWebserviceScore` returns for a root that claims the request (expressions of
    root variables satisfied: `.yes`) is the arithmetic score -/
theorem C03_claimed_score (qs toks : List Str) (sc : Nat) (h : Curly.wsScoreE E qs toks = .yes sc) :
    Curly.wsScore qs toks = some sc :=
  Curly.wsScore_of_wsScoreE E h

/-- service level, on the score the router computes (fix 19aa57d: root expressions are
    evaluated): a literal root token beats a variable at the same position, whenever both roots
    claim the request -/
theorem C03_rootE_literal_beats_variable (qs a b : List Str) (hne : ∀ t ∈ a, t ≠ [])
    (h : Spec.rootMoreSpecific a b = true) (sa sb : Nat)
    (ha : Curly.wsScoreE E qs a = .yes sa) (hb : Curly.wsScoreE E qs b = .yes sb) : sa > sb :=
  C03_root_literal_beats_variable qs a b hne h sa sb (Curly.wsScore_of_wsScoreE E ha)
    (Curly.wsScore_of_wsScoreE E hb)

/-- service level, on the score the router computes: a longer root beats its own proper prefix,
    whenever both claim the request -/
theorem C03_rootE_longer_beats_prefix (qs a b : List Str) (hpre : b <+: a) (hne : b ≠ a) (sa sb : Nat)
    (ha : Curly.wsScoreE E qs a = .yes sa) (hb : Curly.wsScoreE E qs b = .yes sb) : sa > sb :=
  Restful.C03_rootE_longer_beats_prefix E qs a b hpre hne sa sb ha hb

/-- the service whose routes are consulted claims the request and has the greatest score among all
    roots that claim it (a root whose expression is not satisfied does not compete) -/
theorem C03_best_service (qs : List Str) (svcs : List Service) (s : Service) (sc : Nat)
    (h : Curly.detectWebService E qs svcs none = some (some (s, sc))) :
    s ∈ svcs ∧ Curly.wsScoreE E qs (tokenize s.rootPath) = .yes sc ∧
    ∀ s' ∈ svcs, ∀ sc', Curly.wsScoreE E qs (tokenize s'.rootPath) = .yes sc' → sc' ≤ sc :=
  ⟨Curly.detectWebService_mem_none E h, Curly.detectWebService_max E qs svcs s sc h⟩

/-- no service is consulted exactly when no root claims the request -/
theorem C03_no_service (qs : List Str) (svcs : List Service) :
    Curly.detectWebService E qs svcs none = some none ↔
      ∀ s ∈ svcs, Curly.wsScoreE E qs (tokenize s.rootPath) = .no := by
  rw [Curly.detectWebService_none]
  simp

/-- the selected route is never less specific than another eligible route of its service -/
theorem C03_curly_never_less_specific (cfg : Config) (hwf : cfg.wfTemplates = true) (hk : cfg.router = .curly)
    (req : Req) (s r : Nat) (ps : Params) (h : route E cfg req = .selected s r ps) :
    ∃ svc ∈ cfg.services, ∃ rt ∈ svc.built, svc.id = s ∧ rt.id = r ∧
      ∀ rt' ∈ svc.built, ∀ ts ts', readTemplate rt.path = some ts → readTemplate rt'.path = some ts' →
        Spec.admits E .curly ts' (tokenize req.path) = true → Spec.eligible rt' req = true →
        Spec.moreSpecific ts' ts = false := by
  have _ := hwf -- not needed
  rw [route_curly E hk] at h
  obtain ⟨svc, _, hdet, rt, hrt, h1, h2, hbest⟩ := routeCurly_selected_full E h
  exact ⟨svc, Curly.detectWebService_mem_none E hdet, rt, hrt, h1, h2,
    fun rt' hrt' ts ts' hts hts' hadm hel => hbest.not_beaten E hrt hrt' hts hts' hadm hel⟩

/-
Full statement (false on the current code, see `C03_F05_witness`):
  theorem C03_curly_order (hperm : CfgPerm cfg cfg') (hd : distinctMethodPath cfg)
      (hx : ¬ hasSameShapeRoots cfg) : sameOutcome (route E cfg req) (route E cfg' req)
-/

/-- registration order does not matter: for tables whose same-method routes have different paths,
    and requests on which no two roots that claim the request score equally -/
theorem C03_curly_order_claimed_partial (cfg cfg' : Config) (hk : cfg.router = .curly) (hperm : Spec.CfgPerm cfg cfg')
    (hd : Spec.distinctMethodPathB cfg = true) (req : Req) (hs : Curly.ScoresSeparateE E cfg req) :
    Spec.sameOutcome (route E cfg req) (route E cfg' req) := by
  rw [route_curly E hk, route_curly E (hperm.1 ▸ hk)]
  exact Restful.C03_curly_order_E E cfg cfg' hperm (Spec.distinctMethodPath_of_B hd) req hs

/-- registration order does not matter: for tables whose same-method routes have different paths,
    and requests on which no two matching roots score equally (the arithmetic of the score,
    `Spec.scoresSeparateB`, as the driver evaluates it; implies the hypothesis of the theorem above) -/
theorem C03_curly_order_partial (cfg cfg' : Config) (hk : cfg.router = .curly) (hperm : Spec.CfgPerm cfg cfg')
    (hd : Spec.distinctMethodPathB cfg = true) (req : Req) (hs : Spec.scoresSeparateB cfg req = true) :
    Spec.sameOutcome (route E cfg req) (route E cfg' req) := by
  rw [route_curly E hk, route_curly E (hperm.1 ▸ hk)]
  exact Restful.C03_curly_order_E E cfg cfg' hperm (Spec.distinctMethodPath_of_B hd) req
    (Curly.scoresSeparateE_of E (Spec.scoresSeparate_of_B hs))

/-! ### RouterJSR311: route level, and literal root paths -/

/-- RouterJSR311 never selects a route with fewer literal characters than another matching,
    eligible route of the dispatched service; on structured templates: never a less specific one -/
theorem C03_jsr_never_less_specific (cfg : Config) (hk : cfg.router = .jsr) (req : Req) (s r : Nat) (ps : Params)
    (h : route E cfg req = .selected s r ps) :
    ∃ svc ∈ cfg.services, ∃ rt ∈ svc.built, svc.id = s ∧ rt.id = r ∧ ∃ final wex wc, Jsr.compile svc.rootPath = some wex ∧
      Jsr.matchExpr E wex.toks req.path = some (wc, final) ∧
      ∀ rt' ∈ svc.built, ∀ ts ts', readToks (Spec.nonEmptyToks rt.relPath) = some ts →
        readToks (Spec.nonEmptyToks rt'.relPath) = some ts' →
        (∀ t ∈ ts, Spec.tokJsrOK t = true) → (∀ t ∈ ts', Spec.tokJsrOK t = true) →
        ∀ caps' f', Jsr.matchExpr E (ts'.map Jsr.ofTTok) final = some (caps', f') → (f' = [] ∨ f' = ['/']) →
        Spec.eligible rt' req = true → Spec.moreSpecific ts' ts = false := by
  rw [route_jsr E hk] at h
  obtain ⟨svc, final, hdisp, rt, hrt, h1, h2, wex, wc, hwex, hwm, hbest⟩ := routeJsr_selected_full E h
  exact ⟨svc, (Jsr.detectDispatcher_mem E hdisp).1, rt, hrt, h1, h2, final, wex, wc, hwex, hwm,
    fun rt' hrt' ts ts' hts hts' hj hj' caps' f' hm' hf' hel' =>
      hbest.not_beaten E hrt' hts hts' hj hj' hm' hf' hel'⟩

/-- among literal root paths the longest matching one is dispatched to -/
theorem C03_jsr_literal_root_longest (svcs : List Service) (path : Str) (svc : Service) (final : Str)
    (hlit : ∀ s ∈ svcs, ∀ ex, Jsr.compile s.rootPath = some ex → ∀ t ∈ ex.toks, ∃ l, t = .lit l)
    (h : Jsr.detectDispatcher E svcs path = some (some (svc, final))) :
    ∀ s' ∈ svcs, ∀ ex' caps' f', Jsr.compile s'.rootPath = some ex' → Jsr.matchExpr E ex'.toks path = some (caps', f') →
      ∀ ex, Jsr.compile svc.rootPath = some ex → ex'.literalCount ≤ ex.literalCount :=
  Restful.C03_jsr_literal_root_longest E svcs path svc final hlit h

/-- RouterJSR311 with literal, pairwise different root paths: registration order does not matter
    (full statement: only the property's own exclusions are assumed) -/
theorem C03_jsr_order (cfg cfg' : Config) (hk : cfg.router = .jsr) (hperm : Spec.CfgPerm cfg cfg')
    (hd : Spec.distinctMethodPathB cfg = true) (req : Req)
    (hlit : ∀ s ∈ cfg.services, ∀ ex, Jsr.compile s.rootPath = some ex → ∀ t ∈ ex.toks, ∃ l, t = .lit l)
    (hdist : cfg.services.Pairwise (fun a b => ∀ exa exb, Jsr.compile a.rootPath = some exa →
      Jsr.compile b.rootPath = some exb → exa.toks ≠ exb.toks)) :
    Spec.sameOutcome (route E cfg req) (route E cfg' req) := by
  rw [route_jsr E hk, route_jsr E (hperm.1 ▸ hk)]
  exact Restful.C03_jsr_order E cfg cfg' hperm (Spec.distinctMethodPath_of_B hd) req hlit
    (Spec.jsrRootsSeparate_of_distinct E cfg req hlit hdist)

/-! ### F05: ten variable root tokens score like one literal -/

def f05Vars : Str := "/{a}/{b}/{c}/{d}/{e}/{f}/{g}/{h}/{i}/{j}".toList
def f05SvcVars : Service := { id := 0, root := f05Vars, routes :=
  [{ id := 0, method := "GET".toList, relPath := [], consumes := [], produces := [], conds := [], noct := [] }] }
def f05SvcLit : Service := { id := 1, root := "/x".toList, routes :=
  [{ id := 1, method := "GET".toList, relPath := "/{r:*}".toList, consumes := [], produces := [], conds := [], noct := [] }] }
def f05Req : Req := { method := "GET".toList, path := "/x/2/3/4/5/6/7/8/9/10".toList }
def f05E : ReEnv := ⟨fun _ _ => true, fun _ _ => true⟩

/-- the two registration orders of the same two services select different route functions, although
    the roots do not have the same shape (ten variables vs one literal): both score 10 -/
theorem C03_F05_witness :
    (match route f05E { router := .curly, services := [f05SvcVars, f05SvcLit] } f05Req with
      | .selected s _ _ => s | _ => 99) = 0 ∧
    (match route f05E { router := .curly, services := [f05SvcLit, f05SvcVars] } f05Req with
      | .selected s _ _ => s | _ => 99) = 1 ∧
    Spec.hasSameShapeRoots { router := .curly, services := [f05SvcVars, f05SvcLit] } = false ∧
    Spec.scoresSeparateB { router := .curly, services := [f05SvcVars, f05SvcLit] } f05Req = false := by
  decide +kernel

/-! ### C03 as a predicate on one outcome (`Spec.c03Holds`, evaluated by the driver on every REAL outcome)

`Spec.c03Holds E cfg req o` (Spec/Order.lean) — when `o = .selected s r ps`, some declaration with
that identity is not beaten by another candidate:
  * no other route of its WebService that admits the URL and is eligible for the request has a
    `moreSpecific` template (CurlyRouter: `readTemplate rt.path` / `Spec.admits E .curly`;
    RouterJSR311: the route-relative tokens matched against what the root leaves of the URL);
  * CurlyRouter: no other WebService whose root claims the URL has a root that is the selected root
    with variables replaced by literals, or a proper extension of it;
  * RouterJSR311: among literal roots none that matches the URL has more literal characters.

Hypothesis: `cfg.wfTemplates` only.  It is what makes the structured
reading of the SELECTED route's template exist (the predicate answers `false` when it cannot read
it); a competitor whose template does not read is not a competitor.  No hypothesis about root
paths is needed: `C03_root_literal_beats_variable` asks for non-empty tokens of the more specific
root, but when both roots claim the same URL that condition is superfluous
(`C03_root_literal_beats_variable_claimed` below: an empty root token is matched by an empty URL
segment only, and there the other root has an empty token too), and
`C03_jsr_literal_root_longest` needs only the two roots compared to be literal, not all of them. -/

/-- `C03_root_literal_beats_variable` without its side condition on empty tokens -/
theorem C03_root_literal_beats_variable_claimed (qs a b : List Str)
    (h : Spec.rootMoreSpecific a b = true) (sa sb : Nat)
    (ha : Curly.wsScore qs a = some sa) (hb : Curly.wsScore qs b = some sb) : sa > sb :=
  Restful.C03_root_literal_beats_variable_claimed qs a b h sa sb ha hb

/-- both routers in one statement: whatever the model selects, the predicate holds of it, because it
    holds of the route object the router returned (`RouteRan.c03At`) -/
theorem C03_holds (cfg : Config) (hwf : cfg.wfTemplates = true) (req : Req) :
    Spec.c03Holds E cfg req (route E cfg req) = true := by
  cases h : route E cfg req with
  | selected s r ps =>
    obtain ⟨svc, hsvc, rt, hrt, hran, hs, hr, _⟩ := route_selected_ran E h
    rw [Spec.c03Holds_selected]
    exact Spec.anyIds_intro hsvc hs hrt hr (hran.c03At E hwf)
  | _ => rfl

/-- CurlyRouter: whatever is selected is never less specific than another candidate, at route
    level and at root level -/
theorem C03_holds_curly (cfg : Config) (hwf : cfg.wfTemplates = true) (hk : cfg.router = .curly) (req : Req) :
    Spec.c03Holds E cfg req (route E cfg req) = true :=
  have _ := hk -- not needed: `C03_holds` covers both routers
  C03_holds E cfg hwf req

/-- RouterJSR311: whatever is selected is never less specific than another candidate of the
    dispatched WebService, and among literal roots the longest matching one is dispatched to -/
theorem C03_holds_jsr (cfg : Config) (hwf : cfg.wfTemplates = true) (hk : cfg.router = .jsr) (req : Req) :
    Spec.c03Holds E cfg req (route E cfg req) = true :=
  have _ := hk -- not needed: `C03_holds` covers both routers
  C03_holds E cfg hwf req

/-! ### the witness of the predicate is the route that ran

`Spec.c03Holds` names the route by its two ids.  On a table whose ids identify (`Spec.idsDistinct`,
reported by the driver inside `WF`) exactly one declaration carries them: the predicate is its
clause (`Spec.c03At`: not beaten at route level, not beaten at root level) evaluated at THAT
declaration, and for the model's outcome that declaration is the route object the router returned
(`RouteRan`).  Without the hypothesis a namesake can satisfy it (`C03_ids_witness`). -/

/-- the predicate, evaluated on the ids of a declaration, is its clause evaluated at THAT declaration:
    no other declaration can satisfy it in the place of the one whose function was observed to run -/
theorem C03_predicate_unique (cfg : Config) (hids : Spec.idsDistinct cfg = true) (req : Req)
    (svc : Service) (hsvc : svc ∈ cfg.services) (rt : Route) (hrt : rt ∈ svc.built) (ps : Params) :
    Spec.c03Holds E cfg req (.selected svc.id rt.id ps) = Spec.c03At E cfg req svc rt :=
  Spec.anyIds_of_mem hids _ hsvc hrt

/-- **C03 with a unique witness** (both routers): when the model selects `(s, r)`, exactly one
    declaration has these ids, it is the object the router returned, and IT is not beaten: no
    candidate route of its WebService is more specific, no claiming root is more specific than its
    WebService's root (CurlyRouter) / no matching literal root has more literal characters
    (RouterJSR311) -/
theorem C03_holds_unique (cfg : Config) (hwf : cfg.wfTemplates = true) (hids : Spec.idsDistinct cfg = true)
    (req : Req) (s r : Nat) (ps : Params) (h : route E cfg req = .selected s r ps) :
    ∃ svc ∈ cfg.services, ∃ rt ∈ svc.built, RouteRan E cfg req svc rt ∧ svc.id = s ∧ rt.id = r ∧
      (∀ svc' ∈ cfg.services, svc'.id = s → svc' = svc) ∧
      (∀ svc' ∈ cfg.services, ∀ rt' ∈ svc'.built, svc'.id = s → rt'.id = r → rt' = rt) ∧
      (cfg.router = .curly → Spec.curlyRouteOK E svc rt req = true ∧ Spec.curlyRootOK E cfg svc req = true) ∧
      (cfg.router = .jsr → Spec.jsrRouteOK E svc rt req = true ∧ Spec.jsrRootOK E cfg svc req = true) := by
  obtain ⟨svc, hsvc, rt, hrt, hran, hs, hr, _, _, hu1, hu2⟩ := route_selected_unique E hids h
  exact ⟨svc, hsvc, rt, hrt, hran, hs, hr, hu1, hu2, fun hk => hran.c03_curly E hwf hk,
    fun hk => hran.c03_jsr E hwf hk⟩

/-! ### order independence without panics

`Spec.sameOutcome (.panic _) (.panic _)` is true: the order theorems above do not exclude that both
registrations panic.  On a table in the grammar (`wfTemplates`, and the root of a route-less service
reads: `rootsRead`, the hypotheses of `C02_total`) neither side panics, so "the same outcome" is a
statement about selected routes and error statuses only; and on a table whose ids identify, "the
same ids" is "the same route object" (`C03_order_same_route`). -/

/-- the three ways two panic-free outcomes can be the same for a client -/
def SameRouted (a b : Outcome) : Prop :=
  (∃ s r ps, a = .selected s r ps ∧ b = .selected s r ps) ∨
  (∃ c, a = .error c none ∧ b = .error c none) ∨
  (∃ c al al', a = .error c (some al) ∧ b = .error c (some al') ∧ ∀ m, m ∈ al ↔ m ∈ al')

/-- CurlyRouter, registration order, no panic on either side (needs `scoresSeparate`: F05, as
    `C03_curly_order_partial`) -/
theorem C03_curly_order_nopanic_partial (cfg cfg' : Config) (hk : cfg.router = .curly) (hperm : Spec.CfgPerm cfg cfg')
    (hwf : cfg.wfTemplates = true) (hroots : Curly.rootsRead cfg = true)
    (hd : Spec.distinctMethodPathB cfg = true) (req : Req) (hs : Spec.scoresSeparateB cfg req = true) :
    (∀ w, route E cfg req ≠ .panic w) ∧ (∀ w, route E cfg' req ≠ .panic w) ∧
      SameRouted (route E cfg req) (route E cfg' req) := by
  have hnp := Restful.C02_total E cfg hwf (fun hj => by rw [hk] at hj; cases hj) (fun _ => hroots) req
  have hso := C03_curly_order_partial E cfg cfg' hk hperm hd req hs
  exact ⟨hnp, Spec.sameOutcome_not_panic_right hso hnp, Spec.sameOutcome_cases hso hnp⟩

/-- the same under separation of the CLAIMED scores only (`C03_curly_order_claimed_partial`) -/
theorem C03_curly_order_claimed_nopanic_partial (cfg cfg' : Config) (hk : cfg.router = .curly)
    (hperm : Spec.CfgPerm cfg cfg') (hwf : cfg.wfTemplates = true) (hroots : Curly.rootsRead cfg = true)
    (hd : Spec.distinctMethodPathB cfg = true) (req : Req) (hs : Curly.ScoresSeparateE E cfg req) :
    (∀ w, route E cfg req ≠ .panic w) ∧ (∀ w, route E cfg' req ≠ .panic w) ∧
      SameRouted (route E cfg req) (route E cfg' req) := by
  have hnp := Restful.C02_total E cfg hwf (fun hj => by rw [hk] at hj; cases hj) (fun _ => hroots) req
  have hso := C03_curly_order_claimed_partial E cfg cfg' hk hperm hd req hs
  exact ⟨hnp, Spec.sameOutcome_not_panic_right hso hnp, Spec.sameOutcome_cases hso hnp⟩

/-- RouterJSR311 with literal, pairwise different root paths: registration order does not matter
    and neither side panics (full statement: only the property's own exclusions and the grammar) -/
theorem C03_jsr_order_nopanic (cfg cfg' : Config) (hk : cfg.router = .jsr) (hperm : Spec.CfgPerm cfg cfg')
    (hwf : cfg.wfTemplates = true) (hroots : Jsr.rootsRead cfg = true)
    (hd : Spec.distinctMethodPathB cfg = true) (req : Req)
    (hlit : ∀ s ∈ cfg.services, ∀ ex, Jsr.compile s.rootPath = some ex → ∀ t ∈ ex.toks, ∃ l, t = .lit l)
    (hdist : cfg.services.Pairwise (fun a b => ∀ exa exb, Jsr.compile a.rootPath = some exa →
      Jsr.compile b.rootPath = some exb → exa.toks ≠ exb.toks)) :
    (∀ w, route E cfg req ≠ .panic w) ∧ (∀ w, route E cfg' req ≠ .panic w) ∧
      SameRouted (route E cfg req) (route E cfg' req) := by
  have hnp := Restful.C02_total E cfg hwf (fun _ => hroots) (fun hc => by rw [hk] at hc; cases hc) req
  have hso := C03_jsr_order E cfg cfg' hk hperm hd req hlit hdist
  exact ⟨hnp, Spec.sameOutcome_not_panic_right hso hnp, Spec.sameOutcome_cases hso hnp⟩

/-- on a table whose ids identify, two registrations that select the same pair of ids run the same
    route OBJECT (either router; `CfgPerm` keeps ids, so `idsDistinct` need only be asked of one side) -/
theorem C03_order_same_route (cfg cfg' : Config) (hperm : Spec.CfgPerm cfg cfg') (hids : Spec.idsDistinct cfg = true)
    (req : Req) (s r : Nat) (ps ps' : Params)
    (h : route E cfg req = .selected s r ps) (h' : route E cfg' req = .selected s r ps') :
    ∃ svc ∈ cfg.services, ∃ svc' ∈ cfg'.services, ∃ rt, rt ∈ svc.built ∧ rt ∈ svc'.built ∧ svc.id = s ∧ svc'.id = s ∧
      rt.id = r ∧ RouteRan E cfg req svc rt ∧ RouteRan E cfg' req svc' rt :=
  route_same_object_of_perm E hperm hids h h'

/-- non-vacuity (CurlyRouter): `/users` (GET /{id}, GET /me, POST /{id}) and `/{tenant}` (GET /{thing}),
    request GET /users/me.  The table is well formed; BOTH roots claim the URL and the literal one is
    `rootMoreSpecific`; in `/users` TWO routes are candidates (`/{id}` and `/me`); the model selects
    the literal route 11, of which the predicate holds — and it is falsified by each less specific
    choice: route 10 (`/{id}`) of the same service, and route 20 of the variable root. -/
example :
    C03Example.cfg.wfTemplates = true ∧ C03Example.cfg.router = .curly ∧
    (Spec.rootCandidates C03Example.E0 C03Example.cfg C03Example.req).map (·.id) = [1, 2] ∧
    Spec.rootMoreSpecific (tokenize C03Example.users.rootPath) (tokenize C03Example.tenants.rootPath) = true ∧
    (Spec.routeCandidates C03Example.E0 .curly C03Example.users C03Example.req).map (·.id) = [10, 11] ∧
    route C03Example.E0 C03Example.cfg C03Example.req = .selected 1 11 [] ∧
    Spec.c03Holds C03Example.E0 C03Example.cfg C03Example.req (route C03Example.E0 C03Example.cfg C03Example.req) = true ∧
    Spec.c03Holds C03Example.E0 C03Example.cfg C03Example.req (.selected 1 10 [("id".toList, "me".toList)]) = false ∧
    Spec.c03Holds C03Example.E0 C03Example.cfg C03Example.req
      (.selected 2 20 [("tenant".toList, "users".toList), ("thing".toList, "me".toList)]) = false := by
  decide +kernel

/-- a longer root: `/users/admin` next to `/users`; a request below both is not to be served by the prefix -/
def curlyNested : Config := { router := .curly, services := [C03JsrExample.users, C03JsrExample.admin] }

example :
    curlyNested.wfTemplates = true ∧
    (Spec.rootCandidates C03Example.E0 curlyNested C03JsrExample.req).map (·.id) = [1, 2] ∧
    Spec.rootProperExtension (tokenize C03JsrExample.admin.rootPath) (tokenize C03JsrExample.users.rootPath) = true ∧
    route C03Example.E0 curlyNested C03JsrExample.req = .selected 2 21 [] ∧
    Spec.c03Holds C03Example.E0 curlyNested C03JsrExample.req (route C03Example.E0 curlyNested C03JsrExample.req) = true := by
  decide +kernel

/-- non-vacuity (RouterJSR311): `/users` (GET /{id}, GET /me, POST /{id}) and `/users/admin`
    (GET /{thing}, GET /x), request GET /users/admin/x.  Both literal roots match the URL; in
    `/users/admin` TWO routes are candidates; the model selects the literal route 21 of the longer
    root; the predicate holds of it and is falsified by the variable route 20 of the same service. -/
example :
    C03JsrExample.cfg.wfTemplates = true ∧ C03JsrExample.cfg.router = .jsr ∧
    (Spec.rootCandidates C03Example.E0 C03JsrExample.cfg C03JsrExample.req).map
      (fun s => (s.id, (Spec.jsrLiteralRoot s).map (·.literalCount))) = [(1, some 5), (2, some 10)] ∧
    (Spec.routeCandidates C03Example.E0 .jsr C03JsrExample.admin C03JsrExample.req).map (·.id) = [20, 21] ∧
    route C03Example.E0 C03JsrExample.cfg C03JsrExample.req = .selected 2 21 [] ∧
    Spec.c03Holds C03Example.E0 C03JsrExample.cfg C03JsrExample.req
      (route C03Example.E0 C03JsrExample.cfg C03JsrExample.req) = true ∧
    Spec.c03Holds C03Example.E0 C03JsrExample.cfg C03JsrExample.req
      (.selected 2 20 [("thing".toList, "x".toList)]) = false := by
  decide +kernel

/-- the root-level clause discriminates too: GET /users/admin is matched by both roots; the longer
    root `/users/admin` is dispatched to and has no route for it (404).  An implementation that
    answered from the prefix root `/users` (route 10, `/{id}` = "admin") would falsify the predicate. -/
example :
    route C03Example.E0 C03JsrExample.cfg { method := "GET".toList, path := "/users/admin".toList } = .error 404 none ∧
    Spec.c03Holds C03Example.E0 C03JsrExample.cfg { method := "GET".toList, path := "/users/admin".toList }
      (.selected 1 10 [("id".toList, "admin".toList)]) = false := by
  decide +kernel

/-! #### RouterJSR311 and root paths with variables: outside the predicate, and why

The property says "among WebService root paths a literal beats a variable".  RouterJSR311 ranks its
dispatcher candidates by the number of capture groups FIRST (jsr311.go:305 `matchesCount`, then
literal characters): a root with a variable beats a literal root that matches the same URL.  So
that clause is false for RouterJSR311 as soon as a root has a variable; the root-level clause of
`Spec.c03Holds` for RouterJSR311 therefore speaks about literal roots only (as `C03_jsr_order`
does), and the witness is recorded here instead of being silently dropped. -/

def jsrVarRootCfg : Config := { router := .jsr, services :=
  [{ id := 1, root := "/{x}".toList, routes := [C03Example.rGet 10 "/b"] },
   { id := 2, root := "/a".toList, routes := [C03Example.rGet 20 "/b"] }] }

/-- RouterJSR311 dispatches GET /a/b to the root `/{x}` although the literal root `/a` matches
    (in either registration order); CurlyRouter, on the same table, dispatches to `/a` -/
theorem C03_jsr_variable_root_witness :
    route C03Example.E0 jsrVarRootCfg { method := "GET".toList, path := "/a/b".toList } =
      .selected 1 10 [("x".toList, "a".toList)] ∧
    route C03Example.E0 { jsrVarRootCfg with services := jsrVarRootCfg.services.reverse }
      { method := "GET".toList, path := "/a/b".toList } = .selected 1 10 [("x".toList, "a".toList)] ∧
    route C03Example.E0 { jsrVarRootCfg with router := .curly } { method := "GET".toList, path := "/a/b".toList } =
      .selected 2 20 [] ∧
    Spec.rootMoreSpecific (tokenize "/a".toList) (tokenize "/{x}".toList) = true := by
  decide +kernel

/-! ### non-vacuity (audit): every theorem of this file instantiated on the concrete tables
`C03Example` (Lemmas/Order.lean: `/users` with GET `/{id}`, GET `/me`, POST `/{id}`; `/{tenant}` with
GET `/{thing}`; request GET /users/me; `cfg'` = the same services and routes in another order) and
`C03JsrExample` (Lemmas/OrderJsr.lean: `/users`, `/users/admin`; request GET /users/admin/x), each
hypothesis discharged by evaluation or by the facts proved next to the tables. -/
namespace C03Audit
open C03Example (E0)

/-- the two templates competing for GET /users/me, as the checked reading gives them -/
def tsMe : List TTok := [⟨.lit "users".toList, none⟩, ⟨.lit "me".toList, none⟩]
def tsId : List TTok := [⟨.lit "users".toList, none⟩, ⟨.var "id".toList, none⟩]

example : readTemplate "/users/me".toList = some tsMe ∧ readTemplate "/users/{id}".toList = some tsId ∧
    Spec.moreSpecific tsMe tsId = true ∧ Spec.moreSpecific tsId tsMe = false ∧ Spec.moreSpecific tsMe tsMe = false := by
  decide_lits [tsMe, tsId]
theorem moreSpecific_me_id : Spec.moreSpecific tsMe tsId = true := by decide_lits [tsMe, tsId]

/-- `C03_curly_key` -/
example : staticCount tsMe > staticCount tsId := C03_curly_key tsMe tsId moreSpecific_me_id

/-- the request's segments and three roots: `/users`, `/{tenant}`, `/users/me` -/
def qs : List Str := tokenize "/users/me".toList
def rUsers : List Str := tokenize "/users".toList
def rTenant : List Str := tokenize "/{tenant}".toList
def rUsersMe : List Str := tokenize "/users/me".toList

theorem wsScore_users : Curly.wsScore qs rUsers = some 10 := by decide_lits [qs, rUsers]
theorem wsScore_tenant : Curly.wsScore qs rTenant = some 1 := by decide_lits [qs, rTenant]
theorem wsScore_usersMe : Curly.wsScore qs rUsersMe = some 30 := by decide_lits [qs, rUsersMe]
theorem wsScoreE_users : Curly.wsScoreE E0 qs rUsers = .yes 10 := by decide_lits [qs, rUsers]
theorem wsScoreE_tenant : Curly.wsScoreE E0 qs rTenant = .yes 1 := by decide_lits [qs, rTenant]
theorem wsScoreE_usersMe : Curly.wsScoreE E0 qs rUsersMe = .yes 30 := by decide_lits [qs, rUsersMe]
theorem usersBeatsTenant : Spec.rootMoreSpecific rUsers rTenant = true := by decide_lits [rUsers, rTenant]
theorem usersPrefix : rUsers <+: rUsersMe := by decide_lits [rUsers, rUsersMe]
theorem usersNe : rUsers ≠ rUsersMe := by decide_lits [rUsers, rUsersMe]
theorem usersNonempty : ∀ t ∈ rUsers, t ≠ [] := by decide_lits [rUsers]

example : Curly.wsScore qs rUsers = some 10 ∧ Curly.wsScore qs rTenant = some 1 ∧ Curly.wsScore qs rUsersMe = some 30 ∧
    Curly.wsScoreE E0 qs rUsers = .yes 10 ∧ Curly.wsScoreE E0 qs rTenant = .yes 1 ∧ Curly.wsScoreE E0 qs rUsersMe = .yes 30 ∧
    Spec.rootMoreSpecific rUsers rTenant = true ∧ rUsers <+: rUsersMe ∧ rUsers ≠ rUsersMe :=
  ⟨wsScore_users, wsScore_tenant, wsScore_usersMe, wsScoreE_users, wsScoreE_tenant, wsScoreE_usersMe,
    usersBeatsTenant, usersPrefix, usersNe⟩
/-- `C03_root_literal_beats_variable`, `…_claimed`, `C03_rootE_literal_beats_variable` -/
example : 10 > 1 := C03_root_literal_beats_variable qs rUsers rTenant usersNonempty usersBeatsTenant 10 1 wsScore_users wsScore_tenant
example : 10 > 1 := C03_root_literal_beats_variable_claimed qs rUsers rTenant usersBeatsTenant 10 1 wsScore_users wsScore_tenant
example : 10 > 1 := C03_rootE_literal_beats_variable E0 qs rUsers rTenant usersNonempty usersBeatsTenant 10 1 wsScoreE_users wsScoreE_tenant
/-- `C03_root_longer_beats_prefix`, `C03_rootE_longer_beats_prefix` -/
example : 30 > 10 := C03_root_longer_beats_prefix qs rUsersMe rUsers usersPrefix usersNe 30 10 wsScore_usersMe wsScore_users
example : 30 > 10 := C03_rootE_longer_beats_prefix E0 qs rUsersMe rUsers usersPrefix usersNe 30 10 wsScoreE_usersMe wsScoreE_users
/-- `C03_claimed_score` -/
example : Curly.wsScore qs rUsers = some 10 := C03_claimed_score E0 qs rUsers 10 wsScoreE_users

/-- `C03_best_service`: two roots claim GET /users/me, the literal one (score 10 against 1) is consulted -/
example : C03Example.users ∈ C03Example.cfg.services ∧
    Curly.wsScoreE E0 qs (tokenize C03Example.users.rootPath) = .yes 10 ∧
    ∀ s' ∈ C03Example.cfg.services, ∀ sc', Curly.wsScoreE E0 qs (tokenize s'.rootPath) = .yes sc' → sc' ≤ 10 :=
  C03_best_service E0 qs C03Example.cfg.services C03Example.users 10 (by decide_lits [qs, C03Example.cfg, C03Example.users, C03Example.tenants, C03Example.rGet])

/-- `C03_no_service`, both directions inhabited: no root of `/users`, `/users/admin` claims /orgs/1 … -/
example : ∀ s ∈ curlyNested.services, Curly.wsScoreE E0 (tokenize "/orgs/1".toList) (tokenize s.rootPath) = .no :=
  (C03_no_service E0 _ _).mp (by decide_lits [curlyNested, C03JsrExample.users, C03JsrExample.admin, C03Example.rGet])
/-- … and some root claims /users/me, so a service is consulted -/
example : Curly.detectWebService E0 qs curlyNested.services none ≠ some none := by
  decide_lits [qs, curlyNested, C03JsrExample.users, C03JsrExample.admin, C03Example.rGet]

/-- `C03_curly_never_less_specific` (hypotheses: well-formed, CurlyRouter, a route was selected;
    routes 10 and 11 of `/users` are both candidates) -/
example := C03_curly_never_less_specific E0 C03Example.cfg C03Example.wf rfl C03Example.req 1 11 [] C03Example.routed

/-- `C03_holds_curly`, `C03_holds_jsr` on the instances of the examples above -/
example : Spec.c03Holds E0 C03Example.cfg C03Example.req (route E0 C03Example.cfg C03Example.req) = true :=
  C03_holds_curly E0 C03Example.cfg C03Example.wf rfl C03Example.req
example : Spec.c03Holds E0 C03JsrExample.cfg C03JsrExample.req (route E0 C03JsrExample.cfg C03JsrExample.req) = true :=
  C03_holds_jsr E0 C03JsrExample.cfg C03JsrExample.wf rfl C03JsrExample.req

/-- `C03_curly_order_claimed_partial` and `C03_curly_order_partial`: the two registrations differ,
    both roots claim the request, a route is selected -/
example : Spec.distinctMethodPathB C03Example.cfg = true ∧ Spec.scoresSeparateB C03Example.cfg C03Example.req = true ∧
    C03Example.cfg ≠ C03Example.cfg' ∧ route E0 C03Example.cfg C03Example.req = .selected 1 11 [] ∧
    route E0 C03Example.cfg' C03Example.req = .selected 1 11 [] :=
  ⟨C03Example.distinctB, C03Example.separateB, C03Example.ne, C03Example.routed, C03Example.routed'⟩
example : Spec.sameOutcome (route E0 C03Example.cfg C03Example.req) (route E0 C03Example.cfg' C03Example.req) := by
  with_reducible exact (C03_curly_order_claimed_partial E0 C03Example.cfg C03Example.cfg' rfl C03Example.cfgPerm C03Example.distinctB C03Example.req
    (Curly.scoresSeparateE_of E0 C03Example.separate))
example : Spec.sameOutcome (route E0 C03Example.cfg C03Example.req) (route E0 C03Example.cfg' C03Example.req) := by
  with_reducible exact (C03_curly_order_partial E0 C03Example.cfg C03Example.cfg' rfl C03Example.cfgPerm C03Example.distinctB C03Example.req
    C03Example.separateB)

/-- `Spec.sameOutcome` is not trivially true: it separates two different routes, a route from an
    error, two Allow sets -/
example : ¬ Spec.sameOutcome (.selected 1 11 []) (.selected 1 10 [("id".toList, "me".toList)]) ∧
    ¬ Spec.sameOutcome (.selected 1 11 []) (.error 404 none) ∧
    ¬ Spec.sameOutcome (.error 405 (some ["GET".toList])) (.error 405 (some ["GET".toList, "PUT".toList])) := by
  refine ⟨by simp [Spec.sameOutcome], by simp [Spec.sameOutcome], ?_⟩
  simp only [Spec.sameOutcome, true_and]
  intro h
  exact absurd ((h "PUT".toList).mpr (by decide_lits)) (by decide_lits)

/-- `C03_jsr_never_less_specific` (two routes of `/users/admin` were candidates) -/
example := C03_jsr_never_less_specific E0 C03JsrExample.cfg rfl C03JsrExample.req 2 21 [] C03JsrExample.routed

/-- `C03_jsr_literal_root_longest`: both literal roots match GET /users/admin/x, the longer one is dispatched to -/
example := C03_jsr_literal_root_longest E0 C03JsrExample.cfg.services C03JsrExample.req.path C03JsrExample.admin
  "/x".toList C03JsrExample.literalRoots (by decide_lits [C03JsrExample.cfg, C03JsrExample.users, C03JsrExample.admin, C03Example.rGet, C03JsrExample.req])

/-- the last hypothesis of `C03_jsr_order` on `C03JsrExample.cfg`: the compiled roots are different -/
theorem rootsDiffer : C03JsrExample.cfg.services.Pairwise (fun a b => ∀ exa exb, Jsr.compile a.rootPath = some exa →
    Jsr.compile b.rootPath = some exb → exa.toks ≠ exb.toks) := by
  simp only [C03JsrExample.cfg, List.pairwise_cons, List.mem_cons, List.not_mem_nil, or_false, forall_eq,
    false_imp_iff, implies_true, List.Pairwise.nil, and_true]
  intro exa exb ha hb
  rw [C03JsrExample.cUsers] at ha
  rw [C03JsrExample.cAdmin] at hb
  cases ha
  cases hb
  decide_lits

/-- `C03_jsr_order` with all five hypotheses; the registrations differ and a route is selected -/
example : Spec.sameOutcome (route E0 C03JsrExample.cfg C03JsrExample.req) (route E0 C03JsrExample.cfg' C03JsrExample.req) := by
  with_reducible exact (C03_jsr_order E0 C03JsrExample.cfg C03JsrExample.cfg' rfl C03JsrExample.cfgPerm C03JsrExample.distinctB C03JsrExample.req
    C03JsrExample.literalRoots rootsDiffer)
example : C03JsrExample.cfg ≠ C03JsrExample.cfg' ∧
    route E0 C03JsrExample.cfg C03JsrExample.req = .selected 2 21 [] ∧
    route E0 C03JsrExample.cfg' C03JsrExample.req = .selected 2 21 [] :=
  ⟨C03JsrExample.ne, C03JsrExample.routed, C03JsrExample.routed'⟩

/-- `C03_holds_unique`, `Spec.anyIds_eq` on these instances (ids identify, templates read, a route
    function runs) -/
example : Spec.idsDistinct C03Example.cfg = true ∧ Spec.idsDistinct C03JsrExample.cfg = true :=
  ⟨C03Example.idsDistinct, C03JsrExample.idsDistinct⟩
example := C03_holds_unique E0 C03Example.cfg C03Example.wf C03Example.idsDistinct C03Example.req 1 11 [] C03Example.routed
example := C03_holds_unique E0 C03JsrExample.cfg C03JsrExample.wf C03JsrExample.idsDistinct C03JsrExample.req 2 21 []
  C03JsrExample.routed
example : Spec.c03Holds E0 C03Example.cfg C03Example.req (.selected 1 10 [("id".toList, "me".toList)]) = false := by
  rw [Spec.c03Holds_selected, Spec.anyIds_eq C03Example.idsDistinct]
  decide_lits [C03Example.cfg, C03Example.users, C03Example.tenants, C03Example.rGet, C03Example.req]

/-- `C03_curly_order_nopanic_partial`, `C03_curly_order_claimed_nopanic_partial`, `C03_jsr_order_nopanic`,
    `C03_order_same_route` with all their hypotheses (the root hypotheses hold: every service has routes) -/
example : Curly.rootsRead C03Example.cfg = true ∧ Jsr.rootsRead C03JsrExample.cfg = true :=
  ⟨C03Example.rootsRead, C03JsrExample.rootsRead⟩
example := C03_curly_order_nopanic_partial E0 C03Example.cfg C03Example.cfg' rfl C03Example.cfgPerm C03Example.wf
  C03Example.rootsRead C03Example.distinctB C03Example.req C03Example.separateB
example := C03_curly_order_claimed_nopanic_partial E0 C03Example.cfg C03Example.cfg' rfl C03Example.cfgPerm C03Example.wf
  C03Example.rootsRead C03Example.distinctB C03Example.req (Curly.scoresSeparateE_of E0 C03Example.separate)
example := C03_jsr_order_nopanic E0 C03JsrExample.cfg C03JsrExample.cfg' rfl C03JsrExample.cfgPerm C03JsrExample.wf
  C03JsrExample.rootsRead C03JsrExample.distinctB C03JsrExample.req C03JsrExample.literalRoots rootsDiffer
example := C03_order_same_route E0 C03Example.cfg C03Example.cfg' C03Example.cfgPerm C03Example.idsDistinct C03Example.req
  1 11 [] [] C03Example.routed C03Example.routed'

/-- `SameRouted` is not trivially true, and excludes what `Spec.sameOutcome` admits: two panics -/
example : ¬ SameRouted (.panic "a") (.panic "a") ∧ Spec.sameOutcome (.panic "a") (.panic "a") ∧
    ¬ SameRouted (.selected 1 11 []) (.selected 1 10 []) ∧ ¬ SameRouted (.selected 1 11 []) (.error 404 none) := by
  refine ⟨?_, trivial, ?_, ?_⟩
  · rintro (⟨_, _, _, h, _⟩ | ⟨_, h, _⟩ | ⟨_, _, _, h, _⟩) <;> cases h
  · rintro (⟨_, _, _, h1, h2⟩ | ⟨_, h, _⟩ | ⟨_, _, _, h, _⟩)
    · cases h1
      cases h2
    · cases h
    · cases h
  · rintro (⟨_, _, _, _, h⟩ | ⟨_, h, _⟩ | ⟨_, _, _, h, _⟩) <;> cases h

/-- two routes of `/users` share id 10: `/{id}` and `/me` -/
def cfgDup : Config := { router := .curly, services :=
  [{ id := 1, root := "/users".toList, routes := [C03Example.rGet 10 "/{id}", C03Example.rGet 10 "/me"] }] }

end C03Audit

/-- without `idsDistinct` the predicate can be satisfied by a namesake: for GET /users/me the
    observation "function 10 of service 1 ran" satisfies the predicate through the literal route
    `/me` (id 10), while the first declaration with these ids, `/{id}`, is beaten by it -/
theorem C03_ids_witness :
    C03Audit.cfgDup.wfTemplates = true ∧ Spec.idsDistinct C03Audit.cfgDup = false ∧
    (Spec.routeOfIds C03Audit.cfgDup 1 10).map (·.2.path) = some "/users/{id}".toList ∧
    Spec.c03Holds C03Example.E0 C03Audit.cfgDup C03Example.req (.selected 1 10 [("id".toList, "me".toList)]) = true ∧
    (Spec.routeOfIds C03Audit.cfgDup 1 10).map (fun p =>
      Spec.c03At C03Example.E0 C03Audit.cfgDup C03Example.req p.1 p.2) = some false := by
  decide +kernel

-- what the theorems above apply about the route object that ran and about `Spec.sameOutcome`:
-- also: Restful.route_selected_ran
-- also: Restful.route_selected_unique
-- also: Restful.route_same_object_of_perm
-- also: Restful.Spec.anyIds_eq
-- also: Restful.Spec.sameOutcome_cases
-- also: Restful.Spec.sameOutcome_not_panic_right

/-! The frame condition (Lemmas/StateShape.lean): the code has exactly the state this property's model
    accounts for — no further package-level variable, struct type or field; constants as modelled. -/
-- also: Restful.StateShape.globals_shape
-- also: Restful.StateShape.consts_shape
-- also: Restful.StateShape.routing_shape

/-! The regenerated tie (tools/gotrans → Gen/Translated.lean, Lemmas/Tie*.lean): the decision
    functions this property's model contains ARE the ones translated from the Go sources on this run. -/
-- also: Restful.Tie.curly_less
-- also: Restful.Tie.jsr_route_less
-- also: Restful.Tie.jsr_dispatcher_less
-- also: Restful.Tie.sort_call_sites

end Props
end Restful

-- the Go functions behind this property's model, each tied to its translation (Gen/Imp.lean):
-- also: Restful.TieImp.T2.webservice_score
-- also: Restful.TieImp.match_tokens
-- also: Restful.TieImp.template_to_regex
-- also: Restful.TieImp.detect_web_service
-- also: Restful.TieImp.select_routes
-- also: Restful.TieImp.jsr_select_routes
-- also: Restful.TieImp.jsr_detect_dispatcher
-- also: Restful.TieImp.routeCurly_eq_sel
-- also: Restful.TieImp.curly_select_route
-- also: Restful.TieImp.jsr_select_route
