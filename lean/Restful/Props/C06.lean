/-
C06 — filters run container, service, route in order, each once, per request.  All six entry points.

The theorems, by clause:
(1) the model's log is the one `Spec.chainLog` specifies for the chain `Spec.chainOf` selects;
(2) its closed form for filters that pass or stop and scripts that do not panic; each stage at most once;
(3) which chain a request goes through: the levels in order, the error path, `HandleWithFilter`;
(4) what a filter hands to the next stage;
(5) every request starts a fresh chain;
(6) clauses (2)–(4) for every filter kind and every script.

The chain `HandleWithFilter` builds has the same deferred recover as `dispatch` (a0e838d of /repo):
with recovery on and a custom recover handler, an event of the recover handler may follow that
chain's events too.  `C06_log` compares the user-code events, `C06_log_full` says that whatever
follows the chain's events is the recover handler's.
-/
import Restful.Lemmas.Chain
import Restful.Lemmas.ChainAll
import Restful.Model.Conc
import Restful.Gen.Facts
import Restful.Lemmas.StateShape
import Restful.Props.C19
namespace Restful
namespace Props
open Serve

/-- (1) for every configuration, entry point, ledger and request — panics, stops, replaced
    requests, middleware, compression and recovery included — the log of the serve model is the
    one `Spec.chainLog` specifies for the chain `Spec.chainOf` selects -/
theorem C06_log (E : ReEnv) (cfg : Serve.Cfg) (e : Serve.Entry) (w : Serve.World) (sr : Serve.SReq) :
    Spec.c06Holds E cfg e sr (Spec.obsOf (Serve.serve E cfg e w sr)) = true := by
  have h := Serve.Chain.serve_userEvents cfg.customErr E cfg e w sr
  unfold Spec.chainEvents at h
  unfold Spec.c06Holds
  show (match Spec.chainOf E cfg e sr with
    | none => (Spec.userEvents cfg.customErr (Serve.serve E cfg e w sr).log).isEmpty
    | some (fs, t, cx) => (Spec.userEvents cfg.customErr (Serve.serve E cfg e w sr).log).map Spec.blind == (Spec.userEvents cfg.customErr (Spec.chainLog fs t cx).1).map Spec.blind) = true
  rw [h]
  cases Spec.chainOf E cfg e sr with
  | none => rfl
  | some c => obtain ⟨fs, t, cx⟩ := c; simp

/-- (1, a routing failure that is not a `ServiceError` — a `RouteSelector` of the application's own):
    the model's log is the one `Spec.c06RouterErrorHolds` demands, the container filters around a
    target that records nothing, through `Container.Dispatch` and `Container.ServeHTTP` alike -/
theorem C06_router_error (cfg : Serve.Cfg) (viaServeHTTP : Bool) (w : Serve.World) (sr : Serve.SReq) :
    Spec.c06RouterErrorHolds cfg (Spec.obsOf (Serve.serveRouterError cfg viaServeHTTP w sr)) = true := by
  have hd : Serve.Chain.LogsAs (Serve.dispatchRouterError cfg)
      (Spec.chainLog (Serve.label .cfilter cfg.cfilters) Serve.routerErrorTarget {}).1 := by
    intro s0
    exact Serve.Chain.chain_then_finish cfg _ _ _ s0
  have hlog : ∃ r, Serve.Chain.AllRecover r ∧ (Serve.serveRouterError cfg viaServeHTTP w sr).log =
      (Spec.chainLog (Serve.label .cfilter cfg.cfilters) Serve.routerErrorTarget {}).1 ++ r := by
    cases viaServeHTTP with
    | false => exact hd.initial sr
    | true => exact (Serve.Chain.serveWrapper_logsAs cfg sr _ _ hd).initial sr
  obtain ⟨r, hr1, hr2⟩ := hlog
  unfold Spec.c06RouterErrorHolds
  show ((Spec.userEvents false (Serve.serveRouterError cfg viaServeHTTP w sr).log).map Spec.blind ==
    (Spec.userEvents false (Spec.chainLog (Serve.label .cfilter cfg.cfilters) Serve.routerErrorTarget {}).1).map Spec.blind) = true
  rw [hr2, Serve.Chain.userEvents_append_recover false _ _ hr1]
  simp

/-- non-vacuity of `C06_router_error`: two container filters, the second stops; both start, the
    first comes back, nothing else is recorded (and an observation without them falsifies the predicate) -/
example :
    let f1 : Serve.Filter := { id := 1, pre := [.write "a".toList], kind := .pass, post := [] }
    let f2 : Serve.Filter := { id := 2, pre := [], kind := .stop, post := [] }
    let cfg : Serve.Cfg := { routing := { router := .curly, services := [] }, cfilters := [f1, f2] }
    let res := Serve.serveRouterError cfg false {} { req := { method := "GET".toList, path := "/x".toList } }
    (res.log.map (fun ev => (ev.stage, ev.post)) ==
        [(.cfilter 1, false), (.cfilter 2, false), (.cfilter 2, true), (.cfilter 1, true)]) = true ∧
      Spec.c06RouterErrorHolds cfg { Spec.obsOf res with log := [] } = false := by
  decide +kernel

/-- (1′) the whole log, not only its user-code part: the events of the specified chain, in
    order, followed by nothing but events of the recover handler -/
theorem C06_log_full (E : ReEnv) (cfg : Serve.Cfg) (e : Serve.Entry) (w : Serve.World) (sr : Serve.SReq) :
    ∃ r, (∀ ev ∈ r, ev.stage = .recover) ∧
      (Serve.serve E cfg e w sr).log =
        (match Spec.chainOf E cfg e sr with
         | none => []
         | some (fs, t, cx) => (Spec.chainLog fs t cx).1) ++ r :=
  Serve.Chain.serve_log E cfg e w sr

/-- the core of (1): `runChain` (= `FilterChain.ProcessFilter` unrolled) adds exactly the events of
    `Spec.chainLog` to the (newest-first) log, hands back its context and panics iff it says so -/
theorem C06_runChain (fs : List (Serve.Stage × Serve.Filter)) (t : Serve.Target) (cx : Serve.Ctx) (s : Serve.St) :
    (Serve.runChain fs t cx s).2.1.log = (Spec.chainLog fs t cx).1.reverse ++ s.log ∧
    (Serve.runChain fs t cx s).1 = (Spec.chainLog fs t cx).2.1 ∧
    (Serve.runChain fs t cx s).2.2.isSome = (Spec.chainLog fs t cx).2.2 :=
  Serve.Chain.runChain_spec fs t cx s

/-- the script half of (1): a script never touches the log; the context it leaves and whether it
    panics are what `Spec.attrsAfter` says -/
theorem C06_runActs (as : List Serve.Act) (cx : Serve.Ctx) (s : Serve.St) :
    (Serve.runActs as cx s).2.1.log = s.log ∧
    (Serve.runActs as cx s).1 = { cx with attrs := (Spec.attrsAfter as cx.attrs).1 } ∧
    (Serve.runActs as cx s).2.2.isSome = (Spec.attrsAfter as cx.attrs).2 :=
  Serve.Chain.runActs_spec as cx s

/-- (2) the closed form when every filter either passes control on or stops and no script panics:
    the filters up to and including the first one that stops start in list order, the target runs
    iff none stops, and the same filters come back in reverse order -/
theorem C06_closed_form (fs : List (Serve.Stage × Serve.Filter)) (t : Serve.Target) (cx : Serve.Ctx)
    (hk : ∀ sf ∈ fs, sf.2.kind = .pass ∨ sf.2.kind = .stop)
    (hp : ∀ sf ∈ fs, Spec.noPanic sf.2.pre = true ∧ Spec.noPanic sf.2.post = true)
    (ht : Spec.noPanic t.script = true) :
    let k := fs.findIdx (fun sf => sf.2.kind == .stop)
    (Spec.chainLog fs t cx).1.map (fun ev => (ev.stage, ev.post)) =
      ((fs.take (k + 1)).map (fun sf => (sf.1, false))) ++ (if k = fs.length then [(t.stage, false)] else []) ++
      ((fs.take (k + 1)).reverse.map (fun sf => (sf.1, true))) :=
  (Serve.Chain.chainLog_closed fs t cx hk hp ht).2

/-- under the hypotheses of (2) no panic leaves the chain -/
theorem C06_closed_form_no_panic (fs : List (Serve.Stage × Serve.Filter)) (t : Serve.Target) (cx : Serve.Ctx)
    (hk : ∀ sf ∈ fs, sf.2.kind = .pass ∨ sf.2.kind = .stop)
    (hp : ∀ sf ∈ fs, Spec.noPanic sf.2.pre = true ∧ Spec.noPanic sf.2.post = true)
    (ht : Spec.noPanic t.script = true) :
    (Spec.chainLog fs t cx).2.2 = false :=
  (Serve.Chain.chainLog_closed fs t cx hk hp ht).1

/-- a script without a panic step does not panic, whatever the attributes it starts with -/
theorem C06_noPanic (as : List Serve.Act) (attrs : List (Str × Str)) (h : Spec.noPanic as = true) :
    (Spec.attrsAfter as attrs).2 = false :=
  Spec.attrsAfter_noPanic as attrs h

/-- (2) corollary: the target runs iff no filter stops (stage labels of filters differ from the
    target's); the case of `C06_target_iff_all` in which no first part of a filter panics -/
theorem C06_target_iff (fs : List (Serve.Stage × Serve.Filter)) (t : Serve.Target) (cx : Serve.Ctx)
    (hk : ∀ sf ∈ fs, sf.2.kind = .pass ∨ sf.2.kind = .stop)
    (hp : ∀ sf ∈ fs, Spec.noPanic sf.2.pre = true ∧ Spec.noPanic sf.2.post = true)
    (ht : Spec.noPanic t.script = true)
    (hd : ∀ sf ∈ fs, sf.1 ≠ t.stage) :
    (t.stage, false) ∈ (Spec.chainLog fs t cx).1.map (fun ev => (ev.stage, ev.post)) ↔ ∀ sf ∈ fs, sf.2.kind ≠ .stop := by
  rw [Serve.Chain.chainLog_target_iff fs t cx hd]
  refine forall₂_congr (fun sf hsf => ?_)
  rw [Spec.passesOn_iff, (hp sf hsf).1]
  simp

/-- (2) corollary, in fact for every chain (any filter kinds, panics allowed): when the stage
    labels are pairwise distinct and differ from the target's, no stage starts twice and none comes
    back twice -/
theorem C06_each_once (fs : List (Serve.Stage × Serve.Filter)) (t : Serve.Target) (cx : Serve.Ctx)
    (hn : (fs.map (·.1)).Nodup) (hd : t.stage ∉ fs.map (·.1)) :
    ((Spec.chainLog fs t cx).1.map (fun ev => (ev.stage, ev.post))).Nodup := by
  obtain ⟨asc, h1, h2, h3, _⟩ := Serve.Chain.chainLog_shape fs t cx
  have inj : ∀ (b : Bool) (l : List Stage), l.Nodup → (l.map (fun s => (s, b))).Nodup :=
    fun b l h => List.Pairwise.map _ (fun _ _ hab he => hab (Prod.mk.inj he).1) h
  have e2 : asc.map (fun ev => (ev.stage, ev.post)) = (asc.map (·.stage)).map (fun s => (s, true)) := by
    rw [List.map_map]
    exact List.map_congr_left (fun ev hev => by simp [h2 ev hev])
  have hall : (fs.map (·.1) ++ [t.stage]).Nodup :=
    List.nodup_append.mpr ⟨hn, List.pairwise_singleton _ _, fun a ha b hb hab => hd (by rw [← List.mem_singleton.mp hb, ← hab]; exact ha)⟩
  rw [h1, List.map_append, Serve.Chain.descent_pairs, e2, List.nodup_append]
  refine ⟨inj _ _ (hall.sublist (List.take_sublist _ _)), inj _ _ ?_, ?_⟩
  · exact ((List.pairwise_reverse.mpr (List.Pairwise.imp Ne.symm hn)).sublist (Serve.Chain.returners_sublist fs)).sublist h3.sublist
  · intro a ha b hb hab
    obtain ⟨_, _, rfl⟩ := List.mem_map.mp ha
    obtain ⟨_, _, rfl⟩ := List.mem_map.mp hb
    cases (Prod.mk.inj hab).2

/-- (2)+(1) on the model's log itself, every entry point: when the filter ids are distinct within
    each level (container, each WebService, each route), no stage of user code starts twice or comes
    back twice while one request is served -/
theorem C06_each_once_served (k : Bool) (E : ReEnv) (cfg : Serve.Cfg) (hd : Serve.Chain.DistinctIds cfg) (e : Serve.Entry) (w : Serve.World)
    (sr : Serve.SReq) :
    ((Spec.userEvents k (Serve.serve E cfg e w sr).log).map (fun ev => (ev.stage, ev.post))).Nodup := by
  rw [Serve.Chain.serve_userEvents, Spec.chainEvents]
  cases h : Spec.chainOf E cfg e sr with
  | none => exact List.nodup_nil
  | some c =>
    obtain ⟨fs, t, cx⟩ := c
    obtain ⟨h1, h2, h3⟩ := Serve.Chain.chainOf_labels E cfg e sr fs t cx h
    have hn := C06_each_once fs t cx (h3 hd) (fun hm => by rw [h1 _ hm] at h2; cases h2)
    exact List.Nodup.sublist (List.Sublist.map _ List.filter_sublist) hn

/-- the chains `Spec.chainOf` selects satisfy the label hypotheses of `C06_target_iff` and
    `C06_each_once`: labels are filter stages, the target's is not, and they are pairwise distinct
    when the ids are distinct within each level -/
theorem C06_served_labels (E : ReEnv) (cfg : Serve.Cfg) (e : Serve.Entry) (sr : Serve.SReq)
    (fs : List (Serve.Stage × Serve.Filter)) (t : Serve.Target) (cx : Serve.Ctx)
    (h : Spec.chainOf E cfg e sr = some (fs, t, cx)) :
    (∀ st ∈ fs.map (·.1), st.isFilter = true) ∧ t.stage.isFilter = false ∧
      (Serve.Chain.DistinctIds cfg → (fs.map (·.1)).Nodup) :=
  Serve.Chain.chainOf_labels E cfg e sr fs t cx h

/-- (3) the order of the levels: container filters, then the WebService's, then the route's, each
    in registration order -/
theorem C06_levels (cfg : Serve.Cfg) (svc rid : Nat) :
    (Serve.allFilters cfg svc rid).map (·.1) =
      cfg.cfilters.map (fun f => Serve.Stage.cfilter f.id) ++ (Serve.svcX cfg svc).filters.map (fun f => Serve.Stage.sfilter f.id) ++
        (Serve.routeX cfg rid).filters.map (fun f => Serve.Stage.rfilter f.id) := by
  simp only [Serve.allFilters, List.map_append, Serve.Chain.label_stages]

/-- (3) a routed request goes through exactly `allFilters` towards the route function -/
theorem C06_routed_chain (E : ReEnv) (cfg : Serve.Cfg) (sr : Serve.SReq) (svc rid : Nat) (ps : Params) (tag : String)
    (hc : sr.condPanic = none) (hr : routeTagged E cfg.routing sr.req = (.selected svc rid ps, tag)) :
    ∃ selPath, Spec.chainOf E cfg .dispatch sr =
      some (Serve.allFilters cfg svc rid, ⟨.handler rid, (Serve.routeX cfg rid).script⟩, { params := ps, selPath := selPath }) := by
  simp only [Spec.chainOf, hc, hr]
  exact ⟨_, rfl⟩

/-- `Container.ServeHTTP` selects the same chain as `Container.Dispatch` -/
theorem C06_serveHTTP_same_chain (E : ReEnv) (cfg : Serve.Cfg) (sr : Serve.SReq) :
    Spec.chainOf E cfg .serveDispatch sr = Spec.chainOf E cfg .dispatch sr := rfl

/-- (3) when routing fails the chain is the container filters around the service-error writer, and
    the model's log contains no event of a service filter, a route filter or a route function
    (`Container.Dispatch` and `Container.ServeHTTP` alike) -/
theorem C06_error_path_entry (E : ReEnv) (cfg : Serve.Cfg) (e : Serve.Entry) (he : e = .dispatch ∨ e = .serveDispatch)
    (w : Serve.World) (sr : Serve.SReq) (c : Nat) (a : Option (List Str)) (tag : String)
    (hc : sr.condPanic = none) (hr : routeTagged E cfg.routing sr.req = (.error c a, tag)) :
    Spec.chainOf E cfg e sr =
      some (Serve.label .cfilter cfg.cfilters, ⟨.errorWriter, Serve.errorScript c a (Serve.errMsg E cfg sr c tag)⟩, {}) ∧
    ∀ ev ∈ (Serve.serve E cfg e w sr).log,
      (∃ f ∈ cfg.cfilters, ev.stage = .cfilter f.id) ∨ ev.stage = .errorWriter ∨ ev.stage = .recover := by
  have hch : Spec.chainOf E cfg e sr =
      some (Serve.label .cfilter cfg.cfilters, ⟨.errorWriter, Serve.errorScript c a (Serve.errMsg E cfg sr c tag)⟩, {}) := by
    rcases he with rfl | rfl <;>
    · simp only [Spec.chainOf, hc, hr]
      rfl
  exact ⟨hch, Serve.Chain.serve_stage_mem E cfg e w sr hch⟩

/-- (3) the error path through `Container.Dispatch` -/
theorem C06_error_path (E : ReEnv) (cfg : Serve.Cfg) (w : Serve.World) (sr : Serve.SReq) (c : Nat) (a : Option (List Str)) (tag : String)
    (hc : sr.condPanic = none) (hr : routeTagged E cfg.routing sr.req = (.error c a, tag)) :
    Spec.chainOf E cfg .dispatch sr =
      some (Serve.label .cfilter cfg.cfilters, ⟨.errorWriter, Serve.errorScript c a (Serve.errMsg E cfg sr c tag)⟩, {}) ∧
    ∀ ev ∈ (Serve.serve E cfg .dispatch w sr).log,
      (∃ f ∈ cfg.cfilters, ev.stage = .cfilter f.id) ∨ ev.stage = .errorWriter ∨ ev.stage = .recover :=
  C06_error_path_entry E cfg .dispatch (.inl rfl) w sr c a tag hc hr

/-- (3) a pattern registered with `HandleWithFilter` (through the mux alone or through
    `Container.ServeHTTP`): the chain is the container filters, in registration order, around the
    plain handler, and the model's log contains no other event than theirs, the handler's and —
    after them, when a panic was recovered — the recover handler's -/
theorem C06_handle_with_filter_path (E : ReEnv) (cfg : Serve.Cfg) (e : Serve.Entry) (he : e = .muxHandleF ∨ e = .serveHandleF)
    (w : Serve.World) (sr : Serve.SReq) :
    Spec.chainOf E cfg e sr = some (Serve.label .cfilter cfg.cfilters, ⟨.plain 0, cfg.plainScript⟩, {}) ∧
    (∃ r, (∀ ev ∈ r, ev.stage = .recover) ∧
      (Serve.serve E cfg e w sr).log =
        (Spec.chainLog (Serve.label .cfilter cfg.cfilters) ⟨.plain 0, cfg.plainScript⟩ {}).1 ++ r) ∧
    ∀ ev ∈ (Serve.serve E cfg e w sr).log,
      (∃ f ∈ cfg.cfilters, ev.stage = .cfilter f.id) ∨ ev.stage = .plain 0 ∨ ev.stage = .recover := by
  have hch : Spec.chainOf E cfg e sr = some (Serve.label .cfilter cfg.cfilters, ⟨.plain 0, cfg.plainScript⟩, {}) := by
    rcases he with rfl | rfl <;> rfl
  obtain ⟨r, hr1, hr2⟩ := Serve.Chain.serve_log E cfg e w sr
  rw [Spec.chainEvents, hch] at hr2
  exact ⟨hch, ⟨r, hr1, hr2⟩, Serve.Chain.serve_stage_mem E cfg e w sr hch⟩

/-- (4) a filter that passes control on hands on its own Request and Response: the next stage
    starts with the attributes the filter's first part left, the same parameters, selected route
    path and writer -/
theorem C06_propagation_pass (st : Serve.Stage) (f : Serve.Filter) (fs : List (Serve.Stage × Serve.Filter)) (t : Serve.Target)
    (cx : Serve.Ctx) (hk : f.kind = .pass) (hp : (Spec.attrsAfter f.pre cx.attrs).2 = false) :
    ∃ rest, (Spec.chainLog ((st, f) :: fs) t cx).1 =
      ⟨st, false, cx.attrs, cx.params, cx.selPath, cx.wrappers⟩ ::
      ⟨Serve.Chain.nextStage fs t, false, (Spec.attrsAfter f.pre cx.attrs).1, cx.params, cx.selPath, cx.wrappers⟩ :: rest :=
  Serve.Chain.chainLog_second st f fs t cx hp (by rw [hk]; decide) (c := { cx with attrs := (Spec.attrsAfter f.pre cx.attrs).1 })
    (by simp only [Serve.Chain.innerCtx, hk])

/-- (4) a filter that passes on a new Request and a new Response: the next stage sees the new
    Request's attributes, no path parameters, and one more wrapper around the writer -/
theorem C06_propagation_replace (st : Serve.Stage) (f : Serve.Filter) (fs : List (Serve.Stage × Serve.Filter)) (t : Serve.Target)
    (cx : Serve.Ctx) (hk : f.kind = .replace) (hp : (Spec.attrsAfter f.pre cx.attrs).2 = false) :
    ∃ rest, (Spec.chainLog ((st, f) :: fs) t cx).1 =
      ⟨st, false, cx.attrs, cx.params, cx.selPath, cx.wrappers⟩ ::
      ⟨Serve.Chain.nextStage fs t, false, [("who".toList, (toString f.id).toList)], [], [], f.id :: cx.wrappers⟩ :: rest :=
  Serve.Chain.chainLog_second st f fs t cx hp (by rw [hk]; decide) (c := ⟨[("who".toList, (toString f.id).toList)], [], [], f.id :: cx.wrappers⟩)
    (by simp only [Serve.Chain.innerCtx, hk])

/-- (4) an adapted http middleware: same Request (attributes, parameters, selected path), the
    writer wrapped once more -/
theorem C06_propagation_middle (st : Serve.Stage) (f : Serve.Filter) (fs : List (Serve.Stage × Serve.Filter)) (t : Serve.Target)
    (cx : Serve.Ctx) (hk : f.kind = .middle) (hp : (Spec.attrsAfter f.pre cx.attrs).2 = false) :
    ∃ rest, (Spec.chainLog ((st, f) :: fs) t cx).1 =
      ⟨st, false, cx.attrs, cx.params, cx.selPath, cx.wrappers⟩ ::
      ⟨Serve.Chain.nextStage fs t, false, (Spec.attrsAfter f.pre cx.attrs).1, cx.params, cx.selPath, f.id :: cx.wrappers⟩ :: rest :=
  Serve.Chain.chainLog_second st f fs t cx hp (by rw [hk]; decide) (c := { cx with attrs := (Spec.attrsAfter f.pre cx.attrs).1, wrappers := f.id :: cx.wrappers })
    (by simp only [Serve.Chain.innerCtx, hk])

/-- (5) every request starts a fresh chain: the logs of a sequence of requests on one container are
    the logs of the same requests served one by one on a fresh ledger -/
theorem C06_fresh (E : ReEnv) (cfg : Serve.Cfg) (e : Serve.Entry) (w : Serve.World) (reqs : List Serve.SReq) :
    (Serve.serveSeq E cfg e w reqs).map (·.log) = reqs.map (fun r => (Serve.serve E cfg e {} r).log) := by
  have h := congrArg (List.map (·.2.1)) (C10_usable E cfg e w reqs)
  rwa [List.map_map, List.map_map] at h

/-- non-vacuity: two container filters (the first sets an attribute), a service filter that
    replaces Request and Response, a route filter that stops.  The routed request goes down the three
    levels in order, the route function does not run, every filter comes back once; the replaced
    Request has its own attributes, no parameters and a wrapped writer; an unroutable request sees the
    container filters only, around the error writer -/
example :
    let E : ReEnv := ⟨fun _ _ => true, fun _ _ => true⟩
    let cfg : Serve.Cfg :=
      { routing := { router := .curly, services := [{ id := 0, root := "/a".toList, routes :=
          [{ id := 1, method := "GET".toList, relPath := "/{i}".toList, consumes := [], produces := [], conds := [], noct := [] }] }] }
        cfilters := [{ id := 1, pre := [.setAttr "k".toList "v".toList], kind := .pass, post := [] },
                     { id := 2, pre := [], kind := .pass, post := [] }]
        svcs := [{ id := 0, filters := [{ id := 3, pre := [], kind := .replace, post := [] }] }]
        routes := [{ id := 1, filters := [{ id := 4, pre := [], kind := .stop, post := [] }], script := [.write "x".toList] }] }
    let sr : Serve.SReq := { req := { method := "GET".toList, path := "/a/7".toList } }
    let sr404 : Serve.SReq := { req := { method := "GET".toList, path := "/b".toList } }
    let kv := [("k".toList, "v".toList)]
    let ps := [("i".toList, "7".toList)]
    let sel := "/a/{i}".toList
    (Serve.serve E cfg .dispatch {} sr).log =
      [⟨.cfilter 1, false, [], ps, sel, []⟩, ⟨.cfilter 2, false, kv, ps, sel, []⟩, ⟨.sfilter 3, false, kv, ps, sel, []⟩,
       ⟨.rfilter 4, false, [("who".toList, "3".toList)], [], [], [3]⟩, ⟨.rfilter 4, true, [("who".toList, "3".toList)], [], [], [3]⟩,
       ⟨.sfilter 3, true, kv, ps, sel, []⟩, ⟨.cfilter 2, true, kv, ps, sel, []⟩, ⟨.cfilter 1, true, kv, ps, sel, []⟩] ∧
    Spec.c06Holds E cfg .dispatch sr (Spec.obsOf (Serve.serve E cfg .dispatch {} sr)) = true ∧
    (Serve.serve E cfg .dispatch {} sr404).log.map (fun ev => (ev.stage, ev.post)) =
      [(.cfilter 1, false), (.cfilter 2, false), (.errorWriter, false), (.cfilter 2, true), (.cfilter 1, true)] ∧
    Spec.c06Holds E cfg .dispatch sr404 (Spec.obsOf (Serve.serve E cfg .dispatch {} sr404)) = true := by
  decide +kernel

/-- non-vacuity on the `HandleWithFilter` chain, recovery on with a custom recover handler: the
    first container filter sets an attribute and passes on, the second panics.  The handler does not
    run, no filter comes back, and the recover handler's event follows the chain's (it holds a bare
    writer: no attributes, no wrappers); with a second filter that passes on, the handler runs and
    both filters come back in reverse order.  `c06Holds` on both. -/
example :
    let E : ReEnv := ⟨fun _ _ => true, fun _ _ => true⟩
    let cfg : Serve.Cfg :=
      { routing := { router := .curly, services := [] }
        cfilters := [{ id := 1, pre := [.setAttr "k".toList "v".toList], kind := .pass, post := [] },
                     { id := 2, pre := [.panic "p".toList], kind := .pass, post := [] }]
        plainScript := [.write "h".toList]
        recover := true
        recoverScript := some [.writeHeader 500] }
    let cfgOk : Serve.Cfg := { cfg with cfilters := [{ id := 1, pre := [.setAttr "k".toList "v".toList], kind := .pass, post := [] },
                                                     { id := 2, pre := [], kind := .pass, post := [] }] }
    let sr : Serve.SReq := { req := { method := "GET".toList, path := "/x".toList } }
    let kv := [("k".toList, "v".toList)]
    (Serve.serve E cfg .serveHandleF {} sr).log =
      [⟨.cfilter 1, false, [], [], [], []⟩, ⟨.cfilter 2, false, kv, [], [], []⟩, ⟨.recover, false, [], [], [], []⟩] ∧
    (Serve.serve E cfg .serveHandleF {} sr).escaped = none ∧
    Spec.c06Holds E cfg .serveHandleF sr (Spec.obsOf (Serve.serve E cfg .serveHandleF {} sr)) = true ∧
    (Serve.serve E cfgOk .muxHandleF {} sr).log.map (fun ev => (ev.stage, ev.post)) =
      [(.cfilter 1, false), (.cfilter 2, false), (.plain 0, false), (.cfilter 2, true), (.cfilter 1, true)] ∧
    Spec.c06Holds E cfgOk .muxHandleF sr (Spec.obsOf (Serve.serve E cfgOk .muxHandleF {} sr)) = true := by
  decide +kernel

/-- the concurrent half of "every request starts a fresh chain": a fact regenerated from the
    sources — no serving entry point builds a slice by appending to a field of a shared object
    (`allFilters` in `dispatch` is a fresh `make`), and serving never writes the registration state -/
theorem C06_chain_is_fresh_fact :
    Conc.reachableAliasAppends (Conc.analysis Gen.fnNames Gen.items Conc.servingEntries) = [] ∧
    Conc.reachableWrites (Conc.analysis Gen.fnNames Gen.items Conc.servingEntries) = [] :=
  ⟨C19_frame.2.1, C19_frame.1⟩

/-! ### non-vacuity (audit): every theorem with hypotheses instantiated on one configuration with
    two filters at each of the three levels; `Spec.c06Holds` falsified by wrong observations -/
namespace C06Example

def E0 : ReEnv := ⟨fun _ _ => true, fun _ _ => true⟩
def rd (id : Nat) (m p : String) : RouteDecl :=
  { id := id, method := m.toList, relPath := p.toList, consumes := [], produces := [], conds := [], noct := [] }
def fl (id : Nat) (kind : Serve.FKind) (pre : List Serve.Act := []) (post : List Serve.Act := []) : Serve.Filter :=
  { id := id, pre := pre, kind := kind, post := post }

/-- `/a` with GET `/{i}` (route 1: two route filters that pass) and GET `/x` (route 2: its first
    route filter stops); two container filters (the first sets an attribute), two service filters -/
def cfg : Serve.Cfg :=
  { routing := { router := .curly, services := [{ id := 0, root := "/a".toList, routes := [rd 1 "GET" "/{i}", rd 2 "GET" "/x"] }] }
    cfilters := [fl 1 .pass [.setAttr "k".toList "v".toList], fl 2 .pass]
    svcs := [{ id := 0, filters := [fl 3 .pass [] [.setAttr "back".toList "3".toList], fl 4 .pass] }]
    routes := [{ id := 1, filters := [fl 5 .pass, fl 6 .pass], script := [.write "one".toList] },
               { id := 2, filters := [fl 7 .stop [.writeHeader 403], fl 8 .pass], script := [.write "two".toList] }] }

def sr1 : Serve.SReq := { req := { method := "GET".toList, path := "/a/7".toList } }
def sr2 : Serve.SReq := { req := { method := "GET".toList, path := "/a/x".toList } }
def sr404 : Serve.SReq := { req := { method := "GET".toList, path := "/b".toList } }

/-- the hypothesis of `C06_each_once_served` (it quantifies over all service and route ids) -/
theorem distinct : Serve.Chain.DistinctIds cfg :=
  .of_registered (by decide +kernel) (by decide +kernel) (by decide +kernel)

/-- the two chains: six filters that pass around route 1; five filters, the fifth stops, around route 2 -/
def fs1 : List (Serve.Stage × Serve.Filter) := Serve.allFilters cfg 0 1
def t1 : Serve.Target := ⟨.handler 1, [.write "one".toList]⟩
def fs2 : List (Serve.Stage × Serve.Filter) := Serve.allFilters cfg 0 2
def t2 : Serve.Target := ⟨.handler 2, [.write "two".toList]⟩

/-- what the model does on the three requests: all six filters and the route function; the stop at
    the first route filter (second route filter and route function do not run); the error path -/
example :
    (Serve.serve E0 cfg .dispatch {} sr1).log.map (fun ev => (ev.stage, ev.post)) =
      [(.cfilter 1, false), (.cfilter 2, false), (.sfilter 3, false), (.sfilter 4, false), (.rfilter 5, false),
       (.rfilter 6, false), (.handler 1, false), (.rfilter 6, true), (.rfilter 5, true), (.sfilter 4, true),
       (.sfilter 3, true), (.cfilter 2, true), (.cfilter 1, true)] ∧
    (Serve.serve E0 cfg .dispatch {} sr2).log.map (fun ev => (ev.stage, ev.post)) =
      [(.cfilter 1, false), (.cfilter 2, false), (.sfilter 3, false), (.sfilter 4, false), (.rfilter 7, false),
       (.rfilter 7, true), (.sfilter 4, true), (.sfilter 3, true), (.cfilter 2, true), (.cfilter 1, true)] ∧
    (Serve.serve E0 cfg .dispatch {} sr404).log.map (fun ev => (ev.stage, ev.post)) =
      [(.cfilter 1, false), (.cfilter 2, false), (.errorWriter, false), (.cfilter 2, true), (.cfilter 1, true)] := by
  decide +kernel

/-- the hypotheses `hk`, `hp`, `ht`, `hd` of `C06_closed_form`, `C06_closed_form_no_panic` and
    `C06_target_iff` on the two chains -/
theorem closedFormHyps1 : (∀ sf ∈ fs1, sf.2.kind = .pass ∨ sf.2.kind = .stop) ∧
    (∀ sf ∈ fs1, Spec.noPanic sf.2.pre = true ∧ Spec.noPanic sf.2.post = true) ∧
    Spec.noPanic t1.script = true ∧ ∀ sf ∈ fs1, sf.1 ≠ t1.stage := by
  decide +kernel
theorem closedFormHyps2 : (∀ sf ∈ fs2, sf.2.kind = .pass ∨ sf.2.kind = .stop) ∧
    (∀ sf ∈ fs2, Spec.noPanic sf.2.pre = true ∧ Spec.noPanic sf.2.post = true) ∧
    Spec.noPanic t2.script = true ∧ ∀ sf ∈ fs2, sf.1 ≠ t2.stage := by
  decide +kernel
example := C06_closed_form fs1 t1 {} closedFormHyps1.1 closedFormHyps1.2.1 closedFormHyps1.2.2.1
example := C06_closed_form fs2 t2 {} closedFormHyps2.1 closedFormHyps2.2.1 closedFormHyps2.2.2.1
example := C06_closed_form_no_panic fs1 t1 {} closedFormHyps1.1 closedFormHyps1.2.1 closedFormHyps1.2.2.1
example := C06_closed_form_no_panic fs2 t2 {} closedFormHyps2.1 closedFormHyps2.2.1 closedFormHyps2.2.2.1
/-- `C06_target_iff`, both sides inhabited: no filter of `fs1` stops, so the route function runs;
    one of `fs2` stops, so it does not -/
example : (t1.stage, false) ∈ (Spec.chainLog fs1 t1 {}).1.map (fun ev => (ev.stage, ev.post)) :=
  (C06_target_iff fs1 t1 {} closedFormHyps1.1 closedFormHyps1.2.1 closedFormHyps1.2.2.1 closedFormHyps1.2.2.2).mpr (by decide +kernel)
example : (t2.stage, false) ∉ (Spec.chainLog fs2 t2 {}).1.map (fun ev => (ev.stage, ev.post)) := fun h =>
  absurd ((C06_target_iff fs2 t2 {} closedFormHyps2.1 closedFormHyps2.2.1 closedFormHyps2.2.2.1 closedFormHyps2.2.2.2).mp h) (by decide +kernel)
/-- `C06_noPanic` -/
example := C06_noPanic [.setAttr "k".toList "v".toList, .write "x".toList] [] (by decide +kernel)
/-- `C06_each_once`, `C06_each_once_served` -/
example := C06_each_once fs1 t1 {} (by decide +kernel) (by decide +kernel)
example := C06_each_once_served false E0 cfg distinct .dispatch {} sr1
example := C06_each_once_served false E0 cfg distinct .serveDispatch {} sr2
/-- `C06_served_labels`, `C06_routed_chain`: the chain of the routed request -/
example := C06_served_labels E0 cfg .dispatch sr1 fs1 t1
  { params := [("i".toList, "7".toList)], selPath := "/a/{i}".toList } (by decide +kernel)
example := C06_routed_chain E0 cfg sr1 0 1 [("i".toList, "7".toList)] "sel" rfl (by decide +kernel)
/-- `C06_error_path`, `C06_error_path_entry` -/
theorem sr404_unroutable : routeTagged E0 cfg.routing sr404.req = (.error 404 none, "404-nosvc") := by decide +kernel
example := C06_error_path E0 cfg {} sr404 404 none "404-nosvc" rfl sr404_unroutable
example := C06_error_path_entry E0 cfg .serveDispatch (.inr rfl) {} sr404 404 none "404-nosvc" rfl sr404_unroutable
/-- `C06_handle_with_filter_path` -/
example := C06_handle_with_filter_path E0 cfg .muxHandleF (.inl rfl) {} sr1
/-- `C06_propagation_pass / replace / middle` (a filter whose first part sets an attribute) -/
example := C06_propagation_pass (.cfilter 1) (fl 1 .pass [.setAttr "k".toList "v".toList]) fs1 t1 {} rfl (by decide +kernel)
example := C06_propagation_replace (.sfilter 3) (fl 3 .replace [.setAttr "k".toList "v".toList]) fs1 t1 {} rfl (by decide +kernel)
example := C06_propagation_middle (.rfilter 5) (fl 5 .middle [.setAttr "k".toList "v".toList]) fs1 t1 {} rfl (by decide +kernel)

/-- what the model answers to the three requests, as observations -/
def o1 : Spec.Obs := Spec.obsOf (Serve.serve E0 cfg .dispatch {} sr1)
def o2 : Spec.Obs := Spec.obsOf (Serve.serve E0 cfg .dispatch {} sr2)
def o404 : Spec.Obs := Spec.obsOf (Serve.serve E0 cfg .dispatch {} sr404)

/-- `Spec.c06Holds` is not trivially true.  On the routed request it is falsified by: the events in
    reverse order; the route function missing; a service filter missing; a filter coming back twice;
    attributes not handed on; parameters not visible; the selected path not visible.  On the request
    stopped by a route filter: by the log of a request that was not stopped, and by a route function
    that ran all the same.  On the unroutable request: by a log with service and route filters, and
    by container filters that did not run. -/
example :
    Spec.c06Holds E0 cfg .dispatch sr1 o1 = true ∧
    Spec.c06Holds E0 cfg .dispatch sr1 { o1 with log := o1.log.reverse } = false ∧
    Spec.c06Holds E0 cfg .dispatch sr1 { o1 with log := o1.log.filter (fun ev => ev.stage != .handler 1) } = false ∧
    Spec.c06Holds E0 cfg .dispatch sr1 { o1 with log := o1.log.filter (fun ev => ev.stage != .sfilter 4) } = false ∧
    Spec.c06Holds E0 cfg .dispatch sr1 { o1 with log := o1.log ++ [⟨.cfilter 1, true, [], [], [], []⟩] } = false ∧
    Spec.c06Holds E0 cfg .dispatch sr1 { o1 with log := o1.log.map (fun ev => { ev with attrs := [] }) } = false ∧
    Spec.c06Holds E0 cfg .dispatch sr1 { o1 with log := o1.log.map (fun ev => { ev with params := [] }) } = false ∧
    Spec.c06Holds E0 cfg .dispatch sr1 { o1 with log := o1.log.map (fun ev => { ev with selPath := [] }) } = false ∧
    Spec.c06Holds E0 cfg .dispatch sr2 o2 = true ∧
    Spec.c06Holds E0 cfg .dispatch sr2 o1 = false ∧
    Spec.c06Holds E0 cfg .dispatch sr2 { o2 with log := o2.log ++ [⟨.handler 2, false, [], [], [], []⟩] } = false ∧
    Spec.c06Holds E0 cfg .dispatch sr404 o404 = true ∧
    Spec.c06Holds E0 cfg .dispatch sr404 o2 = false ∧
    Spec.c06Holds E0 cfg .dispatch sr404 { o404 with log := [] } = false := by
  decide +kernel

/-- `C06_fresh` on a history of three requests starting from a used ledger -/
example : (Serve.serveSeq E0 cfg .dispatch { acquired := 5, released := 5 } [sr1, sr2, sr404]).map (·.log) =
    [sr1, sr2, sr404].map (fun r => (Serve.serve E0 cfg .dispatch {} r).log) :=
  C06_fresh E0 cfg .dispatch _ _

end C06Example

/-! ## every filter kind, every script

`C06_closed_form` / `C06_target_iff` above assume filters that pass or stop and scripts that do not
panic.  The theorems below make no such assumption: `.pass`, `.stop`, `.replace` (a new Request and a
new Response are passed on), `.middle` (`HttpMiddlewareHandlerToFilter`), panics anywhere.  They are
statements about `Spec.chainLog` — the definition `C06_log` ties the model to and the driver
evaluates on every real log — and, through `C06_log_full`, about the model's log itself.
Proofs: `Lemmas/ChainAll.lean`. -/

/-- `Spec.passesOn` is exactly the condition under which `Spec.chainLog` descends into the rest of
    the chain: the kind calls the chain (pass, replace, middle) and the first part of the filter does
    not panic — whatever the attributes it is entered with -/
theorem C06_passesOn_iff (f : Serve.Filter) (attrs : List (Str × Str)) :
    Spec.passesOn f = true ↔
      (f.kind = .pass ∨ f.kind = .replace ∨ f.kind = .middle) ∧ (Spec.attrsAfter f.pre attrs).2 = false := by
  rw [Spec.attrsAfter_panics]
  unfold Spec.passesOn
  cases f.kind <;> simp

/-- (6) the SHAPE of every chain's log.  It is the way down — start events only: `Spec.descent`, the
    filters in list order up to and including the first that does not pass on, then the target iff
    there is none — followed by the way back — post events only, innermost first: a prefix of
    `Spec.returners` (the filters that passed on and the one that stopped), the whole of it when no
    panic leaves the chain -/
theorem C06_shape_all (fs : List (Serve.Stage × Serve.Filter)) (t : Serve.Target) (cx : Serve.Ctx) :
    ∃ asc, (Spec.chainLog fs t cx).1 = Spec.descent fs t cx ++ asc ∧
      (∀ ev ∈ Spec.descent fs t cx, ev.post = false) ∧ (∀ ev ∈ asc, ev.post = true) ∧
      asc.map (·.stage) <+: Spec.returners fs ∧
      ((Spec.chainLog fs t cx).2.2 = false → asc.map (·.stage) = Spec.returners fs) := by
  obtain ⟨asc, h1, h2, h3, h4⟩ := Serve.Chain.chainLog_shape fs t cx
  exact ⟨asc, h1, Serve.Chain.descent_post fs t cx, h2, h3, h4⟩

/-- (6) THE IFF CLAUSE for all filter kinds and all scripts (stage labels of filters differ from the
    target's: `C06_served_labels`): the target's start event occurs in the log iff EVERY filter of the
    chain passes control on — and it never occurs twice -/
theorem C06_target_iff_all (fs : List (Serve.Stage × Serve.Filter)) (t : Serve.Target) (cx : Serve.Ctx)
    (hd : ∀ sf ∈ fs, sf.1 ≠ t.stage) :
    ((t.stage, false) ∈ (Spec.chainLog fs t cx).1.map (fun ev => (ev.stage, ev.post)) ↔
      ∀ sf ∈ fs, Spec.passesOn sf.2 = true) ∧
    ((Spec.chainLog fs t cx).1.map (fun ev => (ev.stage, ev.post))).count (t.stage, false) ≤ 1 := by
  refine ⟨Serve.Chain.chainLog_target_iff fs t cx hd, ?_⟩
  rw [Serve.Chain.chainLog_target_count fs t cx hd]
  split <;> decide

/-- (6) "exactly once … if and only if": the number of times the target starts -/
theorem C06_target_count_all (fs : List (Serve.Stage × Serve.Filter)) (t : Serve.Target) (cx : Serve.Ctx)
    (hd : ∀ sf ∈ fs, sf.1 ≠ t.stage) :
    ((Spec.chainLog fs t cx).1.map (fun ev => (ev.stage, ev.post))).count (t.stage, false) =
      if fs.all (fun sf => Spec.passesOn sf.2) then 1 else 0 :=
  Serve.Chain.chainLog_target_count fs t cx hd

/-- (6) "a filter that does not pass control on stops everything after it", all kinds and scripts:
    when the filters `pre` pass on and `f` does not (it stops, or its first part panics), whatever
    follows `f` in the chain (`rest`, the target) leaves no event.  The log is the start events of
    `pre` and `f`, in this order, then post events only: `f`'s own iff it stopped rather than
    panicked (its code after the decision not to call the chain), then those of the filters BEFORE
    it, in reverse order — cut short when a panic is unwinding, all of them otherwise -/
theorem C06_blocked_all (pre : List (Serve.Stage × Serve.Filter)) (st : Serve.Stage) (f : Serve.Filter)
    (rest : List (Serve.Stage × Serve.Filter)) (t : Serve.Target) (cx : Serve.Ctx)
    (hpre : ∀ sf ∈ pre, Spec.passesOn sf.2 = true) (hf : Spec.passesOn f = false) :
    ∃ starts asc, (Spec.chainLog (pre ++ (st, f) :: rest) t cx).1 = starts ++ asc ∧
      starts.map (fun ev => (ev.stage, ev.post)) = (pre.map (fun sf => (sf.1, false))) ++ [(st, false)] ∧
      (∀ ev ∈ asc, ev.post = true) ∧
      asc.map (·.stage) <+: (if Spec.noPanic f.pre then [st] else []) ++ (pre.map (·.1)).reverse ∧
      ((Spec.chainLog (pre ++ (st, f) :: rest) t cx).2.2 = false →
        asc.map (·.stage) = (if Spec.noPanic f.pre then [st] else []) ++ (pre.map (·.1)).reverse) := by
  obtain ⟨asc, h1, h2, h3, h4⟩ := Serve.Chain.chainLog_shape (pre ++ (st, f) :: rest) t cx
  rw [Serve.Chain.returners_blocked pre st f rest hpre hf] at h3 h4
  refine ⟨Spec.descent (pre ++ (st, f) :: rest) t cx, asc, h1, ?_, h2, h3, h4⟩
  have ht : (List.map (·.1) (pre ++ (st, f) :: rest) ++ [t.stage]).take (pre.length + 1) = pre.map (·.1) ++ [st] := by
    have : List.map (·.1) (pre ++ (st, f) :: rest) ++ [t.stage] = (pre.map (·.1) ++ [st]) ++ (rest.map (·.1) ++ [t.stage]) := by
      simp
    rw [this, List.take_left' (by simp)]
  rw [Serve.Chain.descent_pairs, Serve.Chain.firstBlocked_blocked pre st f rest hpre hf, ht]
  simp [Function.comp_def]

/-- (6) THE ORDER CLAUSE for all kinds and scripts: the stages that start, in the order they start,
    are a prefix of the chain's label list followed by the target — the first `firstBlocked fs + 1`
    entries, `firstBlocked fs` being the index of the first filter that does not pass on.  With
    `C06_levels` (container ++ service ++ route labels, each in registration order) this is
    "container, service, route, each in registration order": `C06_order_all_routed` -/
theorem C06_order_all (fs : List (Serve.Stage × Serve.Filter)) (t : Serve.Target) (cx : Serve.Ctx) :
    ((Spec.chainLog fs t cx).1.filter (fun ev => !ev.post)).map (·.stage) =
      (fs.map (·.1) ++ [t.stage]).take (Spec.firstBlocked fs + 1) ∧
    ((Spec.chainLog fs t cx).1.filter (fun ev => !ev.post)).map (·.stage) <+: fs.map (·.1) ++ [t.stage] ∧
    (Spec.firstBlocked fs = fs.length ↔ ∀ sf ∈ fs, Spec.passesOn sf.2 = true) := by
  have h : ((Spec.chainLog fs t cx).1.filter (fun ev => !ev.post)).map (·.stage) =
      (fs.map (·.1) ++ [t.stage]).take (Spec.firstBlocked fs + 1) := by
    rw [Serve.Chain.chainLog_starts, Serve.Chain.descent_stages]
  exact ⟨h, by rw [h]; exact List.take_prefix _ _, by simp [Spec.firstBlocked, List.findIdx_eq_length]⟩

/-- (6) THE PROPAGATION CLAUSE for all kinds combined: the k-th stage that starts is the k-th stage
    of the chain and the Request/Response it is handed — attributes, path parameters, selected route
    path, response wrappers — is `Spec.ctxAt fs cx k`: what the filters before it passed on, one
    after the other (`C06_ctxAt_fold`) -/
theorem C06_propagation_all (fs : List (Serve.Stage × Serve.Filter)) (t : Serve.Target) (cx : Serve.Ctx) :
    (Spec.chainLog fs t cx).1.filter (fun ev => !ev.post) =
      (List.range (Spec.firstBlocked fs + 1)).map (fun k =>
        (⟨Spec.stageAt fs t k, false, (Spec.ctxAt fs cx k).attrs, (Spec.ctxAt fs cx k).params,
          (Spec.ctxAt fs cx k).selPath, (Spec.ctxAt fs cx k).wrappers⟩ : Serve.Event)) := by
  rw [Serve.Chain.chainLog_starts, Serve.Chain.descent_closed]
  rfl

/-- `Spec.ctxAt` is the fold of the contexts passed on: the chain's own context for the first
    stage; the stage after filter `k` receives what filter `k` makes of what it received — a pass
    filter its own Request with the attributes its first part left; a replace filter a NEW Request
    (its own attributes, no parameters, no selected path) and a NEW Response (one more wrapper); an
    adapted middleware the same Request and a wrapped writer -/
theorem C06_ctxAt_fold (fs : List (Serve.Stage × Serve.Filter)) (cx : Serve.Ctx) :
    Spec.ctxAt fs cx 0 = cx ∧
    (∀ k, Spec.ctxAt fs cx k = (fs.take k).foldl (fun c sf => Serve.Chain.innerCtx sf.2 c) cx) ∧
    (∀ k (hk : k < fs.length), Spec.ctxAt fs cx (k + 1) =
      (match fs[k].2.kind with
       | .replace => { attrs := [("who".toList, (toString fs[k].2.id).toList)], params := [], selPath := [],
                       wrappers := fs[k].2.id :: (Spec.ctxAt fs cx k).wrappers }
       | .middle => { Spec.ctxAt fs cx k with attrs := (Spec.attrsAfter fs[k].2.pre (Spec.ctxAt fs cx k).attrs).1,
                                              wrappers := fs[k].2.id :: (Spec.ctxAt fs cx k).wrappers }
       | _ => { Spec.ctxAt fs cx k with attrs := (Spec.attrsAfter fs[k].2.pre (Spec.ctxAt fs cx k).attrs).1 })) := by
  refine ⟨by cases fs <;> rfl, Serve.Chain.ctxAt_foldl fs cx, ?_⟩
  intro k hk
  rw [Serve.Chain.ctxAt_foldl, Serve.Chain.ctxAt_foldl, List.take_succ_eq_append_getElem hk, List.foldl_append]
  rfl

/-- `Spec.stageAt fs t k` is the k-th entry of the chain's label list followed by the target -/
theorem C06_stageAt (fs : List (Serve.Stage × Serve.Filter)) (t : Serve.Target) (k : Nat) :
    Spec.stageAt fs t k = ((fs.map (·.1) ++ [t.stage])[k]?).getD t.stage := by
  induction fs generalizing k with
  | nil => cases k <;> simp [Spec.stageAt]
  | cons sf fs ih =>
    obtain ⟨st, f⟩ := sf
    cases k with
    | zero => simp [Spec.stageAt]
    | succ k => simpa [Spec.stageAt] using ih k

/-- (6)+(1) ON THE MODEL, every configuration, entry point, ledger and request: a stage that is
    neither a filter nor the recover handler — a route function, the plain handler, the service-error
    writer — starts iff it is the target of the chain the request goes through (`Spec.chainOf`) and
    EVERY filter of that chain passes control on; and it never starts twice (no assumption on
    filter ids) -/
theorem C06_target_iff_served (E : ReEnv) (cfg : Serve.Cfg) (e : Serve.Entry) (w : Serve.World) (sr : Serve.SReq)
    (st : Serve.Stage) (hf : st.isFilter = false) (hr : st ≠ .recover) :
    ((st, false) ∈ (Serve.serve E cfg e w sr).log.map (fun ev => (ev.stage, ev.post)) ↔
      ∃ fs t cx, Spec.chainOf E cfg e sr = some (fs, t, cx) ∧ t.stage = st ∧ ∀ sf ∈ fs, Spec.passesOn sf.2 = true) ∧
    ((Serve.serve E cfg e w sr).log.map (fun ev => (ev.stage, ev.post))).count (st, false) ≤ 1 := by
  constructor
  · rw [← List.count_pos_iff, Serve.Chain.serve_count E cfg e w sr st false hr, List.count_pos_iff, Spec.chainEvents]
    cases h : Spec.chainOf E cfg e sr with
    | none => simp
    | some c =>
      obtain ⟨fs, t, cx⟩ := c
      have hd := Serve.Chain.chainOf_target_fresh E cfg e sr fs t cx h
      constructor
      · intro hm
        cases Serve.Chain.chainOf_stage_target h hf hm
        exact ⟨fs, t, cx, rfl, rfl, (Serve.Chain.chainLog_target_iff fs t cx hd).mp hm⟩
      · rintro ⟨_, _, _, h', rfl, hall⟩
        cases h'
        exact (Serve.Chain.chainLog_target_iff _ _ _ hd).mpr hall
  · rw [Serve.Chain.serve_count E cfg e w sr st false hr, Spec.chainEvents]
    cases h : Spec.chainOf E cfg e sr with
    | none => simp
    | some c =>
      obtain ⟨fs, t, cx⟩ := c
      show ((Spec.chainLog fs t cx).1.map (fun ev => (ev.stage, ev.post))).count (st, false) ≤ 1
      by_cases hm : (st, false) ∈ (Spec.chainLog fs t cx).1.map (fun ev => (ev.stage, ev.post))
      · cases Serve.Chain.chainOf_stage_target h hf hm
        rw [Serve.Chain.chainLog_target_count fs t cx (Serve.Chain.chainOf_target_fresh E cfg e sr fs t cx h)]
        split <;> decide
      · rw [List.count_eq_zero.mpr hm]
        exact Nat.zero_le _

/-- (6)+(1) the route function: it runs (exactly once) iff the request came in through
    `Container.Dispatch` or `Container.ServeHTTP`, routing selected this route, and every container
    filter, every filter of the WebService and every filter of the route passes control on -/
theorem C06_handler_iff (E : ReEnv) (cfg : Serve.Cfg) (e : Serve.Entry) (w : Serve.World) (sr : Serve.SReq) (rid : Nat) :
    ((Serve.Stage.handler rid, false) ∈ (Serve.serve E cfg e w sr).log.map (fun ev => (ev.stage, ev.post)) ↔
      (e = .dispatch ∨ e = .serveDispatch) ∧ sr.condPanic = none ∧
      ∃ svc ps tag, routeTagged E cfg.routing sr.req = (.selected svc rid ps, tag) ∧
        (∀ f ∈ cfg.cfilters, Spec.passesOn f = true) ∧ (∀ f ∈ (Serve.svcX cfg svc).filters, Spec.passesOn f = true) ∧
        (∀ f ∈ (Serve.routeX cfg rid).filters, Spec.passesOn f = true)) ∧
    ((Serve.serve E cfg e w sr).log.map (fun ev => (ev.stage, ev.post))).count (Serve.Stage.handler rid, false) ≤ 1 := by
  refine ⟨?_, (C06_target_iff_served E cfg e w sr (.handler rid) rfl (by intro h; cases h)).2⟩
  rw [(C06_target_iff_served E cfg e w sr (.handler rid) rfl (by intro h; cases h)).1]
  cases e with
  | dispatch => rw [Serve.Chain.chainOf_handler_iff]; exact (and_iff_right (.inl rfl)).symm
  | serveDispatch => rw [C06_serveHTTP_same_chain, Serve.Chain.chainOf_handler_iff]; exact (and_iff_right (.inr rfl)).symm
  | _ =>
    constructor
    · rintro ⟨_, _, _, h, hst, _⟩
      cases h
      cases hst
    · rintro ⟨h | h, _⟩ <;> cases h

/-- (6)+(1) the plain `http.Handler`: it runs (exactly once) iff it was registered with `Handle`
    (no filter applies) or with `HandleWithFilter` and every container filter passes control on -/
theorem C06_plain_iff (E : ReEnv) (cfg : Serve.Cfg) (e : Serve.Entry) (w : Serve.World) (sr : Serve.SReq) :
    ((Serve.Stage.plain 0, false) ∈ (Serve.serve E cfg e w sr).log.map (fun ev => (ev.stage, ev.post)) ↔
      (e = .muxHandle ∨ e = .serveHandle) ∨
      ((e = .muxHandleF ∨ e = .serveHandleF) ∧ ∀ f ∈ cfg.cfilters, Spec.passesOn f = true)) ∧
    ((Serve.serve E cfg e w sr).log.map (fun ev => (ev.stage, ev.post))).count (Serve.Stage.plain 0, false) ≤ 1 := by
  refine ⟨?_, (C06_target_iff_served E cfg e w sr (.plain 0) rfl (by intro h; cases h)).2⟩
  rw [(C06_target_iff_served E cfg e w sr (.plain 0) rfl (by intro h; cases h)).1]
  cases e with
  | dispatch | serveDispatch =>
    refine ⟨fun h => absurd h (Serve.Chain.chainOf_not_plain E cfg sr), ?_⟩
    rintro ((h | h) | ⟨h | h, _⟩) <;> cases h
  | muxHandle =>
    exact ⟨fun _ => .inl (.inl rfl), fun _ => ⟨[], ⟨.plain 0, cfg.plainScript⟩, {}, rfl, rfl, fun _ h => nomatch h⟩⟩
  | serveHandle =>
    exact ⟨fun _ => .inl (.inr rfl), fun _ => ⟨[], ⟨.plain 0, cfg.plainScript⟩, {}, rfl, rfl, fun _ h => nomatch h⟩⟩
  | muxHandleF =>
    rw [Serve.Chain.chainOf_plainF_iff E cfg sr _ (.inl rfl)]
    refine ⟨fun h => .inr ⟨.inl rfl, h⟩, ?_⟩
    rintro ((h | h) | ⟨_, h⟩)
    · cases h
    · cases h
    · exact h
  | serveHandleF =>
    rw [Serve.Chain.chainOf_plainF_iff E cfg sr _ (.inr rfl)]
    refine ⟨fun h => .inr ⟨.inr rfl, h⟩, ?_⟩
    rintro ((h | h) | ⟨_, h⟩)
    · cases h
    · cases h
    · exact h


/-- (6)+(1) order and propagation ON THE MODEL, every entry point: the start events of the model's
    log are the stages of the chain `Spec.chainOf` selects, in chain order up to the first filter
    that does not pass on, the k-th with the context `Spec.ctxAt fs cx k` — followed by nothing but
    events of the recover handler -/
theorem C06_starts_served (E : ReEnv) (cfg : Serve.Cfg) (e : Serve.Entry) (w : Serve.World) (sr : Serve.SReq)
    (fs : List (Serve.Stage × Serve.Filter)) (t : Serve.Target) (cx : Serve.Ctx)
    (h : Spec.chainOf E cfg e sr = some (fs, t, cx)) :
    ∃ r : List Serve.Event, (∀ ev ∈ r, ev.stage = .recover) ∧
      (Serve.serve E cfg e w sr).log.filter (fun ev => !ev.post) =
        (List.range (Spec.firstBlocked fs + 1)).map (fun k =>
          (⟨Spec.stageAt fs t k, false, (Spec.ctxAt fs cx k).attrs, (Spec.ctxAt fs cx k).params,
            (Spec.ctxAt fs cx k).selPath, (Spec.ctxAt fs cx k).wrappers⟩ : Serve.Event)) ++ r ∧
      ((Serve.serve E cfg e w sr).log.filter (fun ev => !ev.post)).map (·.stage) =
        (fs.map (·.1) ++ [t.stage]).take (Spec.firstBlocked fs + 1) ++ r.map (·.stage) := by
  obtain ⟨r, hr1, hr2⟩ := Serve.Chain.serve_log E cfg e w sr
  have hs : (Serve.serve E cfg e w sr).log.filter (fun ev => !ev.post) =
      Spec.descent fs t cx ++ r.filter (fun ev => !ev.post) := by
    rw [hr2, Spec.chainEvents, h, List.filter_append]
    show (Spec.chainLog fs t cx).1.filter (fun ev => !ev.post) ++ _ = _
    rw [Serve.Chain.chainLog_starts]
  refine ⟨r.filter (fun ev => !ev.post), fun ev hev => hr1 ev (List.mem_filter.mp hev).1, ?_, ?_⟩
  · rw [hs, Serve.Chain.descent_closed]
    rfl
  · rw [hs, List.map_append, Serve.Chain.descent_stages]

/-- (6)+(3) the order clause for a routed request, all kinds and scripts: the stages that start are,
    in this order, container filters, filters of the WebService, filters of the route — each level in
    registration order — then the route function: the first `firstBlocked + 1` of them (all of them
    iff every filter passes on), then nothing but the recover handler -/
theorem C06_order_all_routed (E : ReEnv) (cfg : Serve.Cfg) (e : Serve.Entry) (he : e = .dispatch ∨ e = .serveDispatch)
    (w : Serve.World) (sr : Serve.SReq) (svc rid : Nat) (ps : Params) (tag : String)
    (hc : sr.condPanic = none) (hr : routeTagged E cfg.routing sr.req = (.selected svc rid ps, tag)) :
    ∃ r : List Serve.Event, (∀ ev ∈ r, ev.stage = .recover) ∧
      ((Serve.serve E cfg e w sr).log.filter (fun ev => !ev.post)).map (·.stage) =
        (cfg.cfilters.map (fun f => Serve.Stage.cfilter f.id) ++ (Serve.svcX cfg svc).filters.map (fun f => Serve.Stage.sfilter f.id) ++
          (Serve.routeX cfg rid).filters.map (fun f => Serve.Stage.rfilter f.id) ++ [Serve.Stage.handler rid]).take
            (Spec.firstBlocked (Serve.allFilters cfg svc rid) + 1) ++ r.map (·.stage) := by
  obtain ⟨selPath, hch⟩ := C06_routed_chain E cfg sr svc rid ps tag hc hr
  have hch' : Spec.chainOf E cfg e sr =
      some (Serve.allFilters cfg svc rid, ⟨.handler rid, (Serve.routeX cfg rid).script⟩, { params := ps, selPath := selPath }) := by
    rcases he with rfl | rfl <;> exact hch
  obtain ⟨r, hr1, _, hr3⟩ := C06_starts_served E cfg e w sr _ _ _ hch'
  exact ⟨r, hr1, by rw [hr3, C06_levels]⟩

/-! ### non-vacuity: a replace filter, a middleware filter, a stopping filter and a panicking filter in one table -/
namespace C06AllExample
open C06Example (E0 rd fl)

/-- container filters: 1 replaces Request and Response (after setting an attribute on the OLD
    Request), 2 is an adapted middleware (sets an attribute, wraps the writer); service filter 3
    passes; route 1 (`/a/{i}`) has a passing route filter, route 2 (`/a/x`) one that stops, route 3
    (`/a/y`) one whose first part panics — each followed by a filter that would pass -/
def cfg : Serve.Cfg :=
  { routing := { router := .curly, services := [{ id := 0, root := "/a".toList, routes := [rd 1 "GET" "/{i}", rd 2 "GET" "/x", rd 3 "GET" "/y"] }] }
    cfilters := [fl 1 .replace [.setAttr "old".toList "1".toList], fl 2 .middle [.setAttr "m".toList "2".toList]]
    svcs := [{ id := 0, filters := [fl 3 .pass] }]
    routes := [{ id := 1, filters := [fl 5 .pass [.setAttr "r".toList "5".toList]], script := [.write "one".toList] },
               { id := 2, filters := [fl 7 .stop [.writeHeader 403], fl 8 .pass], script := [.write "two".toList] },
               { id := 3, filters := [fl 9 .pass [.panic "boom".toList], fl 10 .pass], script := [.write "three".toList] }] }

def sr1 : Serve.SReq := { req := { method := "GET".toList, path := "/a/7".toList } }
def sr2 : Serve.SReq := { req := { method := "GET".toList, path := "/a/x".toList } }
def sr3 : Serve.SReq := { req := { method := "GET".toList, path := "/a/y".toList } }

def pairs (r : Serve.Result) : List (Serve.Stage × Bool) := r.log.map (fun ev => (ev.stage, ev.post))

/-- which filters pass control on: the replace filter, the middleware and the pass filters do; the
    one that stops and the one that panics do not -/
example :
    (Serve.allFilters cfg 0 1).map (fun sf => Spec.passesOn sf.2) = [true, true, true, true] ∧
    (Serve.allFilters cfg 0 2).map (fun sf => Spec.passesOn sf.2) = [true, true, true, false, true] ∧
    (Serve.allFilters cfg 0 3).map (fun sf => Spec.passesOn sf.2) = [true, true, true, false, true] ∧
    Spec.firstBlocked (Serve.allFilters cfg 0 1) = 4 ∧ Spec.firstBlocked (Serve.allFilters cfg 0 2) = 3 ∧
    Spec.firstBlocked (Serve.allFilters cfg 0 3) = 3 := by
  decide +kernel

/-- the iff, both sides evaluated, both directions inhabited.  Route 1: every filter passes on (a
    replace filter and a middleware among them) and the route function runs, once.  Route 2: a filter
    stops; route 3: a filter panics — the route function does not run, nor does the filter after the
    one that did not pass on.  After the stop the filters before it come back in reverse order; after
    the panic nothing comes back (recovery is off: the panic leaves `Dispatch`). -/
example :
    ((Serve.Stage.handler 1, false) ∈ pairs (Serve.serve E0 cfg .dispatch {} sr1)) ∧
    (∀ sf ∈ Serve.allFilters cfg 0 1, Spec.passesOn sf.2 = true) ∧
    (pairs (Serve.serve E0 cfg .dispatch {} sr1)).count (.handler 1, false) = 1 ∧
    ¬ ((Serve.Stage.handler 2, false) ∈ pairs (Serve.serve E0 cfg .dispatch {} sr2)) ∧
    ¬ (∀ sf ∈ Serve.allFilters cfg 0 2, Spec.passesOn sf.2 = true) ∧
    ¬ ((Serve.Stage.handler 3, false) ∈ pairs (Serve.serve E0 cfg .serveDispatch {} sr3)) ∧
    ¬ (∀ sf ∈ Serve.allFilters cfg 0 3, Spec.passesOn sf.2 = true) ∧
    pairs (Serve.serve E0 cfg .dispatch {} sr1) =
      [(.cfilter 1, false), (.cfilter 2, false), (.sfilter 3, false), (.rfilter 5, false), (.handler 1, false),
       (.rfilter 5, true), (.sfilter 3, true), (.cfilter 2, true), (.cfilter 1, true)] ∧
    pairs (Serve.serve E0 cfg .dispatch {} sr2) =
      [(.cfilter 1, false), (.cfilter 2, false), (.sfilter 3, false), (.rfilter 7, false),
       (.rfilter 7, true), (.sfilter 3, true), (.cfilter 2, true), (.cfilter 1, true)] ∧
    pairs (Serve.serve E0 cfg .serveDispatch {} sr3) =
      [(.cfilter 1, false), (.cfilter 2, false), (.sfilter 3, false), (.rfilter 9, false)] ∧
    (Serve.serve E0 cfg .serveDispatch {} sr3).escaped = some "boom".toList := by
  decide +kernel

/-- the theorems instantiated: `C06_handler_iff` in both directions on the model's log -/
example : (Serve.Stage.handler 1, false) ∈ pairs (Serve.serve E0 cfg .dispatch {} sr1) :=
  (C06_handler_iff E0 cfg .dispatch {} sr1 1).1.mpr
    ⟨.inl rfl, rfl, 0, [("i".toList, "7".toList)], "sel", by decide +kernel, by decide +kernel, by decide +kernel, by decide +kernel⟩
example : ∀ f ∈ (Serve.routeX cfg 1).filters, Spec.passesOn f = true :=
  (((C06_handler_iff E0 cfg .dispatch {} sr1 1).1.mp (by decide +kernel)).2.2.elim
    (fun _ h => h.elim (fun _ h => h.elim (fun _ h => h.2.2.2))))
example : (Serve.Stage.handler 2, false) ∉ pairs (Serve.serve E0 cfg .dispatch {} sr2) := fun h => by
  obtain ⟨_, _, svc, ps, tag, hr, _, _, h3⟩ := (C06_handler_iff E0 cfg .dispatch {} sr2 2).1.mp h
  exact absurd h3 (by decide +kernel)
example : (Serve.Stage.handler 3, false) ∉ pairs (Serve.serve E0 cfg .serveDispatch {} sr3) := fun h => by
  obtain ⟨_, _, svc, ps, tag, hr, _, _, h3⟩ := (C06_handler_iff E0 cfg .serveDispatch {} sr3 3).1.mp h
  exact absurd h3 (by decide +kernel)

/-- `C06_target_iff_all`, `C06_target_count_all` on the three chains (hypothesis `hd` by `decide`) -/
def fs1 : List (Serve.Stage × Serve.Filter) := Serve.allFilters cfg 0 1
def t1 : Serve.Target := ⟨.handler 1, [.write "one".toList]⟩
def fs2 : List (Serve.Stage × Serve.Filter) := Serve.allFilters cfg 0 2
def t2 : Serve.Target := ⟨.handler 2, [.write "two".toList]⟩
def fs3 : List (Serve.Stage × Serve.Filter) := Serve.allFilters cfg 0 3
def t3 : Serve.Target := ⟨.handler 3, [.write "three".toList]⟩
example : (t1.stage, false) ∈ (Spec.chainLog fs1 t1 {}).1.map (fun ev => (ev.stage, ev.post)) :=
  (C06_target_iff_all fs1 t1 {} (by decide +kernel)).1.mpr (by decide +kernel)
example : (t2.stage, false) ∉ (Spec.chainLog fs2 t2 {}).1.map (fun ev => (ev.stage, ev.post)) := fun h =>
  absurd ((C06_target_iff_all fs2 t2 {} (by decide +kernel)).1.mp h) (by decide +kernel)
example : (t3.stage, false) ∉ (Spec.chainLog fs3 t3 {}).1.map (fun ev => (ev.stage, ev.post)) := fun h =>
  absurd ((C06_target_iff_all fs3 t3 {} (by decide +kernel)).1.mp h) (by decide +kernel)
example := C06_target_count_all fs1 t1 {} (by decide +kernel)
example := C06_shape_all fs3 t3 {}
/-- `C06_blocked_all`: the stopping filter 7 after three filters that pass on, filter 8 behind it;
    the panicking filter 9 with filter 10 behind it -/
example := C06_blocked_all ((Serve.allFilters cfg 0 2).take 3) (.rfilter 7) (fl 7 .stop [.writeHeader 403])
  [(.rfilter 8, fl 8 .pass)] t2 {} (by decide +kernel) (by decide +kernel)
example := C06_blocked_all ((Serve.allFilters cfg 0 3).take 3) (.rfilter 9) (fl 9 .pass [.panic "boom".toList])
  [(.rfilter 10, fl 10 .pass)] t3 {} (by decide +kernel) (by decide +kernel)
example : (Serve.allFilters cfg 0 2).take 3 ++ (.rfilter 7, fl 7 .stop [.writeHeader 403]) :: [(.rfilter 8, fl 8 .pass)] = fs2 := by
  decide +kernel

/-- propagation through replace AND middleware combined (`C06_propagation_all`, `C06_ctxAt_fold`):
    the chain is entered with the route's parameters and selected path; the replace filter passes on
    a new Request (its own attribute only — the attribute it set on the old Request is not visible —,
    no parameters, no selected path) and a wrapped Response; the middleware adds an attribute and a
    second wrapper; the route filter adds an attribute; the route function sees all of it.  The model's
    own start events are exactly these. -/
example :
    let cx0 : Serve.Ctx := { params := [("i".toList, "7".toList)], selPath := "/a/{i}".toList }
    let who := ("who".toList, "1".toList)
    let m := ("m".toList, "2".toList)
    let r := ("r".toList, "5".toList)
    Spec.chainOf E0 cfg .dispatch sr1 = some (fs1, t1, cx0) ∧
    (List.range 5).map (Spec.ctxAt fs1 cx0) =
      [cx0, { attrs := [who], wrappers := [1] }, { attrs := [who, m], wrappers := [2, 1] },
       { attrs := [who, m], wrappers := [2, 1] }, { attrs := [who, m, r], wrappers := [2, 1] }] ∧
    (List.range 5).map (Spec.stageAt fs1 t1) = [.cfilter 1, .cfilter 2, .sfilter 3, .rfilter 5, .handler 1] ∧
    (Serve.serve E0 cfg .dispatch {} sr1).log.filter (fun ev => !ev.post) =
      [⟨.cfilter 1, false, [], [("i".toList, "7".toList)], "/a/{i}".toList, []⟩,
       ⟨.cfilter 2, false, [who], [], [], [1]⟩, ⟨.sfilter 3, false, [who, m], [], [], [2, 1]⟩,
       ⟨.rfilter 5, false, [who, m], [], [], [2, 1]⟩, ⟨.handler 1, false, [who, m, r], [], [], [2, 1]⟩] := by
  decide +kernel
example := C06_propagation_all fs1 t1 {}
example := C06_ctxAt_fold fs1 {}
example := C06_stageAt fs1 t1 4
example := C06_order_all fs2 t2 {}
example := C06_starts_served E0 cfg .dispatch {} sr1 fs1 t1
  { params := [("i".toList, "7".toList)], selPath := "/a/{i}".toList } (by decide +kernel)
example := C06_order_all_routed E0 cfg .serveDispatch (.inr rfl) {} sr3 0 3 [] "sel" rfl (by decide +kernel)
example := C06_target_iff_served E0 cfg .dispatch {} sr2 (.handler 2) rfl (by decide +kernel)
example := C06_passesOn_iff (fl 9 .pass [.panic "boom".toList]) []

/-- the plain handler behind `HandleWithFilter`: container filters 1 (replace) and 2 (middleware)
    pass on, it runs; through `Handle` it runs whatever the filters; with a stopping container
    filter in front it does not -/
example :
    ((Serve.Stage.plain 0, false) ∈ pairs (Serve.serve E0 cfg .muxHandleF {} sr1)) ∧
    ((Serve.Stage.plain 0, false) ∈ pairs (Serve.serve E0 { cfg with cfilters := [fl 1 .stop] } .serveHandle {} sr1)) ∧
    ¬ ((Serve.Stage.plain 0, false) ∈ pairs (Serve.serve E0 { cfg with cfilters := [fl 1 .stop] } .serveHandleF {} sr1)) ∧
    (Serve.serve E0 cfg .muxHandleF {} sr1).log.filter (fun ev => !ev.post) =
      [⟨.cfilter 1, false, [], [], [], []⟩, ⟨.cfilter 2, false, [("who".toList, "1".toList)], [], [], [1]⟩,
       ⟨.plain 0, false, [("who".toList, "1".toList), ("m".toList, "2".toList)], [], [], [2, 1]⟩] := by
  decide +kernel
example := (C06_plain_iff E0 cfg .muxHandleF {} sr1).1.mpr (.inr ⟨.inl rfl, by decide +kernel⟩)

end C06AllExample

/-! The frame condition (Lemmas/StateShape.lean): the code has exactly the state this property's model
    accounts for — no further package-level variable, struct type or field; constants as modelled. -/
-- also: Restful.StateShape.globals_shape
-- also: Restful.StateShape.consts_shape
-- also: Restful.StateShape.container_shape

end Props
end Restful
