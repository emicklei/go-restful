/-
C07 — encoded responses decode to exactly what was written, and are labelled so.

`Spec.c07Holds` (Spec/Serve.lean) evaluates the property on what was observed of one request: the
reference is the response of the SAME request with every content-coding switch off
(`Spec.noCoding cfg`, no Accept-Encoding) — "the bytes written by filters, handler, error writer or
panic handler, in order".  Here the observation is the model's own (`Spec.obsOf (Serve.serve …)`).
The proof (Lemmas/Coding.lean) is a simulation between the two runs: with a compressing writer
installed the uncoded body is the compressor's payload, the coding's `Content-Encoding` is the
first such entry of the header map and of the snapshot sent, and the compressor is open until the
function that installed it closes it; without one the two recorders are equal.

`Spec.c07Holds E cfg e sr (Spec.obsOf (Serve.serve E cfg e {} sr)) = true` does not hold without
hypotheses, for two reasons:
  F09   through `ServeHTTP` the container's switch is consulted before routing: a route with
        `ContentEncodingEnabled(false)` is encoded anyway          (`Spec.f09Class`, `C07_F09_witness`)
  —     `c07Holds` demands of a response that is NOT encoded that it leaves with the
        `Content-Encoding` it arrived with; user code that sets the header itself
        (`Header().Add("Content-Encoding", …)` in a filter or handler) breaks that without the
        container adding anything                                  (`Serve.Enc.userCE`, `C07_userCE_witness`)
`C07_iff_partial` is the exact form outside F09: the property holds iff the response is encoded or
leaves with the `Content-Encoding` it arrived with; `C07_partial` puts the second alternative as a
condition on the configuration (no script adds that header) or on the request (the writer carried
one already, which then stays the first entry).  The parts of the property that need neither
hypothesis are separate theorems: `C07_label`, `C07_requested`, `C07_decodes`, `C07_plain`,
`C07_once`, `C07_prior`; `C07_enabled_partial` needs F09 only.

The chain `HandleWithFilter` builds recovers from a panic like `dispatch` does (a0e838d of /repo):
the recover handler then writes through the compressing writer the closure of `Handle` (or
`ServeHTTP`) installed, before the deferred `Close`; the same panic unwinds in both runs of the
simulation, the recover handler runs in both or in neither.  Every theorem here speaks of all six
entry points; the last example below is that path.
-/
import Restful.Lemmas.Coding
import Restful.Lemmas.StateShape
import Restful.Lemmas.TieImpWants
namespace Restful
namespace Props
open Serve Serve.Enc

/-- **C07**, exact form outside the F09 class: the property holds iff the response is encoded or
    leaves with the `Content-Encoding` the writer had on arrival -/
theorem C07_iff_partial (E : ReEnv) (cfg : Serve.Cfg) (e : Serve.Entry) (sr : Serve.SReq)
    (h09 : Spec.f09Class E cfg e sr = false) :
    Spec.c07Holds E cfg e sr (Spec.obsOf (Serve.serve E cfg e {} sr)) = true ↔
      ((Spec.obsOf (Serve.serve E cfg e {} sr)).coded = true ∨
        (Spec.obsOf (Serve.serve E cfg e {} sr)).ce = sr.priorEncoding) := by
  unfold Spec.c07Holds
  simp only []
  generalize Spec.opaqueBody cfg _ _ = q
  generalize Spec.libraryErrorText E cfg e sr = q2
  rw [obsOf_ce]
  simp only [Spec.obsOf]
  rw [serve_world]
  rcases Option.eq_none_or_eq_some (serve E cfg e {} sr).rc.comp with hc | ⟨c, hc⟩
  · rw [← uncoded_facts {} hc]
    simp [ledger, hc]
  · obtain ⟨hcl, hb, hw, hen, hlab⟩ := coded_facts {} hc
    obtain ⟨hsub, hprior⟩ := wants_some hw
    rw [getHeader_initial] at hprior
    rw [hlab, hb]
    simp only [ledger, hc, Option.isSome_some, if_true, hcl, hen h09, hsub, hprior, List.isEmpty_nil, Bool.and_true,
      Bool.true_and, BEq.rfl, Bool.or_true, true_or, iff_true]
    rcases coding_name_cases c.coding with hn | hn <;> rw [hn] <;> simp


/-- **C07** for every configuration, entry point (`Dispatch`, `ServeHTTP`, `Handle`,
    `HandleWithFilter`, with or without `ServeHTTP` in front) and request outside the F09 class,
    normal, error and recovered-panic responses alike — provided no user script sets a
    `Content-Encoding` header itself, or the writer carried one on arrival -/
theorem C07_partial (E : ReEnv) (cfg : Serve.Cfg) (e : Serve.Entry) (sr : Serve.SReq)
    (h09 : Spec.f09Class E cfg e sr = false)
    (hce : Serve.Enc.userCE cfg = false ∨ sr.priorEncoding.isEmpty = false) :
    Spec.c07Holds E cfg e sr (Spec.obsOf (Serve.serve E cfg e {} sr)) = true := by
  rw [C07_iff_partial E cfg e sr h09]
  cases hc : (serve E cfg e {} sr).rc.comp with
  | some c => exact Or.inl (by simp [Spec.obsOf, hc])
  | none => exact Or.inr (uncoded_ce hce.symm hc)

/-- "the Content-Encoding header names gzip or deflate": an encoded response is sent with the name
    of the coding applied as its (first) `Content-Encoding`, whatever user code adds afterwards -/
theorem C07_label (E : ReEnv) (cfg : Serve.Cfg) (e : Serve.Entry) (w : Serve.World) (sr : Serve.SReq)
    (c : Serve.Comp) (hc : (Serve.serve E cfg e w sr).rc.comp = some c) :
    (Spec.obsOf (Serve.serve E cfg e w sr)).ce = c.coding.name ∧
      (c.coding.name = "gzip".toList ∨ c.coding.name = "deflate".toList) :=
  ⟨(coded_facts {} hc).2.2.2.2, coding_name_cases c.coding⟩

/-- "the request's Accept-Encoding mentioned that coding … nothing is encoded when the writer already
    carried a Content-Encoding on arrival": the coding is the one `wantsCompressedResponse` picks for
    the request as it arrived -/
theorem C07_requested (E : ReEnv) (cfg : Serve.Cfg) (e : Serve.Entry) (w : Serve.World) (sr : Serve.SReq)
    (c : Serve.Comp) (hc : (Serve.serve E cfg e w sr).rc.comp = some c) :
    Serve.wants (Serve.initial sr).rc sr.acceptEncoding = some c.coding ∧
      Str.containsSub c.coding.name sr.acceptEncoding = true ∧ sr.priorEncoding = [] := by
  have hw := (coded_facts {} hc).2.2.1
  have h := wants_some hw
  rw [getHeader_initial] at h
  exact ⟨hw, h⟩

/-- "encoding was enabled for that request (the route's own setting overriding the container's)" —
    outside the F09 class -/
theorem C07_enabled_partial (E : ReEnv) (cfg : Serve.Cfg) (e : Serve.Entry) (w : Serve.World)
    (sr : Serve.SReq) (h09 : Spec.f09Class E cfg e sr = false)
    (hc : (Serve.serve E cfg e w sr).rc.comp.isSome = true) : Spec.enabledFor E cfg e sr = true := by
  obtain ⟨c, hc⟩ := Option.isSome_iff_exists.mp hc
  exact (coded_facts {} hc).2.2.2.1 h09

/-- "decoding the complete body with that coding yields exactly the bytes written … in order, however
    they were chunked": the coded stream is complete (the compressor was closed by the function that
    installed it, also when a panic propagates) and carries the body of the same request served
    without codings; nothing reaches the recorder uncompressed besides -/
theorem C07_decodes (E : ReEnv) (cfg : Serve.Cfg) (e : Serve.Entry) (w : Serve.World) (sr : Serve.SReq)
    (c : Serve.Comp) (hc : (Serve.serve E cfg e w sr).rc.comp = some c) :
    c.closed = true ∧
      c.payload = (Serve.serve E (Spec.noCoding cfg) e {} { sr with acceptEncoding := [] }).rc.body :=
  ⟨(coded_facts {} hc).1, (coded_facts {} hc).2.1.symm⟩

/-- "otherwise the body is exactly those bytes and the container adds no Content-Encoding": a response
    that is not encoded is, status, headers and body, the response of the same request served
    without codings -/
theorem C07_plain (E : ReEnv) (cfg : Serve.Cfg) (e : Serve.Entry) (w : Serve.World) (sr : Serve.SReq)
    (hc : (Serve.serve E cfg e w sr).rc.comp = none) :
    (Serve.serve E cfg e w sr).rc =
      (Serve.serve E (Spec.noCoding cfg) e {} { sr with acceptEncoding := [] }).rc :=
  uncoded_facts {} hc

/-- "a response is never encoded twice": a request acquires at most one compressor, exactly one iff
    its response is encoded, and every compressor acquired is released -/
theorem C07_once (E : ReEnv) (cfg : Serve.Cfg) (e : Serve.Entry) (sr : Serve.SReq) :
    (Serve.serve E cfg e {} sr).world.acquired ≤ 1 ∧
      ((Serve.serve E cfg e {} sr).world.acquired = 1 ↔ (Serve.serve E cfg e {} sr).rc.comp.isSome = true) ∧
      (Serve.serve E cfg e {} sr).world.released = (Serve.serve E cfg e {} sr).world.acquired := by
  rw [serve_world]
  cases hc : (serve E cfg e {} sr).rc.comp with
  | none => simp [ledger, hc]
  | some c => simp [ledger, hc, serve_closed E cfg e {} sr c hc]

/-- "nothing is encoded when the writer already carried a Content-Encoding on arrival", and the
    header is left as it was -/
theorem C07_prior (E : ReEnv) (cfg : Serve.Cfg) (e : Serve.Entry) (w : Serve.World) (sr : Serve.SReq)
    (hp : sr.priorEncoding ≠ []) :
    (Serve.serve E cfg e w sr).rc.comp = none ∧
      (Spec.obsOf (Serve.serve E cfg e w sr)).ce = sr.priorEncoding := by
  have hn : (serve E cfg e w sr).rc.comp = none := by
    cases hc : (serve E cfg e w sr).rc.comp with
    | none => rfl
    | some c => exact absurd (C07_requested E cfg e w sr c hc).2.2 hp
  refine ⟨hn, uncoded_ce (Or.inl ?_) hn⟩
  cases h : sr.priorEncoding with
  | nil => exact absurd h hp
  | cons a as => rfl

namespace C07Witness

def rd (id : Nat) (m p : String) : RouteDecl :=
  { id := id, method := m.toList, relPath := p.toList, consumes := [], produces := [], conds := [], noct := [] }

def Eany : ReEnv := ⟨fun _ _ => true, fun _ _ => true⟩

/-- one service `/a` with one GET route -/
def routing : Config := { router := .curly, services := [ { id := 0, root := "/a".toList, routes := [rd 0 "GET" ""] } ] }

def get (ae : String) : Serve.SReq :=
  { req := { method := "GET".toList, path := "/a".toList }, acceptEncoding := ae.toList }

/-! ### F09 -/

/-- the route switches encoding off for itself, the container has it on -/
def cfg09 : Serve.Cfg :=
  { routing := routing, routes := [ { id := 0, script := [.write "x".toList], enc := some false } ], encoding := true }

/-- F09: through `ServeHTTP` the response of a route with `ContentEncodingEnabled(false)` is gzipped
    all the same (through `Dispatch` it is not) -/
theorem _root_.Restful.Props.C07_F09_witness :
    Spec.f09Class Eany cfg09 .serveDispatch (get "gzip") = true ∧
    Serve.Enc.userCE cfg09 = false ∧
    (Serve.serve Eany cfg09 .serveDispatch {} (get "gzip")).rc.comp = some { coding := .gzip, payload := "x".toList, closed := true } ∧
    Spec.enabledFor Eany cfg09 .serveDispatch (get "gzip") = false ∧
    Spec.c07Holds Eany cfg09 .serveDispatch (get "gzip") (Spec.obsOf (Serve.serve Eany cfg09 .serveDispatch {} (get "gzip"))) = false ∧
    (Serve.serve Eany cfg09 .dispatch {} (get "gzip")).rc.comp = none ∧
    Spec.c07Holds Eany cfg09 .dispatch (get "gzip") (Spec.obsOf (Serve.serve Eany cfg09 .dispatch {} (get "gzip"))) = true := by
  decide +kernel

/-! ### user code that sets `Content-Encoding` itself -/

/-- the handler labels its own output; no encoding anywhere -/
def cfgU : Serve.Cfg :=
  { routing := routing, routes := [ { id := 0, script := [.addHeader "Content-Encoding".toList "br".toList, .write "x".toList] } ] }

/-- the second hypothesis of `C07_partial` cannot be dropped: nothing is encoded, the container adds
    nothing, and yet `c07Holds` is false, because the response leaves with a `Content-Encoding` it
    did not arrive with -/
theorem _root_.Restful.Props.C07_userCE_witness :
    Spec.f09Class Eany cfgU .dispatch (get "") = false ∧ Serve.Enc.userCE cfgU = true ∧
    (Serve.serve Eany cfgU .dispatch {} (get "")).rc.comp = none ∧
    (Spec.obsOf (Serve.serve Eany cfgU .dispatch {} (get ""))).ce = "br".toList ∧
    Spec.c07Holds Eany cfgU .dispatch (get "") (Spec.obsOf (Serve.serve Eany cfgU .dispatch {} (get ""))) = false := by
  decide +kernel

/-! ### non-vacuity -/

/-- a container filter writing 2 bytes, a handler writing 3 bytes in two chunks, encoding on -/
def cfgN : Serve.Cfg :=
  { routing := routing
    cfilters := [ { id := 1, pre := [.write "ab".toList], kind := .pass, post := [] } ]
    routes := [ { id := 0, script := [.write "c".toList, .write "de".toList] } ]
    encoding := true }

/-- the hypotheses of `C07_partial` hold, the response is encoded with the coding named first in
    Accept-Encoding, the compressor received the five bytes in order and was closed, and the
    property holds -/
example :
    Spec.f09Class Eany cfgN .dispatch (get "deflate, gzip") = false ∧ Serve.Enc.userCE cfgN = false ∧
    (Serve.serve Eany cfgN .dispatch {} (get "deflate, gzip")).rc.comp =
      some { coding := .deflate, payload := "abcde".toList, closed := true } ∧
    (Spec.obsOf (Serve.serve Eany cfgN .dispatch {} (get "deflate, gzip"))).ce = "deflate".toList ∧
    (Serve.serve Eany cfgN .dispatch {} (get "deflate, gzip")).world = { acquired := 1, released := 1 } ∧
    Spec.c07Holds Eany cfgN .dispatch (get "deflate, gzip")
      (Spec.obsOf (Serve.serve Eany cfgN .dispatch {} (get "deflate, gzip"))) = true := by
  decide +kernel

/-- the handler panics after its first chunk; recovery is on, with a custom recover handler -/
def cfgP : Serve.Cfg :=
  { cfgN with
    recover := true
    recoverScript := some [.write "!".toList]
    routes := [ { id := 0, script := [.write "c".toList, .panic "p".toList, .write "de".toList] } ] }

/-- the same through `ServeHTTP`, and with a handler that panics after its first chunk while
    recovery is on: the stream is still complete -/
example :
    (Serve.serve Eany cfgN .serveDispatch {} (get "gzip")).rc.comp =
      some { coding := .gzip, payload := "abcde".toList, closed := true } ∧
    Spec.c07Holds Eany cfgN .serveDispatch (get "gzip")
      (Spec.obsOf (Serve.serve Eany cfgN .serveDispatch {} (get "gzip"))) = true ∧
    (Serve.serve Eany cfgP .dispatch {} (get "gzip")).rc.comp =
      some { coding := .gzip, payload := "abc!".toList, closed := true } ∧
    Spec.c07Holds Eany cfgP .dispatch (get "gzip")
      (Spec.obsOf (Serve.serve Eany cfgP .dispatch {} (get "gzip"))) = true := by
  decide +kernel

/-- `HandleWithFilter`, encoding and recovery on, custom recover handler: the container filter
    writes two bytes, the plain handler one and then panics -/
def cfgHF : Serve.Cfg :=
  { routing := routing
    cfilters := [ { id := 1, pre := [.write "ab".toList], kind := .pass, post := [.write "z".toList] } ]
    plainScript := [.write "c".toList, .panic "p".toList, .write "de".toList]
    encoding := true
    recover := true
    recoverScript := some [.write "!".toList] }

/-- the recovered panic on the `HandleWithFilter` chain (through `ServeHTTP`, which installs the
    compressing writer, and through the mux alone, where the closure of `Handle` does): the recover
    handler's byte goes through the compressor after the three bytes written before the panic, the
    stream is complete, nothing escapes, and the property holds; the reference run without codings
    has the same four bytes as its body -/
example :
    Spec.f09Class Eany cfgHF .serveHandleF (get "gzip") = false ∧ Serve.Enc.userCE cfgHF = false ∧
    (Serve.serve Eany cfgHF .serveHandleF {} (get "gzip")).rc.comp =
      some { coding := .gzip, payload := "abc!".toList, closed := true } ∧
    (Serve.serve Eany cfgHF .serveHandleF {} (get "gzip")).escaped = none ∧
    (Serve.serve Eany (Spec.noCoding cfgHF) .serveHandleF {} (get "")).rc.body = "abc!".toList ∧
    Spec.c07Holds Eany cfgHF .serveHandleF (get "gzip")
      (Spec.obsOf (Serve.serve Eany cfgHF .serveHandleF {} (get "gzip"))) = true ∧
    (Serve.serve Eany cfgHF .muxHandleF {} (get "deflate")).rc.comp =
      some { coding := .deflate, payload := "abc!".toList, closed := true } ∧
    (Serve.serve Eany cfgHF .muxHandleF {} (get "deflate")).world = { acquired := 1, released := 1 } ∧
    Spec.c07Holds Eany cfgHF .muxHandleF (get "deflate")
      (Spec.obsOf (Serve.serve Eany cfgHF .muxHandleF {} (get "deflate"))) = true := by
  decide +kernel

/-! ### non-vacuity (audit): the remaining theorems instantiated; `Spec.c07Holds` falsified by wrong
    observations of a request that meets every hypothesis -/

/-- two codings offered; container filter + handler write five bytes in three chunks (`cfgN`) -/
def rq : Serve.SReq := get "deflate, gzip"
/-- the same request to a writer that already carries `Content-Encoding: br` -/
def rqPrior : Serve.SReq := { get "gzip" with priorEncoding := "br".toList }

/-- `C07_partial` on `cfgN` (first alternative of `hce`), and on `cfgU` — whose handler sets the
    header itself — with a prior encoding (second alternative) -/
theorem cfgN_outside_f09 : Spec.f09Class Eany cfgN .dispatch rq = false := by decide +kernel
example := C07_partial Eany cfgN .dispatch rq cfgN_outside_f09 (.inl (by decide +kernel))
example : Serve.Enc.userCE cfgU = true ∧ rqPrior.priorEncoding.isEmpty = false := by decide +kernel
example := C07_partial Eany cfgU .dispatch rqPrior (by decide +kernel) (.inr (by decide +kernel))
/-- `C07_iff_partial`, both sides true on `cfgN`, both sides false on `cfgU` (`C07_userCE_witness`) -/
example := (C07_iff_partial Eany cfgN .dispatch rq cfgN_outside_f09).mpr (.inl (by decide +kernel))
example : ¬ ((Spec.obsOf (Serve.serve Eany cfgU .dispatch {} (get ""))).coded = true ∨
    (Spec.obsOf (Serve.serve Eany cfgU .dispatch {} (get ""))).ce = (get "").priorEncoding) := by decide +kernel

/-- `C07_label`, `C07_requested`, `C07_decodes`, `C07_enabled_partial`: an encoded response
    (hypothesis `hc`), from a used ledger -/
example := C07_label Eany cfgN .dispatch { acquired := 3, released := 3 } rq
  { coding := .deflate, payload := "abcde".toList, closed := true } (by decide +kernel)
example := C07_requested Eany cfgN .serveDispatch {} rq { coding := .deflate, payload := "abcde".toList, closed := true } (by decide +kernel)
example := C07_decodes Eany cfgP .dispatch {} (get "gzip") { coding := .gzip, payload := "abc!".toList, closed := true } (by decide +kernel)
example := C07_enabled_partial Eany cfgN .dispatch {} rq cfgN_outside_f09 (by decide +kernel)
/-- `C07_plain`: a response that is not encoded (no Accept-Encoding; encoding on) -/
example := C07_plain Eany cfgN .dispatch {} (get "") (by decide +kernel)
/-- `C07_prior`: gzip requested, encoding on, but the writer arrives with `Content-Encoding: br` -/
example : (Serve.serve Eany cfgN .serveDispatch {} rqPrior).rc.comp = none ∧
    (Spec.obsOf (Serve.serve Eany cfgN .serveDispatch {} rqPrior)).ce = "br".toList :=
  C07_prior Eany cfgN .serveDispatch {} rqPrior (by decide +kernel)
example : (Serve.serve Eany cfgN .serveDispatch {} rqPrior).rc.body = "abcde".toList := by decide +kernel

/-- what the model answers: encoded (deflate) / not encoded (no Accept-Encoding) -/
def oN : Spec.Obs := Spec.obsOf (Serve.serve Eany cfgN .dispatch {} rq)
def oPlain : Spec.Obs := Spec.obsOf (Serve.serve Eany cfgN .dispatch {} (get ""))

/-- `Spec.c07Holds` is not trivially true.  The encoded answer is falsified by: a decoded body that
    lost a byte; chunks out of order; an incomplete stream; a label that is not the coding; no label;
    two compressors (encoded twice); a coding the request did not mention; no Accept-Encoding at
    all; encoding not enabled; a writer that carried a Content-Encoding on arrival.  The answer that
    is not encoded is falsified by: an added Content-Encoding; other bytes; a compressor acquired. -/
example :
    Spec.c07Holds Eany cfgN .dispatch rq oN = true ∧
    Spec.c07Holds Eany cfgN .dispatch rq { oN with body := "abcd".toList } = false ∧
    Spec.c07Holds Eany cfgN .dispatch rq { oN with body := "cdeab".toList } = false ∧
    Spec.c07Holds Eany cfgN .dispatch rq { oN with complete := false } = false ∧
    Spec.c07Holds Eany cfgN .dispatch rq { oN with ce := "br".toList } = false ∧
    Spec.c07Holds Eany cfgN .dispatch rq { oN with ce := [] } = false ∧
    Spec.c07Holds Eany cfgN .dispatch rq { oN with acq := 2 } = false ∧
    Spec.c07Holds Eany cfgN .dispatch (get "gzip") oN = false ∧
    Spec.c07Holds Eany cfgN .dispatch (get "") oN = false ∧
    Spec.c07Holds Eany { cfgN with encoding := false } .dispatch rq oN = false ∧
    Spec.c07Holds Eany cfgN .dispatch { rq with priorEncoding := "br".toList } oN = false ∧
    Spec.c07Holds Eany cfgN .dispatch (get "") oPlain = true ∧
    Spec.c07Holds Eany cfgN .dispatch (get "") { oPlain with ce := "gzip".toList } = false ∧
    Spec.c07Holds Eany cfgN .dispatch (get "") { oPlain with body := "abcd".toList } = false ∧
    Spec.c07Holds Eany cfgN .dispatch (get "") { oPlain with acq := 1 } = false := by
  decide +kernel

end C07Witness

/-! The frame condition (Lemmas/StateShape.lean): the code has exactly the state this property's model
    accounts for — no further package-level variable, struct type or field; constants as modelled. -/
-- also: Restful.StateShape.globals_shape
-- also: Restful.StateShape.consts_shape
-- also: Restful.StateShape.container_shape
-- also: Restful.StateShape.response_shape
-- also: Restful.StateShape.compress_shape

end Props
end Restful

-- the imperative functions this property's model rests on, tied to their statement-by-statement
-- translation (tools/goimp, Gen/Imp.lean, regenerated on every run):
-- also: Restful.TieImp.wants_compressed
