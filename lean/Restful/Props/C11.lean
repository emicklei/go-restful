/-
C11 — registration state equals what a fresh container with the same content has.

`Registry.run k ops` is the model of a container after the operations `ops` (`Add`, `Remove`, `Route`,
`RemoveRoute`, `Handle`/`HandleWithFilter`; container.go, web_service.go, tied to /repo by the
correspondence stream `registry`); `Registry.fresh (content st)` is a new container to which the
final services were added in order and the plain handlers registered; `Registry.answer` is what a
request is answered with through `Dispatch` resp. `ServeHTTP` (ServeMux model: `Model/Mux.lean`).
All theorems quantify over every operation sequence, every request and every regular-expression
oracle `E`; there is no bound on lengths.

THE FULL STATEMENTS (what the property says):

  theorem C11_serve (h : run k ops = .ok st) :
      ∃ st', fresh (content st) = .ok st' ∧ ∀ e req, answer E st e req = answer E st' e req

  theorem C11_add_total (hd : Spec.distinctB (roots svcs) = true) :
      ∃ st, run k (svcs.map .add) = .ok st

* `C11_add_total` is PROVED as stated (since the repair 093fa53 of /repo `addHandler` collects the
  ServeMux patterns of the WebServices registered before and adds only the missing ones): services
  with pairwise different root paths can be added in any number and order, whatever prefixes they
  share — also when two of them want the same ServeMux pattern (finding F11: `/users` +
  `/users/{id}/b`, `/a` + `/a/`; `Spec.F11` is the class of such root paths, a class whose coverage
  the check measures, assumed by no theorem; `C11_F11_fixed` is its witness, which the harness
  replays as a regression).
  What can make a registration fail is stated exactly (`C11_add_panics_only`,
  `C11_add_after_history`, `C11_remove_total`, `C11_registration_clash_witness`):
    - a root path the container already holds: `os.Exit(1)` in the real code (`Panic.exit`);
    - a pattern of the new service on which a plain handler registered through `Handle` /
      `HandleWithFilter` sits on the current ServeMux (and `Handle` on a pattern in use): the
      "multiple registrations" panic of `net/http.ServeMux`, documented behaviour of `Handle`;
    - `Remove` never fails.
* `C11_serve` is FALSE for the code as it is: it fails when a `Handle` precedes a `Remove`
  (finding F10b, `C11_F10b_witness`): `Remove` builds a new ServeMux and re-registers the WebServices
  only.  `C11_serve_partial` is the statement under the hypothesis the proof forces,
  `Spec.F10b ops = false`.
`C11_dispatch` (through `Dispatch`) holds without any hypothesis on the history.
-/
import Restful.Lemmas.RegistryTotal
import Restful.Lemmas.DecideLits
import Restful.Lemmas.StateShape
import Restful.Lemmas.TieImpPrefix
import Restful.Lemmas.TieImpRegistry
import Restful.Lemmas.TieImpBuild
import Restful.Lemmas.TieImpAdd
import Restful.Lemmas.TieImpSvcPath
namespace Restful
namespace Props
open Registry
variable (E : ReEnv)

/-! ### through `Dispatch` -/

/-- Through `Dispatch`, after ANY history that does not panic, the container answers every request
    exactly as a newly built container with the same content (whenever that container can be built):
    removed services and routes are unreachable, everything else is reachable. -/
theorem C11_dispatch (k : RouterKind) (ops : List Op) (st st' : State) (h : run k ops = .ok st)
    (hf : fresh (content st) = .ok st') (req : Req) :
    answer E st .dispatch req = answer E st' .dispatch req :=
  have _ := h  -- not needed: `dispatch_fresh`
  dispatch_fresh E st st' hf req

/-- The services alone can always be rebuilt: a new container to which the final services are added
    in order never panics, and answers like the history-built one through `Dispatch`. -/
theorem C11_dispatch_services (k : RouterKind) (ops : List Op) (st : State) (h : run k ops = .ok st) :
    ∃ st', fresh ⟨st.router, st.services, []⟩ = .ok st' ∧
      ∀ req, answer E st .dispatch req = answer E st' .dispatch req :=
  ⟨_, fresh_eq ⟨st.router, st.services, []⟩ (run_inv h).rootsNodup (by simpa using regFrom_nodup' _) nofun,
    fun _ => rfl⟩

/-! ### through `ServeHTTP` -/

/-- F10b excluded: if no `Handle` precedes a `Remove`, the fresh container can be built and both entry
    points answer every request exactly as the history-built container does. -/
theorem C11_serve_partial (k : RouterKind) (ops : List Op) (st : State) (hno : Spec.F10b ops = false)
    (h : run k ops = .ok st) :
    ∃ st', fresh (content st) = .ok st' ∧ ∀ e req, answer E st e req = answer E st' e req :=
  ⟨_, answer_fresh_of_inv E (run_inv h)
    (live_eq_handlers (seen := false) h rfl (fun _ => rfl) (by simpa [Spec.F10b] using hno))⟩

/-- the same as a statement about the predicate the check evaluates on the real containers -/
theorem C11_partial (k : RouterKind) (ops : List Op) (st : State) (hno : Spec.F10b ops = false)
    (h : run k ops = .ok st) (req : Req) :
    Spec.c11Holds ⟨answer E st .dispatch req, answerOf E (fresh (content st)) .dispatch req,
                   answer E st .serveHTTP req, answerOf E (fresh (content st)) .serveHTTP req⟩ = true := by
  obtain ⟨st', hf, ha⟩ := C11_serve_partial E k ops st hno h
  simp [Spec.c11Holds, hf, answerOf, ha]

/-! ### `Add` and `Remove` are total -/

/-- Services with pairwise different root paths can be added to a new container, in any number and
    order, without panic or exit — whatever fixed prefixes the root paths share. -/
theorem C11_add_total (k : RouterKind) (svcs : List Svc) (hd : Spec.distinctB (roots svcs) = true) :
    ∃ st, run k (svcs.map .add) = .ok st ∧ st.services = svcs :=
  ⟨_, runFrom_adds svcs (init k) rfl rfl (by simpa [init] using (distinctB_iff _).mp hd), by simp [init]⟩

/-- ... and that is all: a sequence of `Add`s on a new container fails exactly when two of the root
    paths are equal, and then with `os.Exit(1)`, never with a panic of the ServeMux. -/
theorem C11_add_total_iff (k : RouterKind) (svcs : List Svc) :
    (∃ st, run k (svcs.map .add) = .ok st) ↔ Spec.distinctB (roots svcs) = true := by
  constructor
  · rintro ⟨st, h⟩
    have := (run_inv h).rootsNodup
    rw [services_of_adds h] at this
    exact (distinctB_iff _).mpr (by simpa [init] using this)
  · intro hd
    obtain ⟨st, h, _⟩ := C11_add_total k svcs hd
    exact ⟨st, h⟩

theorem C11_add_only_exit (k : RouterKind) (svcs : List Svc) (e : Panic) (h : run k (svcs.map .add) = .error e) :
    e = .exit ∧ Spec.distinctB (roots svcs) = false := by
  refine ⟨runFrom_adds_error (init_inv k) rfl h, ?_⟩
  cases hd : Spec.distinctB (roots svcs) with
  | false => rfl
  | true =>
    obtain ⟨st, hr, _⟩ := C11_add_total k svcs hd
    rw [hr] at h
    cases h

/-- the add-total clause as the predicate the check evaluates on a real panic -/
theorem C11_add_total_spec (k : RouterKind) (svcs : List Svc) :
    Spec.c11AddTotalHolds (roots svcs) []
      (match run k (svcs.map .add) with | .ok _ => false | .error _ => true) = true := by
  cases hd : Spec.distinctB (roots svcs) with
  | false => simp [Spec.c11AddTotalHolds, hd]
  | true =>
    obtain ⟨st, hr, _⟩ := C11_add_total k svcs hd
    simp [Spec.c11AddTotalHolds, hr]

/-- also in the middle of a history: adding a service with a new root path to a container that did
    not panic so far succeeds, unless a plain handler registered on the current ServeMux sits on one
    of its patterns (documented behaviour of `Handle`). -/
theorem C11_add_after_history (k : RouterKind) (ops : List Op) (st : State) (s : Svc)
    (h : run k ops = .ok st) (hnew : s.root ∉ roots st.services)
    (hp : ∀ p ∈ Spec.regPatterns s.root, p ∉ st.live.map (·.1)) :
    ∃ st', step st (.add s) = .ok st' ∧ st'.services = st.services ++ [s] :=
  ⟨_, step_add_of hnew fun p hpa hk => let ⟨h1, h2⟩ := addPats_clash (run_inv h) hpa hk; hp p h1 h2, rfl⟩

/-- what can make `Add` fail, exactly: the root path is taken (`os.Exit(1)` in the real code),
    or the ServeMux refuses ("multiple registrations") a pattern of the service on which a live plain
    handler sits. -/
theorem C11_add_panics_only (k : RouterKind) (ops : List Op) (st : State) (s : Svc) (e : Panic)
    (h : run k ops = .ok st) (he : step st (.add s) = .error e) :
    (e = .exit ∧ s.root ∈ roots st.services) ∨
    (st.onRoot = false ∧ ∃ p, e = .mux (.multiple p) ∧ p ∈ Spec.regPatterns s.root ∧ p ∈ st.live.map (·.1)) :=
  step_add_error (run_inv h) he

/-- the same as the predicate the check evaluates on a real panic of an `Add` in the middle of a
    history (`plain`: any list holding the patterns of the live plain handlers — the check passes
    every pattern the user registered so far). -/
theorem C11_add_spec (k : RouterKind) (ops : List Op) (st : State) (s : Svc) (plain : List Str)
    (h : run k ops = .ok st) (hpl : ∀ p ∈ st.live.map (·.1), p ∈ plain) :
    Spec.c11AddTotalHolds (roots st.services ++ [s.root]) plain
      (match step st (.add s) with | .ok _ => false | .error _ => true) = true := by
  have inv := run_inv h
  cases hs : step st (.add s) with
  | ok st' => simp [Spec.c11AddTotalHolds]
  | error e =>
    simp only [Spec.c11AddTotalHolds, Bool.not_true, Bool.false_or, Bool.or_eq_true, Bool.not_eq_true',
      List.any_eq_true, List.contains_eq_mem, decide_eq_true_eq]
    rcases step_add_error inv hs with ⟨_, hm⟩ | ⟨ho, p, _, hp, hl⟩
    · left
      cases hd : Spec.distinctB (roots st.services ++ [s.root]) with
      | false => rfl
      | true =>
        exact absurd hm (not_mem_of_nodup_append ((distinctB_iff _).mp hd) _ (List.mem_singleton.mpr rfl))
    · right
      have hf : Spec.flagFrom (roots st.services) false = false := by rw [← inv.flag]; exact ho
      exact ⟨p, by rw [patsFrom_append, hf]; exact List.mem_append_right _ hp, hpl p hl⟩

/-- `Remove` never panics, in any state: the new ServeMux holds no plain handler, and the patterns
    re-registered for the remaining services are pairwise different. -/
theorem C11_remove_total (st : State) (root : Str) :
    ∃ st', step st (.remove root) = .ok st' ∧
      st'.services = st.services.filter (fun each => each.root != root) :=
  ⟨_, step_remove st root, rfl⟩

/-! ### the open finding, the repaired finding and the remaining clashes, on the model -/

section Witnesses

def wE : ReEnv := ⟨fun _ _ => true, fun _ _ => true⟩

def wSvc (id : Nat) (root : String) : Svc :=
  { svc := { id := id, root := root.toList,
             routes := [{ id := id, method := "GET".toList, relPath := "/x".toList, consumes := [], produces := [],
                          conds := [], noct := [] }] },
    dynamic := true }

deriving instance DecidableEq for Except

/-- what the four probes of the check observe for one request (`none`: the history panicked) -/
def observe (k : RouterKind) (ops : List Op) (req : Req) : Option Spec.Observed :=
  match run k ops with
  | .ok st => some ⟨answer wE st .dispatch req, answerOf wE (fresh (content st)) .dispatch req,
                    answer wE st .serveHTTP req, answerOf wE (fresh (content st)) .serveHTTP req⟩
  | .error _ => none

def get (p : String) : Req := { method := "GET".toList, path := p.toList }

/-- F10b: `Handle(/health)`, `Add(/a)`, `Remove(/a)` — the history is in the class, does not panic,
    the fresh container can be built, and `GET /health` through `ServeHTTP` is a 404 of the mux in the
    history-built container while the fresh container runs the plain handler: `c11Holds` is false. -/
theorem C11_F10b_witness :
    let ops : List Op := [.handle "/health".toList 7, .add (wSvc 1 "/a"), .remove "/a".toList]
    let obs : Spec.Observed := ⟨.routed (.error 404 none), .routed (.error 404 none), .notFound, .plain 7⟩
    Spec.F10b ops = true ∧ observe .curly ops (get "/health") = some obs ∧ Spec.c11Holds obs = false := by
  decide_lits [wSvc, get]

/-- a service whose one route sits on the root path itself -/
def rSvc (id : Nat) (root : String) : Svc :=
  { svc := { id := id, root := root.toList,
             routes := [{ id := id, method := "GET".toList, relPath := [], consumes := [], produces := [],
                          conds := [], noct := [] }] },
    dynamic := true }

/-- The witness of finding F11 (repair 093fa53), on which the property holds:
    `Add(/users)`, `Add(/users/{id}/b)`, in both orders, lies in the class `Spec.F11`, does
    not panic, registers the two shared patterns once, and `GET /users/7/b` reaches the second
    service through `ServeHTTP` and `Dispatch`, in the history-built and in the fresh container;
    `GET /users/x` reaches the first.  Likewise `Add(/a)`, `Add(/a/)` in both orders (the
    routers rank the two roots equally: the first registered answers `/a/x`, in the fresh container
    as well). -/
theorem C11_F11_fixed :
    let u1 := wSvc 1 "/users"
    let u2 := rSvc 2 "/users/{id}/b"
    let a1 := wSvc 1 "/a"
    let a2 := wSvc 2 "/a/"
    let hit2 : Answer := .routed (.selected 2 2 [("id".toList, "7".toList)])
    let hit1 : Answer := .routed (.selected 1 1 [])
    let sel2 : Answer := .routed (.selected 2 2 [])
    Spec.distinctB (roots [u1, u2]) = true ∧ Spec.F11 (roots [u1, u2]) = true ∧ Spec.F11 (roots [u2, u1]) = true ∧
    (run .curly [.add u1, .add u2]).toOption.map (·.mux) = some [dispE "/users".toList, dispE "/users/".toList] ∧
    (run .curly [.add u2, .add u1]).toOption.map (·.mux) = some [dispE "/users/".toList, dispE "/users".toList] ∧
    Spec.c11AddTotalHolds (roots [u1, u2]) [] false = true ∧
    observe .curly [.add u1, .add u2] (get "/users/7/b") = some ⟨hit2, hit2, hit2, hit2⟩ ∧
    observe .curly [.add u2, .add u1] (get "/users/7/b") = some ⟨hit2, hit2, hit2, hit2⟩ ∧
    observe .jsr [.add u1, .add u2] (get "/users/7/b") = some ⟨hit2, hit2, hit2, hit2⟩ ∧
    observe .curly [.add u1, .add u2] (get "/users/x") = some ⟨hit1, hit1, hit1, hit1⟩ ∧
    Spec.distinctB (roots [a1, a2]) = true ∧ Spec.F11 (roots [a1, a2]) = true ∧ Spec.F11 (roots [a2, a1]) = true ∧
    (run .curly [.add a1, .add a2]).toOption.map (·.mux) = some [dispE "/a".toList, dispE "/a/".toList] ∧
    (run .curly [.add a2, .add a1]).toOption.map (·.mux) = some [dispE "/a/".toList, dispE "/a".toList] ∧
    observe .curly [.add a1, .add a2] (get "/a/x") = some ⟨hit1, hit1, hit1, hit1⟩ ∧
    observe .curly [.add a2, .add a1] (get "/a/x") = some ⟨sel2, sel2, sel2, sel2⟩ := by
  decide_lits [wSvc, rSvc, get]

/-- the same collision inside `Remove` (`/` shields the two services until it is removed): the
    rebuild registers the shared patterns once and the probes agree -/
theorem C11_F11_remove_fixed :
    let ops : List Op := [.add (wSvc 0 "/"), .add (wSvc 1 "/users"), .add (rSvc 2 "/users/{id}/b"), .remove "/".toList]
    let hit2 : Answer := .routed (.selected 2 2 [("id".toList, "7".toList)])
    (run .curly ops).toOption.map (·.mux) = some [dispE "/users".toList, dispE "/users/".toList] ∧
    observe .curly ops (get "/users/7/b") = some ⟨hit2, hit2, hit2, hit2⟩ := by
  decide_lits [wSvc, rSvc, get]

/-- what panics, and must (the ServeMux's own rule, documented behaviour of `Handle`): a plain
    handler on a pattern that a later WebService needs, and a `Handle` on a pattern a WebService
    registered; also behind a shared prefix (`/a` is there, `Handle(/a/b)`, then `Add(/a/b)`).  A root
    path twice is the `os.Exit(1)` of `Add`.  These are the outcomes the hypotheses of
    `C11_add_after_history` exclude and `C11_add_panics_only` lists. -/
theorem C11_registration_clash_witness :
    run .curly [.handle "/a/".toList 7, .add (wSvc 1 "/a")] = .error (.mux (.multiple "/a/".toList)) ∧
    run .curly [.add (wSvc 1 "/a"), .handle "/a/".toList 7] = .error (.mux (.multiple "/a/".toList)) ∧
    run .curly [.add (wSvc 1 "/a"), .handle "/a/b".toList 7, .add (wSvc 2 "/a/b")] = .error (.mux (.multiple "/a/b".toList)) ∧
    run .curly [.add (wSvc 1 "/a"), .add (wSvc 2 "/a")] = .error .exit ∧
    Spec.c11AddTotalHolds (roots [wSvc 1 "/a"]) ["/a/".toList] true = true ∧
    Spec.c11AddTotalHolds (roots [wSvc 1 "/a", wSvc 2 "/a"]) [] true = true := by
  decide +kernel

/-- non-vacuity of `C11_serve_partial` / `C11_partial`: a history with every kind of operation, outside
    the class of F10b, that does not panic; the removed service and the removed route are unreachable,
    the remaining route, the later route and the plain handler answer, through both entry points and
    in the fresh container alike; the mux redirects `/c` and an unclean path. -/
example :
    let r2 : RouteDecl := { id := 20, method := "GET".toList, relPath := "/y/{v}".toList, consumes := [], produces := [],
                            conds := [], noct := [] }
    let ops : List Op := [.add (wSvc 1 "/a"), .add (wSvc 2 "/a/b"), .add (wSvc 3 "/c/{id}"), .remove "/a".toList,
      .route "/a/b".toList r2, .removeRoute "/a/b".toList "/a/b/x".toList "GET".toList, .handle "/static/".toList 9]
    let nf : Answer := .routed (.error 404 none)
    let sel2 : Answer := .routed (.selected 2 20 [("v".toList, "1".toList)])
    let sel3 : Answer := .routed (.selected 3 3 [("id".toList, "5".toList)])
    Spec.F10b ops = false ∧
    observe .curly ops (get "/a/x") = some ⟨nf, nf, .notFound, .notFound⟩ ∧
    observe .curly ops (get "/a/b/x") = some ⟨nf, nf, nf, nf⟩ ∧
    observe .curly ops (get "/a/b/y/1") = some ⟨sel2, sel2, sel2, sel2⟩ ∧
    observe .curly ops (get "/c/5/x") = some ⟨sel3, sel3, sel3, sel3⟩ ∧
    observe .curly ops (get "/static/app.js") = some ⟨nf, nf, .plain 9, .plain 9⟩ ∧
    observe .curly ops (get "/c") = some ⟨nf, nf, .redirect "/c/".toList, .redirect "/c/".toList⟩ ∧
    observe .curly ops (get "/c/5/../5/x") = some ⟨nf, nf, .redirect "/c/5/x".toList, .redirect "/c/5/x".toList⟩ := by
  decide_lits [wSvc, get]

/-- non-vacuity of `C11_serve_partial` inside the class of finding F11:
    three services wanting `/a/`, one of them removed, a plain handler below the
    shared prefix, a fourth service that finds both of its patterns mapped — outside the class of
    F10b, no panic, one ServeMux pattern for all, and every probe answered alike -/
example :
    let ops : List Op := [.add (wSvc 1 "/a"), .add (wSvc 3 "/a/{id}"), .add (wSvc 2 "/a/"), .remove "/a".toList,
      .handle "/a/plain".toList 9, .add (wSvc 4 "/a/{id}/b")]
    let nf : Answer := .routed (.error 404 none)
    let sel3 : Answer := .routed (.selected 3 3 [("id".toList, "5".toList)])
    let sel4 : Answer := .routed (.selected 4 4 [("id".toList, "5".toList)])
    Spec.F10b ops = false ∧
    Spec.F11 ["/a/{id}".toList, "/a/".toList, "/a/{id}/b".toList] = true ∧
    (run .curly ops).toOption.map (fun st => keys st.mux) = some ["/a/".toList, "/a/plain".toList] ∧
    observe .curly ops (get "/a/5/x") = some ⟨sel3, sel3, sel3, sel3⟩ ∧
    observe .curly ops (get "/a/5/b/x") = some ⟨sel4, sel4, sel4, sel4⟩ ∧
    observe .curly ops (get "/a/plain") = some ⟨nf, nf, .plain 9, .plain 9⟩ ∧
    observe .curly ops (get "/a") = some ⟨nf, nf, .redirect "/a/".toList, .redirect "/a/".toList⟩ := by
  decide_lits [wSvc, get]

/-- non-vacuity of `C11_add_total`: roots sharing prefixes, differing by a variable or a trailing
    slash (the class of F11: several services want `/a/`), and `/` -/
example :
    let svcs : List Svc := [wSvc 1 "/a", wSvc 2 "/ab", wSvc 3 "/a/b", wSvc 4 "/b/{x}", wSvc 5 "/c/d/", wSvc 8 "/a/",
      wSvc 9 "/a/{id}/b", wSvc 6 "/", wSvc 7 "/a/{id}"]
    Spec.distinctB (roots svcs) = true ∧ Spec.F11 (roots svcs) = true ∧
    (run .jsr (svcs.map .add)).toOption.map (·.services) = some svcs ∧
    (run .jsr (svcs.map .add)).toOption.map (fun st => keys st.mux) =
      some (["/a", "/a/", "/ab", "/ab/", "/a/b", "/a/b/", "/b/", "/c/d/", "/"].map String.toList) := by
  decide +kernel

/-- non-vacuity of `C11_add_after_history` / `C11_add_panics_only`: after a history with a `Remove`
    and a live plain handler, a service sharing the prefix of a present one is added; a service on
    the plain handler's pattern is refused -/
example :
    let ops : List Op := [.add (wSvc 1 "/a"), .add (wSvc 2 "/b"), .remove "/b".toList, .handle "/c/".toList 9]
    (run .curly ops).toOption.map (fun st => (roots st.services, st.live, st.onRoot)) =
      some (["/a".toList], [("/c/".toList, 9)], false) ∧
    (run .curly (ops ++ [.add (wSvc 3 "/a/{id}")])).toOption.map (fun st => keys st.mux) =
      some (["/a", "/a/", "/c/"].map String.toList) ∧
    run .curly (ops ++ [.add (wSvc 4 "/c")]) = .error (.mux (.multiple "/c/".toList)) := by
  decide +kernel

end Witnesses

/-! The frame condition (Lemmas/StateShape.lean): the code has exactly the state this property's model
    accounts for — no further package-level variable, struct type or field; constants as modelled. -/
-- also: Restful.StateShape.globals_shape
-- also: Restful.StateShape.consts_shape
-- also: Restful.StateShape.container_shape

end Props
end Restful

-- the imperative functions this property's model rests on, tied to their statement-by-statement
-- translation (tools/goimp, Gen/Imp.lean, regenerated on every run):
-- also: Restful.TieImp.T2.fixed_prefix_path
-- also: Restful.TieImp.add_handler
-- also: Restful.TieImp.remove_route
-- also: Restful.TieImp.build_route
-- also: Restful.TieImp.copy_defaults
-- also: Restful.TieImp.build_route_no_function
-- also: Restful.TieImp.container_add
-- also: Restful.TieImp.web_service_path
