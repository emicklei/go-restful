/-
C05 — the written entity's media type is produced by the route and best for Accept.

`Mime.entityWriter a P reg d` is the model of `Response.EntityWriter` (response.go:84) for a request
whose raw Accept header value is `a` ("" when absent), on a route that Produces `P`, with the
registry keys `reg` and `DefaultResponseMimeType = d`; it returns the writer as a list: `[]` means
406, otherwise any two elements are equal (`C05_function` — since the repair 8b400b4 of /repo the reverse lookup of
`accessorAt` is a function of the value: the registered key that occurs first in it, the longest of
those that start there, whatever the iteration order of the Go map).  It is tied to /repo by
the correspondence stream `mime`.  `Spec.best` / `Spec.c05Holds` are the property; the same
`c05Holds` is evaluated by the driver on what the real code answered.

Quantifier (`Spec.wfMime P reg`): `P` non-empty, every produced type has a registered writer, media
types are non-empty, free of `,` `;` space and tab, and are not `*/*`.  `Mime.routerAdmits a P` is
the router's own Accept test (`detectRoute` + `matchesAccept`): a handler only ever writes an
entity for a request that passed it.

One class of requests on which the code violates the property (the hypothesis the proofs force;
witnesses below, replayed on the real code by the check on every run):

  F07b (`Spec.F07b a P reg`): a non-empty header that the router admits although none of its
  well-formed ranges is satisfiable.  By `C05_F07b_class` an element the router admitted on carries
  an unparsable q (the router ignores q, `sortedMimes` drops the range).  What the code does there
  is a function of the request (`C05_F07b_inside`) and not what the property demands:
  `accessorAt(<raw header>)` answers with the registered key that occurs first in the raw header,
  produced or not (`C05_F07b_witness`; where that key is produced the property holds,
  `C05_F07b_key_produced`, `C05_F07b_order_fixed`); when no registered key occurs in the header the
  default type answers (response.go:107-131), possibly not produced or without a writer
  (`C05_F07b_witness_default`, `C05_F07b_witness_zip`).

  F07 (`Spec.F07`: no Accept header ∧ DefaultResponseMimeType ∈ {JSON, XML, ZIP}) is not such a
  class: since the repair d89a7d4 of /repo `EntityWriter` ranks a missing header as `*/*`, as the
  router does, so the default type does not override Produces (`C05_absent_accept`; two such
  requests in `C05_F07_fixed`).  `Spec.F07` is a coverage class of the check only.

The full statements, false only because of F07b:
  C05_member   : wfMime P reg → routerAdmits a P → ∀ m ∈ entityWriter a P reg d, m ∈ P ∧ m ∈ reg
  C05_best     : wfMime P reg → routerAdmits a P → ∃ b, best a P reg = some b ∧ entityWriter a P reg d = [b]
They are proved under ¬F07b (`C05_member_partial`, `C05_best_partial`, and with them
`C05_holds_partial`, `C05_no406_partial`).  Without that hypothesis: `C05_function`, `C05_no406` (needs
only that the default type, when set, has a writer — false for MIME_ZIP on a stock registry),
`C05_absent_accept`, `C05_ows`, `C05_ows_writer`, `C05_ows_writer_admitted`.
-/
import Restful.Lemmas.Mime
import Restful.Lemmas.MimeOWS
import Restful.Lemmas.MimeClass
import Restful.Lemmas.StateShape
import Restful.Lemmas.TieMime
import Restful.Lemmas.TieImpNegotiate
import Restful.Lemmas.DecideLits
namespace Restful
namespace Props
open Str Mime

/-- what `EntityWriter` returns outside F07b: exactly the representation the property demands -/
theorem C05_best_partial (a : Str) (P reg : List Str) (d : Str)
    (hwf : Spec.wfMime P reg = true) (hadm : routerAdmits a P = true)
    (h07b : Spec.F07b a P reg = false) :
    ∃ b, Spec.best a P reg = some b ∧ entityWriter a P reg d = [b] := by
  have h := wf_of hwf
  obtain ⟨b, hb⟩ := best_isSome_of h hadm h07b
  exact ⟨b, hb, by rw [entityWriter_spec h, hb]⟩

/-- the Content-Type is a produced type that has a registered writer -/
theorem C05_member_partial (a : Str) (P reg : List Str) (d : Str)
    (hwf : Spec.wfMime P reg = true) (hadm : routerAdmits a P = true)
    (h07b : Spec.F07b a P reg = false) :
    ∀ m ∈ entityWriter a P reg d, m ∈ P ∧ m ∈ reg := by
  have h := wf_of hwf
  obtain ⟨b, hb⟩ := best_isSome_of h hadm h07b
  intro m hm
  rw [entityWriter_spec h, hb, List.mem_singleton] at hm
  exact hm ▸ ⟨best_mem h hb, h.sub b (best_mem h hb)⟩

/-- no Accept header (which the router admits on every route): the writer is the first produced
    type, whatever `DefaultResponseContentType` says, and that is what the property demands
    (`*/*`), for every route of the quantifier (the class F07). -/
theorem C05_absent_accept (P reg : List Str) (d : Str) (hwf : Spec.wfMime P reg = true) :
    routerAdmits [] P = true ∧ Spec.best [] P reg = P.head? ∧ entityWriter [] P reg d = P.head?.toList := by
  have h := wf_of hwf
  rw [entityWriter_spec h, best_nil h, head?_eq_headD h.ne]
  exact ⟨rfl, rfl, rfl⟩

/-- the entity writer never answers 406 on a route of the quantifier (a fortiori not for a request
    the router admitted on Accept grounds) — holds inside F07b as well -/
theorem C05_no406 (a : Str) (P reg : List Str) (d : Str)
    (hwf : Spec.wfMime P reg = true) (hd : Spec.defaultOK reg d = true) :
    entityWriter a P reg d ≠ [] := by
  rw [entityWriter_spec (wf_of hwf)]
  split
  · exact List.cons_ne_nil _ _
  split
  · assumption
  split
  · rename_i hs
    have hmem : d ∈ reg := by simpa [Spec.defaultOK, hs] using hd
    rw [accessorAt_of_mem hmem]
    exact List.cons_ne_nil _ _
  · exact List.cons_ne_nil _ _

/-- with `routerAdmits` as in the statement of the property -/
theorem C05_no406_admitted (a : Str) (P reg : List Str) (d : Str)
    (hwf : Spec.wfMime P reg = true) (hd : Spec.defaultOK reg d = true) (_hadm : routerAdmits a P = true) :
    entityWriter a P reg d ≠ [] := C05_no406 a P reg d hwf hd

/-- The same request always gets the same representation: whatever the iteration order of the
    registry map, there is one possible writer.  Since the repair 8b400b4 of /repo this holds of every header (inside
    F07b as well), every Produces list and registry (no well-formedness needed), every default. -/
theorem C05_function (a : Str) (P reg : List Str) (d : Str) :
    ∀ m ∈ entityWriter a P reg d, ∀ m' ∈ entityWriter a P reg d, m = m' :=
  entityWriter_function a P reg d

/-- What the code answers inside F07b: the registered key that the reverse lookup finds in the raw
    header value — it occurs there, no registered key occurs earlier, none that starts at the same
    position is longer (`Str.firstLongest`; an exact key cannot be: a header inside F07b has a `;`)
    —, and, when no registered key occurs in the header at all, the default type's writer (406 if
    it has none), the first produced type if no default is set. -/
theorem C05_F07b_inside (a : Str) (P reg : List Str) (d : Str) (hwf : Spec.wfMime P reg = true)
    (h07b : Spec.F07b a P reg = true) :
    (accessorAt reg a ≠ [] → entityWriter a P reg d = accessorAt reg a) ∧
    (accessorAt reg a = [] →
      entityWriter a P reg d = if defaultSet d = true then accessorAt reg d else [P.headD []]) ∧
    (∀ k ∈ reg, containsSub k a = true → accessorAt reg a ≠ []) ∧
    (a ∉ reg → ∀ k ∈ accessorAt reg a, k ∈ reg ∧ firstLongest reg a k = true) := by
  rw [entityWriter_spec (wf_of hwf), (F07b_iff.mp h07b).2.2]
  refine ⟨fun hk => if_pos hk, fun hk => if_neg (not_not_intro hk),
    fun k hk hc => accessorAt_ne_nil_of_contains hk hc, fun ha k hk => ?_⟩
  rw [accessorAt, if_neg (by simpa using ha)] at hk
  exact List.mem_filter.mp hk

/-- … hence the property HOLDS on the part of F07b where the key that occurs first in the raw
    header is a produced type (no well-formed range being satisfiable, the property demands no more
    than a produced type with a writer, the same on every dispatch) -/
theorem C05_F07b_key_produced (a : Str) (P reg : List Str) (d : Str) (hwf : Spec.wfMime P reg = true)
    (h07b : Spec.F07b a P reg = true) (k : Str) (hk : k ∈ accessorAt reg a) (hP : k ∈ P)
    (obs : List Spec.MimeObs) (hobs : ∀ o ∈ obs, ∃ m ∈ entityWriter a P reg d, o = .ct m) :
    Spec.c05Holds a P reg obs = true := by
  have hw := (C05_F07b_inside a P reg d hwf h07b).1 (List.ne_nil_of_mem hk)
  exact c05Holds_of_writer (wf_of hwf) (hw ▸ hk) hP (.inl (F07b_iff.mp h07b).2.2) hobs

/-- optional whitespace next to `,` `;` and a parameter's `=` is irrelevant: the ranked list of ranges
    is a function of the whitespace-free normal form of the header (all headers, no hypothesis) -/
theorem C05_ows (a a' : Str) (h : dropOWS a = dropOWS a') : sortedMimes a = sortedMimes a' := by
  rw [← sortedMimes_dropOWS a, ← sortedMimes_dropOWS a', h]

/-- … hence the same writer, whenever the walk over the ranges decides (i.e. outside the fallback
    `accessorAt(<raw header>)`, which F07b is about).  A missing header is ranked as `*/*`, a header of
    blanks is not: the two headers are both present or both absent. -/
theorem C05_ows_writer (a a' : Str) (P reg : List Str) (d : Str) (h : dropOWS a = dropOWS a')
    (hE : a.isEmpty = a'.isEmpty)
    (hdec : walk reg P (sortedMimes (if a.isEmpty then starStar else a)) ≠ []) :
    entityWriter a P reg d = entityWriter a' P reg d := by
  have he : sortedMimes (if a.isEmpty then starStar else a) = sortedMimes (if a'.isEmpty then starStar else a') := by
    rw [← hE]
    split
    · rfl
    · exact C05_ows a a' h
  rw [entityWriter_eq, entityWriter_eq, ← he, if_pos hdec, if_pos hdec]

/-- two spellings of one header that the router both admits get the same writer whenever the walk
    decides: an admitted header is never a string of blanks, so both are present or both absent -/
theorem C05_ows_writer_admitted (a a' : Str) (P reg : List Str) (d : Str)
    (hwf : Spec.wfMime P reg = true) (hadm : routerAdmits a P = true) (hadm' : routerAdmits a' P = true)
    (h : dropOWS a = dropOWS a')
    (hdec : walk reg P (sortedMimes (if a.isEmpty then starStar else a)) ≠ []) :
    entityWriter a P reg d = entityWriter a' P reg d :=
  C05_ows_writer a a' P reg d h (isEmpty_eq_of_admitted (wf_of hwf) hadm hadm' h) hdec

/-- the theorems above in the form the driver evaluates: whatever sequence of answers the model
    allows for repeated dispatches satisfies `Spec.c05Holds` -/
theorem C05_holds_partial (a : Str) (P reg : List Str) (d : Str)
    (hwf : Spec.wfMime P reg = true) (hadm : routerAdmits a P = true)
    (h07b : Spec.F07b a P reg = false)
    (obs : List Spec.MimeObs) (hobs : ∀ o ∈ obs, ∃ m ∈ entityWriter a P reg d, o = .ct m) :
    Spec.c05Holds a P reg obs = true := by
  have h := wf_of hwf
  obtain ⟨b, hb, hw⟩ := C05_best_partial a P reg d hwf hadm h07b
  exact c05Holds_of_writer h (hw ▸ List.mem_cons_self) (best_mem h hb) (.inr hb) hobs

/-- no 406 outside F07b, without assuming that the default type has a writer -/
theorem C05_no406_partial (a : Str) (P reg : List Str) (d : Str)
    (hwf : Spec.wfMime P reg = true) (hadm : routerAdmits a P = true)
    (h07b : Spec.F07b a P reg = false) :
    entityWriter a P reg d ≠ [] := by
  obtain ⟨b, _, hw⟩ := C05_best_partial a P reg d hwf hadm h07b
  exact hw ▸ List.cons_ne_nil _ _

/-! ### F07 holds, F07b does not: witnesses on the model

The registry of the witnesses is the one the harness sets up (built-in JSON and XML plus four custom
registrations), so the check replays exactly these cases on the real code. -/

/-- Two requests of the class F07, answered as the property demands since the repair d89a7d4 of
    /repo.  No Accept header, default JSON, route produces only XML: the writer is XML, not the
    default, which is not produced.  Default ZIP, for which no writer is registered, route produces
    only JSON: the writer is JSON, not a 406.  Both requests are outside F07b, i.e. they meet every
    hypothesis of the partial theorems. -/
theorem C05_F07_fixed :
    let reg := harnessReg
    (Spec.wfMime [mimeXML] reg = true ∧ routerAdmits [] [mimeXML] = true ∧ Spec.F07b [] [mimeXML] reg = false ∧
      Spec.best [] [mimeXML] reg = some mimeXML ∧
      entityWriter [] [mimeXML] reg mimeJSON = [mimeXML] ∧
      Spec.c05Holds [] [mimeXML] reg [.ct mimeXML, .ct mimeXML, .ct mimeXML] = true ∧
      Spec.c05Holds [] [mimeXML] reg [.ct mimeJSON, .ct mimeJSON, .ct mimeJSON] = false) ∧
    (Spec.wfMime [mimeJSON] reg = true ∧ Spec.defaultOK reg mimeZIP = false ∧ routerAdmits [] [mimeJSON] = true ∧
      Spec.F07b [] [mimeJSON] reg = false ∧
      entityWriter [] [mimeJSON] reg mimeZIP = [mimeJSON] ∧
      Spec.c05Holds [] [mimeJSON] reg [.ct mimeJSON] = true ∧
      Spec.c05Holds [] [mimeJSON] reg [.notAcceptable] = false) := by
  decide_lits [harnessReg, mimeJSON, mimeXML, mimeZIP]

/-- F07b: `Accept: application/xml,application/json;q=x` on a JSON-only route: the router admits it
    on its second element (it ignores q), that element — the only satisfiable one — is dropped for
    its unparsable q, and the writer is the registered key that occurs first in the raw header
    (`application/xml`, at position 0; `application/x` starts there too and is shorter;
    `application/json` occurs later): a type the route does not produce, on every dispatch -/
theorem C05_F07b_witness :
    let a := "application/xml,application/json;q=x".toList
    let P := [mimeJSON]; let reg := harnessReg
    Spec.wfMime P reg = true ∧ Spec.defaultOK reg [] = true ∧ routerAdmits a P = true ∧
      Spec.F07b a P reg = true ∧ accessorAt reg a = [mimeXML] ∧
      entityWriter a P reg [] = [mimeXML] ∧ mimeXML ∉ P ∧
      Spec.c05Holds a P reg [.ct mimeXML, .ct mimeXML, .ct mimeXML] = false := by
  decide_lits [harnessReg, mimeJSON, mimeXML]

/-- `Accept: application/json;q=x,application/xml` on a JSON-only route is inside F07b as well (the
    only satisfiable range is dropped), but here the raw-header lookup finds `application/json`,
    the key that occurs first: produced, the same on every dispatch, the predicate holds.  Two more
    registered keys occur in the header, `application/xml` and `application/x`; a lookup in map
    iteration order (the code before the repair 8b400b4 of /repo) could answer with either, and the
    predicate rejects both, as it rejects two dispatches that differ. -/
theorem C05_F07b_order_fixed :
    let a := "application/json;q=x,application/xml".toList
    let P := [mimeJSON]; let reg := harnessReg
    Spec.wfMime P reg = true ∧ routerAdmits a P = true ∧ Spec.F07b a P reg = true ∧
      (reg.filter (fun k => containsSub k a)) = [mimeJSON, mimeXML, "application/x".toList] ∧
      accessorAt reg a = [mimeJSON] ∧ entityWriter a P reg [] = [mimeJSON] ∧
      Spec.c05Holds a P reg [.ct mimeJSON, .ct mimeJSON, .ct mimeJSON] = true ∧
      Spec.c05Holds a P reg [.ct mimeXML, .ct mimeXML, .ct mimeXML] = false ∧
      Spec.c05Holds a P reg [.ct "application/x".toList] = false ∧
      Spec.c05Holds a P reg [.ct mimeJSON, .ct mimeXML, .ct mimeJSON] = false := by
  decide_lits [harnessReg, mimeJSON, mimeXML]

/-- inside F07b the default type overrides Produces (`*/*;q=x`, default JSON, XML-only route):
    what the repair of F07 did for a missing header is not done for a wildcard with an unparsable q -/
theorem C05_F07b_witness_default :
    let a := "*/*;q=x".toList
    let P := [mimeXML]; let reg := harnessReg
    Spec.wfMime P reg = true ∧ Spec.defaultOK reg mimeJSON = true ∧ routerAdmits a P = true ∧ Spec.F07b a P reg = true ∧
      entityWriter a P reg mimeJSON = [mimeJSON] ∧ mimeJSON ∉ P ∧
      Spec.c05Holds a P reg [.ct mimeJSON, .ct mimeJSON, .ct mimeJSON] = false := by
  decide_lits [harnessReg, mimeJSON, mimeXML]

/-- inside F07b with `DefaultResponseContentType(MIME_ZIP)` and no zip writer registered the entity
    writer even answers 406 to a request the router admitted (why `C05_no406` assumes `defaultOK`) -/
theorem C05_F07b_witness_zip :
    let a := "*/*;q=x".toList
    let P := [mimeJSON]; let reg := harnessReg
    Spec.wfMime P reg = true ∧ Spec.defaultOK reg mimeZIP = false ∧ routerAdmits a P = true ∧
      Spec.F07b a P reg = true ∧ entityWriter a P reg mimeZIP = [] ∧
      Spec.c05Holds a P reg [.notAcceptable] = false := by
  decide_lits [harnessReg, mimeJSON, mimeXML, mimeZIP]

/-- what the class F07b consists of: the header has an element on which the router admits the request
    (its media type is `*/*` or produced) whose quality does not parse, so `sortedMimes` drops it.
    A header all of whose q-values are decimal numbers is never in F07b. -/
theorem C05_F07b_class (a : Str) (P reg : List Str) (hwf : Spec.wfMime P reg = true)
    (h07b : Spec.F07b a P reg = true) :
    ∃ piece ∈ split ',' a, (mediaOf piece = starStar ∨ mediaOf piece ∈ P) ∧ rangeOf piece = none := by
  have h := wf_of hwf
  obtain ⟨hne, hacc, hbest⟩ := F07b_iff.mp h07b
  obtain ⟨piece, hp, hm⟩ := acceptOK_piece h hne hacc
  refine ⟨piece, hp, hm, ?_⟩
  -- a range parsed from `piece` would be satisfiable, and `best` would not be `none`
  cases hr : rangeOf piece with
  | none => rfl
  | some m =>
    rw [best_eq, hne, List.findSome?_eq_none_iff] at hbest
    have hres := hbest m (mem_sortedMimes.mpr (List.mem_filterMap.mpr ⟨piece, hp, hr⟩))
    rw [resolve_eq h, rangeOf_media hr, trimOWS_cutAtSemi h hm] at hres
    rcases hm with e | e
    · simp [e, h.ne] at hres
    · simp [e, show mediaOf piece ≠ starStar from fun e' => h.star_not_mem (e' ▸ e)] at hres

/-! ### non-vacuity: the theorems on instances that meet their hypotheses, and the predicate falsified -/
namespace C05Example

/-- three ranges with weights, parameters and optional whitespace; two produced types; three writers -/
def a : Str := "application/json ; level=1 ; q=0.5,\t*/* ;q= 0.8 , application/xml;q = 0.9".toList
def P : List Str := [mimeJSON, mimeXML]
def reg : List Str := [mimeJSON, mimeXML, "text/csv".toList]

theorem hwf : Spec.wfMime P reg = true := by decide_lits [P, reg, mimeJSON, mimeXML]
theorem hadm : routerAdmits a P = true := by decide_lits [a, P, mimeJSON, mimeXML]
theorem defaultOK_json : Spec.defaultOK reg mimeJSON = true := by simp [Spec.defaultOK, reg]
/-- XML (q=0.9) beats `*/*` (q=0.8) and JSON (q=0.5) -/
theorem best_xml : Spec.best a P reg = some mimeXML := by decide_lits [a, P, reg, mimeJSON, mimeXML]
theorem h07b : Spec.F07b a P reg = false := by
  rw [Spec.F07b, best_xml]
  exact Bool.and_false _
theorem writer_xml (d : Str) : entityWriter a P reg d = [mimeXML] := by rw [entityWriter_spec (wf_of hwf), best_xml]

/-- two spellings of one header -/
def b : Str := "application/xml;q=0.2,application/json".toList
def b' : Str := " application/xml ;\tq = 0.2 ,  application/json\t".toList

/-- the hypotheses of `C05_ows`, `C05_ows_writer` and `C05_ows_writer_admitted` on `b`, `b'`: different
    spellings, one normal form, both present, both admitted, the walk decides -/
theorem spellings : b ≠ b' ∧ dropOWS b = dropOWS b' ∧ b.isEmpty = b'.isEmpty ∧
    Spec.wfMime [mimeXML, mimeJSON] [mimeJSON, mimeXML] = true ∧
    routerAdmits b [mimeXML, mimeJSON] = true ∧ routerAdmits b' [mimeXML, mimeJSON] = true ∧
    walk [mimeJSON, mimeXML] [mimeXML, mimeJSON] (sortedMimes (if b.isEmpty then starStar else b)) ≠ [] := by
  decide_lits [b, b', mimeJSON, mimeXML]

/-- a request meeting every hypothesis of the partial theorems, with ranking, parameters before q,
    optional whitespace and a wildcard at work: XML (q=0.9) beats `*/*` (q=0.8) and JSON (q=0.5) -/
example :
    let a := "application/json ; level=1 ; q=0.5,\t*/* ;q= 0.8 , application/xml;q = 0.9".toList
    let P := [mimeJSON, mimeXML]; let reg := [mimeJSON, mimeXML, "text/csv".toList]
    Spec.wfMime P reg = true ∧ Spec.defaultOK reg mimeJSON = true ∧ routerAdmits a P = true ∧
      Spec.F07b a P reg = false ∧
      Spec.best a P reg = some mimeXML ∧ entityWriter a P reg mimeJSON = [mimeXML] :=
  ⟨hwf, defaultOK_json, hadm, h07b, best_xml, writer_xml _⟩

/-- no Accept header and a default type that is produced, but not first: the first produced type
    (hypotheses of all partial theorems and of `C05_absent_accept`) -/
example :
    let P := [mimeXML, mimeJSON]; let reg := [mimeJSON, mimeXML]
    Spec.wfMime P reg = true ∧ routerAdmits [] P = true ∧ Spec.F07b [] P reg = false ∧
      entityWriter [] P reg [] = [mimeXML] ∧ entityWriter [] P reg mimeJSON = [mimeXML] :=
  have ⟨_, _, _, hwf, _⟩ := spellings
  have h (d) := C05_absent_accept [mimeXML, mimeJSON] [mimeJSON, mimeXML] d hwf
  ⟨hwf, (h []).1, rfl, (h []).2.2, (h mimeJSON).2.2⟩

/-- C05_ows / C05_ows_writer(_admitted) are not vacuous: two different spellings of one header with one
    normal form, both present, both admitted, the walk decides -/
example :
    let a := "application/xml;q=0.2,application/json".toList
    let a' := " application/xml ;\tq = 0.2 ,  application/json\t".toList
    let P := [mimeXML, mimeJSON]; let reg := [mimeJSON, mimeXML]
    a ≠ a' ∧ dropOWS a = dropOWS a' ∧ a.isEmpty = a'.isEmpty ∧ Spec.wfMime P reg = true ∧
      routerAdmits a P = true ∧ routerAdmits a' P = true ∧
      walk reg P (sortedMimes (if a.isEmpty then starStar else a)) ≠ [] :=
  spellings

/-- the side condition of C05_ows_writer is needed: the absent header and a header of one blank have
    the same normal form and (with a default set) different writers — but the router rejects the blank one -/
example :
    let P := [mimeXML]; let reg := [mimeJSON, mimeXML]
    dropOWS [] = dropOWS [' '] ∧ walk reg P (sortedMimes starStar) ≠ [] ∧
      entityWriter [] P reg mimeJSON = [mimeXML] ∧ entityWriter [' '] P reg mimeJSON = [mimeJSON] ∧
      routerAdmits [' '] P = false := by
  decide_lits [mimeJSON, mimeXML]

example : (split ',' a).length = 3 ∧ (Spec.C05.ranges a).length = 3 ∧ Spec.defaultOK reg mimeJSON = true ∧
    entityWriter a P reg mimeJSON = [mimeXML] :=
  ⟨by decide_lits [a], by decide_lits [a], defaultOK_json, writer_xml _⟩

example : ∃ b, Spec.best a P reg = some b ∧ entityWriter a P reg mimeJSON = [b] :=
  C05_best_partial a P reg mimeJSON hwf hadm h07b
example : ∀ m ∈ entityWriter a P reg mimeJSON, m ∈ P ∧ m ∈ reg :=
  C05_member_partial a P reg mimeJSON hwf hadm h07b
example : ∀ m ∈ entityWriter a P reg mimeJSON, ∀ m' ∈ entityWriter a P reg mimeJSON, m = m' :=
  C05_function a P reg mimeJSON
example : entityWriter a P reg mimeJSON ≠ [] := C05_no406 a P reg mimeJSON hwf defaultOK_json
example : entityWriter a P reg mimeJSON ≠ [] := C05_no406_admitted a P reg mimeJSON hwf defaultOK_json hadm
example : entityWriter a P reg mimeZIP ≠ [] := C05_no406_partial a P reg mimeZIP hwf hadm h07b
example : routerAdmits [] P = true ∧ Spec.best [] P reg = P.head? ∧ entityWriter [] P reg mimeXML = P.head?.toList :=
  C05_absent_accept P reg mimeXML hwf

/-- `C05_holds_partial` on three dispatches, each answered by the model's only possible writer -/
example : Spec.c05Holds a P reg [.ct mimeXML, .ct mimeXML, .ct mimeXML] = true :=
  C05_holds_partial a P reg mimeJSON hwf hadm h07b [.ct mimeXML, .ct mimeXML, .ct mimeXML] (by simp [writer_xml])

/-- on the same request (outside F07b) the predicate is falsified by: a produced type with a writer
    that is not the best one (JSON, q=0.5); a registered type that is not produced; a 406; anything
    else; two dispatches that differ -/
example :
    Spec.c05Holds a P reg [.ct mimeJSON] = false ∧
    Spec.c05Holds a P reg [.ct "text/csv".toList] = false ∧
    Spec.c05Holds a P reg [.notAcceptable] = false ∧
    Spec.c05Holds a P reg [.other] = false ∧
    Spec.c05Holds a P reg [.ct mimeXML, .ct mimeJSON] = false ∧
    Spec.c05Holds a P reg [.ct mimeXML, .ct mimeXML, .notAcceptable] = false := by
  decide_lits [a, P, reg, mimeJSON, mimeXML]

example : b ≠ b' ∧ sortedMimes b = sortedMimes b' ∧ (sortedMimes b).length = 2 :=
  ⟨spellings.1, C05_ows b b' spellings.2.1, by decide_lits [b]⟩
example : entityWriter b [mimeXML, mimeJSON] [mimeJSON, mimeXML] [] = entityWriter b' [mimeXML, mimeJSON] [mimeJSON, mimeXML] [] :=
  have ⟨_, hd, hE, _, _, _, hdec⟩ := spellings
  C05_ows_writer b b' _ _ [] hd hE hdec
example : entityWriter b [mimeXML, mimeJSON] [mimeJSON, mimeXML] [] = entityWriter b' [mimeXML, mimeJSON] [mimeJSON, mimeXML] [] :=
  have ⟨_, hd, _, hwf, hadm, hadm', hdec⟩ := spellings
  C05_ows_writer_admitted b b' _ _ [] hwf hadm hadm' hd hdec
/-- … and the common writer is JSON (q=1 beats q=0.2), not the first produced type -/
example : entityWriter b' [mimeXML, mimeJSON] [mimeJSON, mimeXML] [] = [mimeJSON] := by decide_lits [b', mimeJSON, mimeXML]

/-- `C05_F07b_class` on the header of `C05_F07b_witness` (its hypothesis `F07b = true` is satisfiable) -/
example : ∃ piece ∈ split ',' "application/xml,application/json;q=x".toList,
    (mediaOf piece = starStar ∨ mediaOf piece ∈ [mimeJSON]) ∧ rangeOf piece = none := by
  obtain ⟨hwf, _, _, h07b, _⟩ := C05_F07b_witness
  exact C05_F07b_class _ _ _ hwf h07b

/-- `C05_F07b_inside` on the headers of the witnesses (a key occurs / none does), and
    `C05_F07b_key_produced` on the header of `C05_F07b_order_fixed` (all hypotheses satisfiable) -/
example : entityWriter "application/xml,application/json;q=x".toList [mimeJSON] harnessReg [] =
    accessorAt harnessReg "application/xml,application/json;q=x".toList := by
  obtain ⟨hwf, _, _, h07b, hacc, _⟩ := C05_F07b_witness
  exact (C05_F07b_inside _ _ _ [] hwf h07b).1 (hacc ▸ List.cons_ne_nil _ _)
example : entityWriter "*/*;q=x".toList [mimeXML] harnessReg mimeJSON =
    if defaultSet mimeJSON = true then accessorAt harnessReg mimeJSON else [[mimeXML].headD []] := by
  obtain ⟨hwf, _, _, h07b, _⟩ := C05_F07b_witness_default
  exact (C05_F07b_inside _ _ _ mimeJSON hwf h07b).2.1 (by decide_lits [harnessReg, mimeJSON, mimeXML])
example : Spec.c05Holds "application/json;q=x,application/xml".toList [mimeJSON] harnessReg [.ct mimeJSON, .ct mimeJSON] = true := by
  obtain ⟨hwf, _, h07b, _, hacc, hw, _⟩ := C05_F07b_order_fixed
  refine C05_F07b_key_produced _ _ _ [] hwf h07b mimeJSON (hacc ▸ List.mem_cons_self) List.mem_cons_self _ ?_
  rw [hw]
  simp

end C05Example

/-! The frame condition (Lemmas/StateShape.lean): the code has exactly the state this property's model
    accounts for — no further package-level variable, struct type or field; constants as modelled. -/
-- also: Restful.StateShape.globals_shape
-- also: Restful.StateShape.consts_shape
-- also: Restful.StateShape.response_shape
-- also: Restful.StateShape.entity_shape

/-! The regenerated tie (tools/gotrans → Gen/Translated.lean, Lemmas/Tie*.lean): `trimOWS` of this
    property's model IS the one translated from mime.go on this run (`strings.Trim` with the cutset
    `" \t"`). -/
-- also: Restful.Tie.mime_trim_ows

end Props
end Restful

-- the ties of the imperative functions under this model to their translation (tools/goimp, Gen/Imp.lean):
-- also: Restful.TieImp.insert_mime
-- also: Restful.TieImp.sorted_mimes
-- also: Restful.TieImp.entity_writer
