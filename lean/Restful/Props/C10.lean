/-
C10 — a panic anywhere in the chain becomes one 500 and leaves the container usable.

`Serve.serve` is the model of one request through one entry point (container.go `dispatch`,
`ServeHTTP`, `Handle`, `HandleWithFilter`; tied to /repo by the correspondence stream `serve`);
`Spec.c10Holds` is the property as a predicate on an observation, evaluated by the driver on what the
real code did and here (`Spec.obsOf`) on what the model does.

The proofs (Restful/Lemmas/Panic.lean) compare the run with the one without coding and recovery:
the panic a request raises is a function `Serve.Panic.raised` of routing, filter kinds and scripts
alone, and up to that panic the client of the real run sees what the other run's recorder holds.

What `c10Holds` demands of the recover handler, besides "nothing escapes":
* the CALL COUNT whichever handler is installed: `o.recov + o.recovDefault` is 1 iff a panic is raised.
  A custom handler of the harness counts its own calls (`recov`); the calls of the library's own
  handler `logStackOnRecover` are counted by the harness through the package logger (one
  "recover from panic situation" entry per call, `recovDefault`); with a custom handler installed
  the library's must not run at all.  The model's observation (`Spec.obsOf`) counts every call in
  `recov`.
* the BODY the client sees after a recovered panic (`Spec.c10Body`): with a custom handler exactly
  what had been written when the panic was raised — the body of the run without coding and recovery,
  NOT the model's own answer to the request — followed by the writes of the handler's script
  (`Spec.scriptWrites`), decoded from a complete stream when the response is coded (`C10_body`);
  with the library's handler what had been written is a prefix and something follows (the stack
  text is not comparable, `C10_body_default`).  Where what had been written contains a message text
  of the library's own service-error writer (which no property compares) only the end of the body
  (custom handler) resp. its non-emptiness is demanded.

Scope of recovery (`Serve.Panic.covered`, the same Boolean as `covered` in `Spec.c10Holds`): the
chains the framework builds — routed requests (`Dispatch`, `ServeHTTP` → `dispatch`) and
`HandleWithFilter` when there are container filters.  A plain `http.Handler` registered with
`Handle`, or with `HandleWithFilter` on a container without filters (then it is called directly),
is neither a filter nor a route function: its panic propagates (`C10_plain_propagates`).

The chain `HandleWithFilter` builds has the same deferred recover as `dispatch` (finding F18,
repaired by a0e838d of /repo); `Spec.f18Class` is constantly `false` and kept only for the driver
protocol.  `C10_recovery` holds for ALL entry points without any finding hypothesis; `C10_on`,
`C10_status`, `C10_status_default` speak of every covered entry point; `C10_F18_fixed` is the
configuration that exhibited F18.

One restriction of the *spec* (not a claim about the code): `Serve.runRecover` drops a panic
raised by the custom recover script, while `Spec.recoverStatus` looks past a `.panic` act for the
script's first `writeHeader`.  For a recover script that panics before its first
`write`/`writeHeader` the status clause of `c10Holds` is therefore false on the model
(`C10_recover_handler_panics_witness`).  `C10_recovery` and `C10_status` carry the hypothesis
`Spec.recoverPanicsEarly cfg = false`; all other clauses (`C10_on`, `C10_off`, `C10_balanced`,
`C10_usable`) hold without it.
-/
import Restful.Lemmas.Panic
import Restful.Lemmas.StateShape
namespace Restful
namespace Props
open Serve Serve.Panic

/-- the scope of recovery in `Spec.c10Holds`, spelled out: routed entry points, and
    `HandleWithFilter` on a container with at least one filter -/
theorem C10_covered_iff (cfg : Cfg) (e : Entry) :
    covered cfg e = true ↔
      (e = .dispatch ∨ e = .serveDispatch ∨ ((e = .muxHandleF ∨ e = .serveHandleF) ∧ cfg.cfilters ≠ [])) := by
  cases e <;> simp

/-- `raw.escaped` in `c10Holds` — the same request with coding and recovery switched off — is the
    panic the request raises, as computed from routing, filter kinds and scripts alone -/
theorem C10_raised (E : ReEnv) (cfg : Cfg) (e : Entry) (sr : SReq) :
    (serve E { Spec.noCoding cfg with recover := false } e {} { sr with acceptEncoding := [] }).escaped =
      raised E cfg e sr := by
  rw [serve_escaped, raised_raw]
  rfl

/-- **C10.**  The model satisfies `c10Holds` for EVERY configuration, entry point (`Dispatch`,
    `ServeHTTP`, `Handle`, `HandleWithFilter`, the last two with or without `ServeHTTP` in front) and
    request, provided the custom recover handler (if recovery is on) does not itself panic before it
    wrote anything.  Clause by clause: recovery on and a covered entry point (routed, or
    `HandleWithFilter` with container filters) — nothing escapes, the ledger is balanced and the coded
    stream complete, the recover handler (custom or the library's) is called once iff the request
    raises a panic and the library's handler never runs besides a custom one, if nothing had been
    written before the panic the client sees the recover handler's status (500 by default), and after
    a panic the (decoded) body the client sees is what had been written before the panic followed by
    what the recover handler writes (custom handler: exactly its script's writes; the library's
    handler: something, the stack text is not comparable);
    otherwise (recovery off, or a plain handler called directly) — the panic reaches the caller
    unchanged and the ledger is balanced. -/
theorem C10_recovery (E : ReEnv) (cfg : Serve.Cfg) (e : Serve.Entry) (sr : Serve.SReq)
    (hrec : cfg.recover = true → Spec.recoverPanicsEarly cfg = false) :
    Spec.c10Holds E cfg e sr (Spec.obsOf (Serve.serve E cfg e {} sr)) = true := by
  change (if cfg.recover && covered cfg e then _ else _) = true
  rw [ledgerOK_serve]
  have hraw := C10_raised E cfg e sr
  have hesc := serve_escaped E cfg e {} sr
  have hn := serve_recoverCalls E cfg e {} sr
  cases hb : cfg.recover && covered cfg e with
  | false =>
    rw [hb] at hesc
    simp only [Bool.false_eq_true, if_false, Bool.and_true, beq_iff_eq]
    rw [hraw]
    exact hesc
  | true =>
      obtain ⟨hr, hco⟩ := Bool.and_eq_true_iff.mp hb
      rw [hb] at hesc hn
      simp only [if_true] at hesc hn
      simp only [if_true, Bool.and_true, Bool.and_eq_true]
      refine ⟨⟨⟨⟨?_, ?_⟩, ?_⟩, ?_⟩, ?_⟩
      · -- nothing escapes
        simp only [Spec.obsOf]
        rw [hesc]
        rfl
      · -- one recover call iff a panic is raised (the model counts every call in `recov`)
        simp only [Spec.obsOf, Nat.add_zero, beq_iff_eq]
        rw [hn, hraw]
      · -- `obsOf` attributes no call to the library's handler separately
        exact Bool.or_eq_true_iff.mpr (Or.inr rfl)
      · -- the status, if nothing had been written
        simp only [Bool.or_eq_true, beq_iff_eq, Bool.not_eq_true', Bool.and_eq_false_imp]
        rw [hraw]
        by_cases hp : (raised E cfg e sr).isSome = true
        · cases hst : (serve E (rawCfg cfg) e {} (plainReq sr)).rc.status with
          | some d => exact Or.inl (fun _ => rfl)
          | none =>
            right
            rw [serve_eq] at hst
            rw [serve_eq]
            exact (serveCore_recovered E cfg e sr hr hco hp).2 (hrec hr) hst
        · exact Or.inl (fun h => absurd h hp)
      · -- the body after a panic
        rw [hraw]
        cases hp : (raised E cfg e sr).isSome with
        | false => rfl
        | true =>
          simp only [Bool.not_true, Bool.false_or]
          apply c10Body_of_eq
          rw [obsOf_body, serve_eq, serve_eq]
          exact (serveCore_recovered E cfg e sr hr hco hp).1

/-- Recovery on, every covered entry point (`Dispatch`, `ServeHTTP` → `dispatch`, and
    `HandleWithFilter` on a container with filters, with or without `ServeHTTP` in front): no panic
    escapes, and the recover handler is called exactly once if the request raises a panic (in a
    container filter, service filter, route filter, the route function, the plain handler behind
    `HandleWithFilter`, an If-condition or the router), never otherwise. -/
theorem C10_on (E : ReEnv) (cfg : Cfg) (e : Entry) (w : World) (sr : SReq)
    (he : e = .dispatch ∨ e = .serveDispatch ∨ ((e = .muxHandleF ∨ e = .serveHandleF) ∧ cfg.cfilters ≠ []))
    (hr : cfg.recover = true) :
    (serve E cfg e w sr).escaped = none ∧
      (serve E cfg e w sr).recoverCalls = (if (raised E cfg e sr).isSome then 1 else 0) := by
  have hco : covered cfg e = true := (C10_covered_iff cfg e).mpr he
  rw [serve_escaped, serve_recoverCalls, hr, hco]
  exact ⟨rfl, rfl⟩

/-- Recovery on, every covered entry point: if the request raises a panic before anything was written
    (the run without coding and recovery ends with the status still open), the client sees the status
    of the recover handler — also through a compressing writer. -/
theorem C10_status (E : ReEnv) (cfg : Cfg) (e : Entry) (w : World) (sr : SReq)
    (he : e = .dispatch ∨ e = .serveDispatch ∨ ((e = .muxHandleF ∨ e = .serveHandleF) ∧ cfg.cfilters ≠ []))
    (hr : cfg.recover = true)
    (hrec : Spec.recoverPanicsEarly cfg = false)
    (hp : (raised E cfg e sr).isSome = true)
    (hnothing : (serve E { Spec.noCoding cfg with recover := false } e {} { sr with acceptEncoding := [] }).rc.status = none) :
    (Spec.obsOf (serve E cfg e w sr)).status = Spec.recoverStatus cfg := by
  have hco : covered cfg e = true := (C10_covered_iff cfg e).mpr he
  rw [serve_eq] at hnothing
  rw [serve_eq]
  exact (serveCore_recovered E cfg e sr hr hco hp).2 hrec hnothing

/-- … which is 500 for the default handler. -/
theorem C10_status_default (E : ReEnv) (cfg : Cfg) (e : Entry) (w : World) (sr : SReq)
    (he : e = .dispatch ∨ e = .serveDispatch ∨ ((e = .muxHandleF ∨ e = .serveHandleF) ∧ cfg.cfilters ≠ []))
    (hr : cfg.recover = true) (hd : cfg.recoverScript = none)
    (hp : (raised E cfg e sr).isSome = true)
    (hnothing : (serve E { Spec.noCoding cfg with recover := false } e {} { sr with acceptEncoding := [] }).rc.status = none) :
    (Spec.obsOf (serve E cfg e w sr)).status = 500 := by
  have hrec : Spec.recoverPanicsEarly cfg = false := by simp [Spec.recoverPanicsEarly, hd]
  rw [C10_status E cfg e w sr he hr hrec hp hnothing]
  simp [Spec.recoverStatus, hd]

/-- Recovery on, every covered entry point, a custom recover handler: after a panic — raised anywhere,
    before or after output was written — the body the client sees (decoded when a coding is on, and
    then from a complete stream) is exactly what had been written when the panic was raised (the body
    of the same request served without coding and without recovery) followed by the writes of the
    recover handler's script.  The handler was handed a writer that still works and, when the
    response is being encoded, goes through the coding. -/
theorem C10_body (E : ReEnv) (cfg : Cfg) (e : Entry) (w : World) (sr : SReq)
    (he : e = .dispatch ∨ e = .serveDispatch ∨ ((e = .muxHandleF ∨ e = .serveHandleF) ∧ cfg.cfilters ≠ []))
    (hr : cfg.recover = true) (sc : List Act) (hsc : cfg.recoverScript = some sc)
    (hp : (raised E cfg e sr).isSome = true) :
    (Spec.obsOf (serve E cfg e w sr)).body =
        (serve E { Spec.noCoding cfg with recover := false } e {} { sr with acceptEncoding := [] }).rc.body ++
          Spec.scriptWrites sc ∧
      (Spec.obsOf (serve E cfg e w sr)).complete = true := by
  have hco : covered cfg e = true := (C10_covered_iff cfg e).mpr he
  refine ⟨?_, ?_⟩
  · rw [obsOf_body, serve_eq, serve_eq, (serveCore_recovered E cfg e sr hr hco hp).1]
    simp only [recoverWrites, hsc]
  · have hc := serve_closed E cfg e w sr
    simp only [Spec.obsOf]
    cases h : (serve E cfg e w sr).rc.comp with
    | none => rfl
    | some c => exact hc c h

/-- … and with the library's own handler (`logStackOnRecover`): what had been written is still
    there and a non-empty text follows it (the stack trace; the model writes a placeholder). -/
theorem C10_body_default (E : ReEnv) (cfg : Cfg) (e : Entry) (w : World) (sr : SReq)
    (he : e = .dispatch ∨ e = .serveDispatch ∨ ((e = .muxHandleF ∨ e = .serveHandleF) ∧ cfg.cfilters ≠ []))
    (hr : cfg.recover = true) (hd : cfg.recoverScript = none)
    (hp : (raised E cfg e sr).isSome = true) :
    ∃ text, text ≠ [] ∧
      (Spec.obsOf (serve E cfg e w sr)).body =
        (serve E { Spec.noCoding cfg with recover := false } e {} { sr with acceptEncoding := [] }).rc.body ++ text := by
  have hco : covered cfg e = true := (C10_covered_iff cfg e).mpr he
  refine ⟨"<stack>".toList, stack_ne_nil, ?_⟩
  rw [obsOf_body, serve_eq, serve_eq, (serveCore_recovered E cfg e sr hr hco hp).1]
  simp only [recoverWrites, hd]

/-- Recovery off (the default): the panic the request raises reaches the caller unchanged — for
    every entry point. -/
theorem C10_off (E : ReEnv) (cfg : Cfg) (e : Entry) (w : World) (sr : SReq) (hr : cfg.recover = false) :
    (serve E cfg e w sr).escaped = raised E cfg e sr := by
  rw [serve_escaped, hr]
  rfl

/-- Outside the scope of recovery — a plain `http.Handler` registered with `Handle`, or with
    `HandleWithFilter` on a container without filters (container.go:393 then calls it directly) —
    the panic reaches the caller unchanged and the recover handler is not called, recovery on or
    not. -/
theorem C10_plain_propagates (E : ReEnv) (cfg : Cfg) (e : Entry) (w : World) (sr : SReq)
    (he : e = .muxHandle ∨ e = .serveHandle ∨ ((e = .muxHandleF ∨ e = .serveHandleF) ∧ cfg.cfilters = [])) :
    (serve E cfg e w sr).escaped = raised E cfg e sr ∧ (serve E cfg e w sr).recoverCalls = 0 := by
  have hco : covered cfg e = false := by
    rcases he with rfl | rfl | ⟨rfl | rfl, h⟩
    · rfl
    · rfl
    · simp [h]
    · simp [h]
  rw [serve_escaped, serve_recoverCalls, hco]
  simp

/-- Every entry point, every setting, panic or not: the compressor acquired for the request is
    released again, and a coded response has been closed (its stream is complete). -/
theorem C10_balanced (E : ReEnv) (cfg : Cfg) (e : Entry) (sr : SReq) :
    (serve E cfg e {} sr).world.acquired = (serve E cfg e {} sr).world.released ∧
      ∀ c, (serve E cfg e {} sr).rc.comp = some c → c.closed = true :=
  ⟨serve_balanced E cfg e {} sr rfl, serve_closed E cfg e {} sr⟩

/-- The same starting from any balanced ledger. -/
theorem C10_balanced_from (E : ReEnv) (cfg : Cfg) (e : Entry) (w : World) (sr : SReq)
    (hw : w.acquired = w.released) :
    (serve E cfg e w sr).world.acquired = (serve E cfg e w sr).world.released :=
  serve_balanced E cfg e w sr hw

/-- The container stays usable: in a sequence of requests on one container every request is answered
    (recorder, events, escaping panic, recover-handler calls) exactly as it is answered on a fresh
    container — whatever was served before it, panicking or not, recovered or not. -/
theorem C10_usable (E : ReEnv) (cfg : Cfg) (e : Entry) (w : World) (reqs : List SReq) :
    (serveSeq E cfg e w reqs).map answer = reqs.map (fun r => answer (serve E cfg e {} r)) := by
  induction reqs generalizing w with
  | nil => rfl
  | cons r rs ih =>
    simp only [serveSeq, List.map_cons, ih]
    rw [serve_answer]

/-- In particular the answer to a request does not depend on what was served before it (say, the
    same requests with or without the panicking ones among them). -/
theorem C10_usable_independent (E : ReEnv) (cfg : Cfg) (e : Entry) (w w' : World) (pre pre' : List SReq) (r : SReq) :
    ((serveSeq E cfg e w (pre ++ [r])).map answer).getLast? =
      ((serveSeq E cfg e w' (pre' ++ [r])).map answer).getLast? := by
  rw [C10_usable, C10_usable]
  simp

/-- … and the ledger stays balanced throughout: no compressor is lost. -/
theorem C10_usable_ledger (E : ReEnv) (cfg : Cfg) (e : Entry) (w : World) (reqs : List SReq)
    (hw : w.acquired = w.released) :
    ∀ r ∈ serveSeq E cfg e w reqs, r.world.acquired = r.world.released := by
  induction reqs generalizing w with
  | nil => intro r hr; cases hr
  | cons q qs ih =>
    intro r hr
    simp only [serveSeq, List.mem_cons] at hr
    rcases hr with rfl | hr
    · exact serve_balanced E cfg e w q hw
    · exact ih _ (serve_balanced E cfg e w q hw) r hr

/-- the configuration of finding F18 (repaired by a0e838d of /repo): recovery on, one container
    filter that panics, a handler registered with `HandleWithFilter`, reached through `ServeHTTP` or
    through the mux alone.  The panic is raised and does not leave the entry point: the recover
    handler runs exactly once, the client sees its 500, and `c10Holds` is true.  The same when the
    filter passes control on and the handler behind it panics. -/
theorem C10_F18_fixed :
    let E : ReEnv := ⟨fun _ _ => true, fun _ _ => true⟩
    let cfg : Cfg :=
      { routing := { router := .curly, services := [] }
        recover := true
        cfilters := [{ id := 1, pre := [.panic "p".toList], kind := .pass, post := [] }] }
    let cfgH : Cfg :=
      { routing := { router := .curly, services := [] }
        recover := true
        cfilters := [{ id := 1, pre := [], kind := .pass, post := [] }]
        plainScript := [.panic "h".toList] }
    let sr : SReq := { req := { method := "GET".toList, path := "/x".toList } }
    (raised E cfg .serveHandleF sr = some "p".toList ∧
      (serve E cfg .serveHandleF {} sr).escaped = none ∧
      (serve E cfg .serveHandleF {} sr).recoverCalls = 1 ∧
      (Spec.obsOf (serve E cfg .serveHandleF {} sr)).status = 500 ∧
      Spec.c10Holds E cfg .serveHandleF sr (Spec.obsOf (serve E cfg .serveHandleF {} sr)) = true) ∧
    ((serve E cfg .muxHandleF {} sr).escaped = none ∧
      (serve E cfg .muxHandleF {} sr).recoverCalls = 1 ∧
      Spec.c10Holds E cfg .muxHandleF sr (Spec.obsOf (serve E cfg .muxHandleF {} sr)) = true) ∧
    (raised E cfgH .serveHandleF sr = some "h".toList ∧
      (serve E cfgH .serveHandleF {} sr).escaped = none ∧
      (serve E cfgH .serveHandleF {} sr).recoverCalls = 1 ∧
      (serve E cfgH .serveHandleF {} sr).log.map (fun ev => (ev.stage, ev.post)) =
        [(.cfilter 1, false), (.plain 0, false)] ∧
      Spec.c10Holds E cfgH .serveHandleF sr (Spec.obsOf (serve E cfgH .serveHandleF {} sr)) = true) := by
  decide +kernel

/-- … and with recovery off (`DoNotRecover(true)`, the library's default) the same panic propagates
    to the caller of `ServeHTTP` unchanged, no recover handler runs, and `c10Holds` holds:
    there is nothing to recover.  Likewise, recovery on, for `HandleWithFilter` on a container
    without filters (the handler is called directly: outside the scope of recovery). -/
theorem C10_F18_recovery_off :
    let E : ReEnv := ⟨fun _ _ => true, fun _ _ => true⟩
    let cfg : Cfg :=
      { routing := { router := .curly, services := [] }
        recover := false
        cfilters := [{ id := 1, pre := [.panic "p".toList], kind := .pass, post := [] }] }
    let cfg0 : Cfg :=
      { routing := { router := .curly, services := [] }
        recover := true
        plainScript := [.panic "h".toList] }
    let sr : SReq := { req := { method := "GET".toList, path := "/x".toList } }
    ((serve E cfg .serveHandleF {} sr).escaped = some "p".toList ∧
      (serve E cfg .serveHandleF {} sr).recoverCalls = 0 ∧
      Spec.c10Holds E cfg .serveHandleF sr (Spec.obsOf (serve E cfg .serveHandleF {} sr)) = true) ∧
    ((serve E cfg0 .serveHandleF {} sr).escaped = some "h".toList ∧
      (serve E cfg0 .serveHandleF {} sr).recoverCalls = 0 ∧
      Spec.c10Holds E cfg0 .serveHandleF sr (Spec.obsOf (serve E cfg0 .serveHandleF {} sr)) = true) := by
  decide +kernel

/-- Why `C10_recovery` asks that the recover handler does not itself panic before writing: the model
    drops a panic of the recover handler, `recoverStatus` reads the `writeHeader 503` behind it. -/
theorem C10_recover_handler_panics_witness :
    let E : ReEnv := ⟨fun _ _ => true, fun _ _ => true⟩
    let cfg : Cfg :=
      { routing := { router := .curly, services := [] }
        recover := true
        recoverScript := some [.panic "again".toList, .writeHeader 503] }
    let sr : SReq := { req := { method := "GET".toList, path := "/x".toList }, condPanic := some "p".toList }
    Spec.recoverPanicsEarly cfg = true ∧
      (Spec.obsOf (serve E cfg .dispatch {} sr)).status = 200 ∧ Spec.recoverStatus cfg = 503 ∧
      Spec.c10Holds E cfg .dispatch sr (Spec.obsOf (serve E cfg .dispatch {} sr)) = false := by
  decide +kernel

/-- non-vacuity: recovery and encoding on, gzip asked for, the route function writes one byte and
    then panics, custom recover handler: nothing escapes, one recover call, the coded stream is
    closed and carries both writes, the status is the 200 locked by the first byte -/
example :
    let E : ReEnv := ⟨fun _ _ => true, fun _ _ => true⟩
    let cfg : Cfg :=
      { routing := { router := .curly, services := [{ id := 0, root := "/a".toList, routes :=
          [{ id := 7, method := "GET".toList, relPath := [], consumes := [], produces := [], conds := [], noct := [] }] }] }
        routes := [{ id := 7, script := [.write "x".toList, .panic "boom".toList] }]
        encoding := true
        recover := true
        recoverScript := some [.writeHeader 503, .write "r".toList] }
    let sr : SReq := { req := { method := "GET".toList, path := "/a".toList }, acceptEncoding := "gzip".toList }
    let o := Spec.obsOf (serve E cfg .dispatch {} sr)
    raised E cfg .dispatch sr = some "boom".toList ∧
      o.escaped = none ∧ o.recov = 1 ∧ o.coded = true ∧ o.complete = true ∧ o.body = "xr".toList ∧
      o.status = 200 ∧ o.acq = 1 ∧ o.rel = 1 ∧
      Spec.recoverPanicsEarly cfg = false ∧
      Spec.c10Holds E cfg .dispatch sr o = true := by
  decide +kernel

/-- non-vacuity: the same with a route function that panics before writing: the recover handler's
    503 is the status, its byte the whole (coded, complete) body -/
example :
    let E : ReEnv := ⟨fun _ _ => true, fun _ _ => true⟩
    let cfg : Cfg :=
      { routing := { router := .curly, services := [{ id := 0, root := "/a".toList, routes :=
          [{ id := 7, method := "GET".toList, relPath := [], consumes := [], produces := [], conds := [], noct := [] }] }] }
        routes := [{ id := 7, script := [.panic "boom".toList, .write "x".toList] }]
        encoding := true
        recover := true
        recoverScript := some [.writeHeader 503, .write "r".toList] }
    let sr : SReq := { req := { method := "GET".toList, path := "/a".toList }, acceptEncoding := "gzip".toList }
    let o := Spec.obsOf (serve E cfg .dispatch {} sr)
    o.escaped = none ∧ o.recov = 1 ∧ o.coded = true ∧ o.complete = true ∧ o.body = "r".toList ∧
      o.status = 503 ∧ Spec.recoverStatus cfg = 503 ∧ o.acq = 1 ∧ o.rel = 1 ∧
      Spec.c10Holds E cfg .dispatch sr o = true := by
  decide +kernel

/-- non-vacuity on the `HandleWithFilter` chain (finding F18): through `ServeHTTP`, recovery and
    encoding on, gzip asked for, custom recover handler.  The first container filter writes a byte
    and passes on, the second panics: the handler does not run, the first filter does not come back,
    nothing escapes, one recover call, the coded stream is closed and carries the filter's byte and
    the recover handler's, the status is the 200 locked by the first byte, the ledger is balanced.
    With a first filter that writes nothing the recover handler's 503 is the status. -/
example :
    let E : ReEnv := ⟨fun _ _ => true, fun _ _ => true⟩
    let cfg : Cfg :=
      { routing := { router := .curly, services := [] }
        cfilters := [{ id := 1, pre := [.write "a".toList], kind := .pass, post := [.write "z".toList] },
                     { id := 2, pre := [.panic "boom".toList], kind := .pass, post := [] }]
        plainScript := [.write "h".toList]
        encoding := true
        recover := true
        recoverScript := some [.writeHeader 503, .write "r".toList] }
    let cfg' : Cfg := { cfg with cfilters := [{ id := 1, pre := [], kind := .pass, post := [] },
                                              { id := 2, pre := [.panic "boom".toList], kind := .pass, post := [] }] }
    let sr : SReq := { req := { method := "GET".toList, path := "/x".toList }, acceptEncoding := "gzip".toList }
    let o := Spec.obsOf (serve E cfg .serveHandleF {} sr)
    let o' := Spec.obsOf (serve E cfg' .serveHandleF {} sr)
    raised E cfg .serveHandleF sr = some "boom".toList ∧
      o.escaped = none ∧ o.recov = 1 ∧ o.coded = true ∧ o.complete = true ∧ o.body = "ar".toList ∧
      o.status = 200 ∧ o.acq = 1 ∧ o.rel = 1 ∧
      o.log.map (fun ev => (ev.stage, ev.post)) = [(.cfilter 1, false), (.cfilter 2, false), (.recover, false)] ∧
      Spec.recoverPanicsEarly cfg = false ∧
      Spec.c10Holds E cfg .serveHandleF sr o = true ∧
      o'.escaped = none ∧ o'.recov = 1 ∧ o'.body = "r".toList ∧ o'.status = 503 ∧ o'.complete = true ∧
      Spec.c10Holds E cfg' .serveHandleF sr o' = true := by
  decide +kernel

/-! ### non-vacuity (audit): every theorem with hypotheses instantiated on one configuration with
    filters at all three levels; `Spec.c10Holds` falsified by wrong observations -/
namespace C10Example

def E0 : ReEnv := ⟨fun _ _ => true, fun _ _ => true⟩
def fl (id : Nat) (kind : FKind) (pre : List Act := []) (post : List Act := []) : Filter :=
  { id := id, pre := pre, kind := kind, post := post }
def routing : Config := { router := .curly, services := [{ id := 0, root := "/a".toList, routes :=
  [{ id := 7, method := "GET".toList, relPath := "/early".toList, consumes := [], produces := [], conds := [], noct := [] },
   { id := 8, method := "GET".toList, relPath := "/late".toList, consumes := [], produces := [], conds := [], noct := [] },
   { id := 9, method := "GET".toList, relPath := "/ok".toList, consumes := [], produces := [], conds := [], noct := [] }] }] }

/-- recovery and encoding on, custom recover handler (503 + one byte); two container filters, a
    service filter; route 7: its route filter panics BEFORE passing control on, nothing written yet;
    route 8: the route function writes a byte, then its route filter panics AFTER control came back;
    route 9: no panic -/
def cfg : Cfg :=
  { routing := routing
    cfilters := [fl 1 .pass, fl 2 .pass]
    svcs := [{ id := 0, filters := [fl 3 .pass] }]
    routes := [{ id := 7, filters := [fl 4 .pass [.panic "early".toList]], script := [.write "x".toList] },
               { id := 8, filters := [fl 5 .pass [] [.panic "late".toList]], script := [.write "y".toList] },
               { id := 9, filters := [fl 6 .pass], script := [.write "z".toList] }]
    encoding := true
    recover := true
    recoverScript := some [.writeHeader 503, .write "r".toList] }
/-- the same with the default recover handler / with recovery off -/
def cfgDefault : Cfg := { cfg with recoverScript := none }
def cfgOff : Cfg := { cfg with recover := false }

def rq (p : String) : SReq := { req := { method := "GET".toList, path := p.toList }, acceptEncoding := "gzip".toList }
def early : SReq := rq "/a/early"
def late : SReq := rq "/a/late"
def ok : SReq := rq "/a/ok"
def oE : Spec.Obs := Spec.obsOf (serve E0 cfg .dispatch {} early)
def oL : Spec.Obs := Spec.obsOf (serve E0 cfg .dispatch {} late)
def oK : Spec.Obs := Spec.obsOf (serve E0 cfg .dispatch {} ok)
def oOff : Spec.Obs := Spec.obsOf (serve E0 cfgOff .dispatch {} early)

/-- what the model does: the early panic gets the recover handler's 503 and its byte, coded and
    complete; the late panic keeps the 200 locked by the route function's byte; no panic, no recover
    call; with recovery off the early panic reaches the caller -/
example :
    raised E0 cfg .dispatch early = some "early".toList ∧ raised E0 cfg .dispatch late = some "late".toList ∧
    raised E0 cfg .dispatch ok = none ∧ Spec.recoverPanicsEarly cfg = false ∧
    oE.status = 503 ∧ oE.body = "r".toList ∧ oE.recov = 1 ∧ oE.coded = true ∧ oE.complete = true ∧ oE.acq = 1 ∧ oE.rel = 1 ∧
    oE.escaped = none ∧
    oL.status = 200 ∧ oL.body = "yr".toList ∧ oL.recov = 1 ∧ oL.coded = true ∧ oL.complete = true ∧ oL.acq = 1 ∧ oL.rel = 1 ∧
    oL.escaped = none ∧
    oK.status = 200 ∧ oK.body = "z".toList ∧ oK.recov = 0 ∧ oK.coded = true ∧ oK.complete = true ∧ oK.acq = 1 ∧ oK.rel = 1 ∧
    oK.escaped = none ∧
    oOff.escaped = some "early".toList ∧ oOff.recov = 0 ∧ oOff.acq = 1 ∧ oOff.rel = 1 := by
  decide +kernel

/-- `C10_recovery` (its hypothesis is an implication whose premise holds here) -/
example : Spec.c10Holds E0 cfg .dispatch early oE = true := C10_recovery E0 cfg .dispatch early (fun _ => by decide +kernel)
example : Spec.c10Holds E0 cfg .dispatch late oL = true := C10_recovery E0 cfg .dispatch late (fun _ => by decide +kernel)
/-- `C10_on`, `C10_status`, `C10_status_default` -/
example := C10_on E0 cfg .serveDispatch {} late (.inr (.inl rfl)) rfl
example := C10_on E0 cfg .serveHandleF {} late (.inr (.inr ⟨.inr rfl, by decide +kernel⟩)) rfl
example : (Spec.obsOf (serve E0 cfg .dispatch ⟨4, 4⟩ early)).status = Spec.recoverStatus cfg :=
  C10_status E0 cfg .dispatch ⟨4, 4⟩ early (.inl rfl) rfl (by decide +kernel) (by decide +kernel) (by decide +kernel)
example : (Spec.obsOf (serve E0 cfgDefault .dispatch {} early)).status = 500 :=
  C10_status_default E0 cfgDefault .dispatch {} early (.inl rfl) rfl rfl (by decide +kernel) (by decide +kernel)
/-- `C10_off`, `C10_plain_propagates` -/
example := C10_off E0 cfgOff .dispatch {} early rfl
example := C10_plain_propagates E0 { cfg with plainScript := [.panic "h".toList] } .muxHandle {} early (.inl rfl)
/-- `C10_balanced_from`, `C10_usable_ledger` (a balanced, used ledger; panicking and normal requests mixed) -/
example := C10_balanced_from E0 cfg .dispatch ⟨4, 4⟩ late rfl
example := C10_usable_ledger E0 cfg .dispatch ⟨4, 4⟩ [early, late, ok, early] rfl
example := C10_usable E0 cfg .dispatch ⟨4, 4⟩ [early, late, ok, early]

/-- `Spec.c10Holds` is not trivially true.  Recovery on, panic before anything was written: falsified
    by a panic that escapes; two recover calls; none; the status 200; the default 500 where the custom
    handler says 503; a compressor not released; a ledger anomaly; an incomplete coded stream.  No
    panic: falsified by a recover call.  Recovery off: falsified by a swallowed panic, another panic
    value, a compressor lost. -/
example :
    Spec.c10Holds E0 cfg .dispatch early { oE with escaped := some "early".toList } = false ∧
    Spec.c10Holds E0 cfg .dispatch early { oE with recov := 2 } = false ∧
    Spec.c10Holds E0 cfg .dispatch early { oE with recov := 0 } = false ∧
    Spec.c10Holds E0 cfg .dispatch early { oE with status := 200 } = false ∧
    Spec.c10Holds E0 cfg .dispatch early { oE with status := 500 } = false ∧
    Spec.c10Holds E0 cfg .dispatch early { oE with rel := 0 } = false ∧
    Spec.c10Holds E0 cfg .dispatch early { oE with dbl := 1 } = false ∧
    Spec.c10Holds E0 cfg .dispatch early { oE with complete := false } = false ∧
    Spec.c10Holds E0 cfg .dispatch ok oK = true ∧
    Spec.c10Holds E0 cfg .dispatch ok { oK with recov := 1 } = false ∧
    Spec.c10Holds E0 cfgOff .dispatch early oOff = true ∧
    Spec.c10Holds E0 cfgOff .dispatch early { oOff with escaped := none } = false ∧
    Spec.c10Holds E0 cfgOff .dispatch early { oOff with escaped := some "other".toList } = false ∧
    Spec.c10Holds E0 cfgOff .dispatch early { oOff with rel := 0 } = false := by
  decide +kernel

/-- `C10_body`, `C10_body_default` -/
example := C10_body E0 cfg .dispatch ⟨4, 4⟩ late (.inl rfl) rfl _ rfl (by decide +kernel)
example := C10_body E0 cfg .serveHandleF {} late (.inr (.inr ⟨.inr rfl, by decide +kernel⟩)) rfl _ rfl
example := C10_body_default E0 cfgDefault .dispatch {} late (.inl rfl) rfl rfl (by decide +kernel)

/-- the same without any coding; the default handler's observation as the model makes it (`oD`) and
    as the harness makes it (`oDh`: the custom-handler counter stays 0, one log entry of the library's
    handler, the body ends with a stack text of the library's, not with the model's placeholder) -/
def cfgPlain : Cfg := { cfg with encoding := false }
def oLp : Spec.Obs := Spec.obsOf (serve E0 cfgPlain .dispatch {} late)
def oD : Spec.Obs := Spec.obsOf (serve E0 cfgDefault .dispatch {} late)
def oDh : Spec.Obs := { oD with recov := 0, recovDefault := 1, body := "yrecover from panic situation: - late".toList }
/-- a container filter panics after the library's own service-error writer answered a request no
    route matches (`After`), or before it passed control on (`Before`) -/
def cfgErrAfter : Cfg := { cfg with cfilters := [fl 1 .pass [] [.panic "after".toList]] }
def cfgErrBefore : Cfg := { cfg with cfilters := [fl 1 .pass [.panic "before".toList] []] }
def nowhere : SReq := rq "/nowhere"
def oEA : Spec.Obs := Spec.obsOf (serve E0 cfgErrAfter .dispatch {} nowhere)
def oEB : Spec.Obs := Spec.obsOf (serve E0 cfgErrBefore .dispatch {} nowhere)

example :
    oLp.coded = false ∧ oLp.body = "yr".toList ∧ Spec.c10Holds E0 cfgPlain .dispatch late oLp = true ∧
    oD.body = "y<stack>".toList ∧ oD.recov = 1 ∧ oD.recovDefault = 0 ∧ oD.status = 200 ∧
    Spec.c10Holds E0 cfgDefault .dispatch late oD = true ∧
    Spec.c10Holds E0 cfgDefault .dispatch late oDh = true ∧
    oEA.status = 404 ∧ oEA.recov = 1 ∧ oEB.status = 503 ∧ oEB.body = "r".toList ∧
    Spec.c10Holds E0 cfgErrAfter .dispatch nowhere oEA = true ∧
    Spec.c10Holds E0 cfgErrBefore .dispatch nowhere oEB = true := by
  decide +kernel

/-- **The body clause is not trivially true.**
    (i) A recovered panic whose body lacks the recover handler's text (no coding; with a coding; when
    nothing had been written before), or has it in front of what had been written, or has it twice.
    (ii) A coded response whose recover text was written outside the coding (cf. seeded/C10-5, the
    recover handler is handed the raw ResponseWriter): the coded stream, decoded, holds only what was
    written before the panic — with a strict decoder the observation is moreover incomplete (the
    recover text sits in front of the stream), which `c10Holds` rejects as well.
    The library's handler: nothing follows what had been written; what had been written is lost.
    The library's own error text is excused narrowly: only when the error writer ran before the
    panic, and then the recover handler's text must still end the body. -/
example :
    Spec.c10Holds E0 cfgPlain .dispatch late { oLp with body := "y".toList } = false ∧
    Spec.c10Holds E0 cfgPlain .dispatch late { oLp with body := "ry".toList } = false ∧
    Spec.c10Holds E0 cfgPlain .dispatch late { oLp with body := "yrr".toList } = false ∧
    Spec.c10Holds E0 cfg .dispatch early { oE with body := [] } = false ∧
    oL.coded = true ∧ oL.ce = "gzip".toList ∧ oL.complete = true ∧
    Spec.c10Holds E0 cfg .dispatch late { oL with body := "y".toList } = false ∧
    Spec.c10Holds E0 cfg .dispatch late { oL with body := [], complete := false } = false ∧
    Spec.c10Holds E0 cfgDefault .dispatch late { oDh with body := "y".toList } = false ∧
    Spec.c10Holds E0 cfgDefault .dispatch late { oDh with body := "recover from panic situation".toList } = false ∧
    Spec.c10Holds E0 cfgErrAfter .dispatch nowhere { oEA with body := "some other 404 textr".toList } = true ∧
    Spec.c10Holds E0 cfgErrAfter .dispatch nowhere { oEA with body := "some other 404 text".toList } = false ∧
    Spec.c10Holds E0 cfgErrBefore .dispatch nowhere { oEB with body := "some 404 textr".toList } = false := by
  decide +kernel

/-- **The recover-call count with the library's handler is not trivially true**: no log entry of
    `logStackOnRecover` although a panic was raised; two; one although no panic was raised; with a
    custom handler installed: the library's handler ran instead of it, or besides it. -/
example :
    Spec.c10Holds E0 cfgDefault .dispatch late { oDh with recovDefault := 0 } = false ∧
    Spec.c10Holds E0 cfgDefault .dispatch late { oDh with recovDefault := 2 } = false ∧
    Spec.c10Holds E0 cfgDefault .dispatch ok (Spec.obsOf (serve E0 cfgDefault .dispatch {} ok)) = true ∧
    Spec.c10Holds E0 cfgDefault .dispatch ok { Spec.obsOf (serve E0 cfgDefault .dispatch {} ok) with recovDefault := 1 } = false ∧
    Spec.c10Holds E0 cfg .dispatch late { oL with recov := 0, recovDefault := 1 } = false ∧
    Spec.c10Holds E0 cfg .dispatch late { oL with recovDefault := 1 } = false := by
  decide +kernel

end C10Example

/-! The frame condition (Lemmas/StateShape.lean): the code has exactly the state this property's model
    accounts for — no further package-level variable, struct type or field; constants as modelled. -/
-- also: Restful.StateShape.globals_shape
-- also: Restful.StateShape.consts_shape
-- also: Restful.StateShape.container_shape

end Props
end Restful
