/-
C17: Allow headers tell the truth about which methods are routable.
-/
import Restful.Model.Options
import Restful.Model.Route
namespace Restful
namespace Spec

/-- the status a request gets (200 stands for "a route function runs") -/
def statusOf : Outcome → Nat
  | .selected _ _ _ => 200
  | .error c _ => c
  | .panic _ => 500

/-- the method is routable at the URL: not answered 404 or 405 -/
def routable (E : ReEnv) (cfg : Config) (req : Req) (m : Str) : Bool :=
  let s := statusOf (route E cfg { req with method := m })
  s != 404 && s != 405

def sameSet (a b : List Str) : Bool := a.all (b.contains ·) && b.all (a.contains ·)

/-- what the harness observed at one URL: per probed method its status and (for 405) the Allow
    list; the Allow and Access-Control-Allow-Methods lists of the OPTIONS filter; whether a route
    function ran for the OPTIONS request with the filter installed; and whether every other method
    was answered with the filter installed exactly as without it -/
structure AllowObs where
  probes : List (Str × Nat × Option (List Str))   -- method, status, Allow of a 405
  optAllow : List Str
  optACAM : List Str
  optHandlerRan : Bool
  othersUntouched : Bool
  deriving Repr, DecidableEq

/-- C17 on an observation (all sets are over the probed methods plus whatever the headers list) -/
def c17Holds (o : AllowObs) : Bool :=
  let routableSet := (o.probes.filter (fun p => p.2.1 != 404 && p.2.1 != 405)).map (·.1)
  let probed := o.probes.map (·.1)
  -- every 405 lists exactly the routable methods (restricted to the probed ones: a header may name
  -- a method nobody probed only if … it must not: it would claim routability)
  o.probes.all (fun p => match p.2.2 with
    | some al => p.2.1 != 405 || (sameSet (al.filter (probed.contains ·)) routableSet && al.all (probed.contains ·))
    | none => p.2.1 != 405) &&
  sameSet (o.optAllow.filter (probed.contains ·)) routableSet && o.optAllow.all (probed.contains ·) &&
  sameSet o.optACAM o.optAllow && !o.optHandlerRan && o.othersUntouched

/-! ### OPTIONS probes that carry Access-Control-Request-Method (browser preflights)

"The set listed by the OPTIONS filter (Allow and Access-Control-Allow-Methods) equals the set of
methods … not answered 404 or 405" is a statement about EVERY OPTIONS request the filter answers, with
whatever headers: a preflight names the method of the call to come in Access-Control-Request-Method,
and the filter's two lists must still be the routable methods of the URL (not the requested one, not
nothing).  The harness sends such probes to the container with the filter (allow.go `observe`: one
per value — a routable method, a method that is not, lower case, junk, empty) and records each answer. -/

/-- one OPTIONS probe with an Access-Control-Request-Method header through the OPTIONS filter: the
    header's value, the Allow and Access-Control-Allow-Methods lists of the answer, whether a route
    function ran -/
structure PreflightObs where
  acrm : Str
  allow : List Str
  acam : List Str
  handlerRan : Bool
  deriving Repr, DecidableEq

/-- the clause of `c17Holds` about the filter's answer, for one preflight probe: both lists are the
    routable methods of the URL (the probes of `o`), no route function ran -/
def pfHolds (o : AllowObs) (p : PreflightObs) : Bool :=
  let routableSet := (o.probes.filter (fun p => p.2.1 != 404 && p.2.1 != 405)).map (·.1)
  let probed := o.probes.map (·.1)
  sameSet (p.allow.filter (probed.contains ·)) routableSet && p.allow.all (probed.contains ·) &&
  sameSet p.acam p.allow && !p.handlerRan

/-- C17 on an observation together with its preflight probes (what the driver evaluates) -/
def c17HoldsAll (o : AllowObs) (pfs : List PreflightObs) : Bool := c17Holds o && pfs.all (pfHolds o)

/-! ### the observation the MODEL produces

What the harness (harness/internal/allow/allow.go `observe`) would record if the implementation WERE
the model: the same record `AllowObs`, built from `route` (the probes) and `Options.optionsOut` (the
container with the OPTIONS filter installed).  `Props/C17.lean` proves `c17Holds` of it
(`C17_holds_jsr_partial`, `C17_holds_curly_partial`). -/

/-- the Allow list the harness keeps of an outcome: only that of a 405 (`probe`: `o.Code == 405 && o.Allow != nil`) -/
def allowOf : Outcome → Option (List Str)
  | .error c a => if c = 405 then a else none
  | _ => none

/-- one probe (allow.go `probe`): the method, `statusOf` of what dispatch did with it (200 = a route
    function ran; a panic is recorded as 500, the answer of the recover handler), the Allow list of a
    405.  These are the `(p m status allow)` items the driver prints for an `(allow …)` line. -/
def probeOf (E : ReEnv) (cfg : Config) (req : Req) (m : Str) : Str × Nat × Option (List Str) :=
  let out := route E cfg { req with method := m }
  (m, statusOf out, allowOf out)

/-- what the OPTIONS filter reads of the probe with method `m` -/
def optReqOf (req : Req) (m : Str) : Options.OptReq := { method := m, path := req.path }

/-- `strings.TrimSpace` on an ASCII value -/
def isWS (c : Char) : Bool := c == ' ' || c == '\t' || c == '\n' || c == '\r' || c.toNat == 11 || c.toNat == 12
def trimWS (s : Str) : Str := ((s.dropWhile isWS).reverse.dropWhile isWS).reverse

/-- allow.go `splitList(strings.Join(rec.Header()[name], ","))`: the values of the header joined
    with commas, split at commas, trimmed, empty elements dropped -/
def headerList (name : Str) (hs : List (Str × Str)) : List Str :=
  ((Str.split ',' (Str.join [','] ((hs.filter (fun h => h.1 == name)).map (·.2)))).map trimWS).filter (fun p => !p.isEmpty)

/-- the container with the OPTIONS filter, asked with method `m`: `none` = no such container (a
    template does not compile), else what the filter added and whether it passed the request on -/
def filtered (E : ReEnv) (cfg : Config) (req : Req) (m : Str) : Option Options.Out :=
  Options.optionsOut E cfg (optReqOf req m)

/-- the model's observation at the URL of `req` for the probed `methods` (allow.go `observe`).
    * `probes`: `probeOf` for every method, on the container WITHOUT the filter;
    * `optAllow`, `optACAM`: filled when OPTIONS is among the probed methods — the method list the
      filter puts into Allow / Access-Control-Allow-Methods (`Options.optionsOut` joins
      `computeAllowedMethods` with commas: `C17_filter_options`; `headerList` splits the header again:
      `Allow.modelObsWire_eq`);
    * `optHandlerRan`: with the filter installed a route function runs for OPTIONS only if the filter
      passes the request on AND dispatch then selects a route;
    * `othersUntouched`: for every other probed method the filter adds nothing and passes on, so the
      answer is the one of the container without the filter. -/
def modelObs (E : ReEnv) (cfg : Config) (req : Req) (methods : List Str) : AllowObs :=
  let lists := if methods.contains Cors.sOPTIONS then (Cors.computeAllowedMethods E cfg.services req.path).getD [] else []
  { probes := methods.map (probeOf E cfg req)
    optAllow := lists
    optACAM := lists
    optHandlerRan := methods.contains Cors.sOPTIONS &&
      (match filtered E cfg req Cors.sOPTIONS with
       | some out => out.passOn && statusOf (route E cfg { req with method := Cors.sOPTIONS }) == 200
       | none => false)
    othersUntouched := (methods.filter (· != Cors.sOPTIONS)).all (fun m => filtered E cfg req m == some ⟨[], true⟩) }

/-- the same observation with the two lists DECODED from the headers of the filter's answer, the way
    the harness decodes them from the wire -/
def modelObsWire (E : ReEnv) (cfg : Config) (req : Req) (methods : List Str) : AllowObs :=
  let added := if methods.contains Cors.sOPTIONS then
      (match filtered E cfg req Cors.sOPTIONS with | some out => out.added | none => []) else []
  { modelObs E cfg req methods with
    optAllow := headerList "Allow".toList added
    optACAM := headerList Cors.hAllowMethods added }

/-- what the OPTIONS filter reads of a preflight probe: `optReqOf` plus the requested method -/
def optReqPf (req : Req) (acrm : Str) : Options.OptReq := { method := Cors.sOPTIONS, path := req.path, acrm := acrm }

/-- the model's answer to one preflight probe (allow.go `observe`, the `Preflights` loop), built like
    `modelObs`: the list `Options.optionsOut` joins into Allow and Access-Control-Allow-Methods for a
    request that carries Access-Control-Request-Method = `acrm` (`Allow.filtered_preflight`: the same
    list whatever `acrm` is — options_filter.go never reads the header); a route function runs only if
    the filter passes the request on and dispatch then selects a route -/
def modelPreflight (E : ReEnv) (cfg : Config) (req : Req) (acrm : Str) : PreflightObs :=
  let lists := (Cors.computeAllowedMethods E cfg.services req.path).getD []
  { acrm := acrm, allow := lists, acam := lists
    handlerRan := match Options.optionsOut E cfg (optReqPf req acrm) with
      | some out => out.passOn && statusOf (route E cfg { req with method := Cors.sOPTIONS }) == 200
      | none => false }

/-- a method name that survives the comma-separated header: a non-empty run of visible ASCII
    characters other than the comma (every HTTP token is one) -/
def methodToken (m : Str) : Bool := !m.isEmpty && m.all (fun c => decide (33 ≤ c.toNat ∧ c.toNat < 127) && c != ',')

end Spec
end Restful
